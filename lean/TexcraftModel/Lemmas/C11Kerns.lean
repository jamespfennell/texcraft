/-
C11 — `unpack_kerns` / `pack_kerns`: what `unpack_kerns` does with one word, then with a whole
list; the facts about `unpackKerns` are read off that.
-/
import TexcraftModel.Model.C11

namespace C11

theorem indexOf_eq (k : Int) : ∀ ks : List Int, indexOf k ks = ks.idxOf? k
  | [] => rfl
  | x :: xs => by
    rw [indexOf, indexOf_eq k xs, List.idxOf?_cons]
    simp

theorem indexOf_get {k : Int} {ks : List Int} {idx : Nat} (h : indexOf k ks = some idx) :
    ks[idx]? = some k := by
  rw [indexOf_eq, List.idxOf?, List.findIdx?_eq_some_iff_getElem] at h
  obtain ⟨hlt, hk, _⟩ := h
  rw [List.getElem?_eq_getElem hlt, eq_of_beq hk]

theorem indexOf_lt {k : Int} {ks : List Int} {idx : Nat} (h : indexOf k ks = some idx) :
    idx < ks.length :=
  (List.getElem?_eq_some_iff.mp (indexOf_get h)).1

theorem indexOf_eq_none_iff {k : Int} {ks : List Int} : indexOf k ks = none ↔ k ∉ ks := by
  rw [indexOf_eq, List.idxOf?_eq_none_iff]

theorem unpackKernsAux_nil (ks : List Int) : unpackKernsAux ks [] = ([], ks) := rfl

/-- `∀ tail`: the words that follow extend the array further, and the operation written now must
still resolve to `i.op` then. -/
theorem unpackKernsAux_cons (ks : List Int) (i : Instr) (rest : List Instr) :
    ∃ (op' : Op) (more : List Int),
      unpackKernsAux ks (i :: rest) =
        ({ i with op := op' } :: (unpackKernsAux (ks ++ more) rest).1, (unpackKernsAux (ks ++ more) rest).2) ∧
      (∀ k, op' ≠ .kern k) ∧ (ks.Nodup → (ks ++ more).Nodup) ∧
      (i.op.isKernAt = false → ∀ tail, resolve (ks ++ more ++ tail) op' = i.op) := by
  obtain ⟨n, r, op⟩ := i
  cases op with
  | kern k =>
    cases hidx : indexOf k ks with
    | some idx =>
      refine ⟨.kernAt idx, [], by simp [unpackKernsAux, hidx], nofun, by simp, fun _ tail => ?_⟩
      simp [resolve, List.getElem?_append_left (indexOf_lt hidx), indexOf_get hidx]
    | none =>
      refine ⟨.kernAt ks.length, [k], by simp [unpackKernsAux, hidx], nofun, fun hks => ?_,
        fun _ tail => by simp [resolve]⟩
      rw [List.nodup_append]
      refine ⟨hks, by simp, fun a ha b hb e => ?_⟩
      rw [List.mem_singleton.mp hb] at e
      exact indexOf_eq_none_iff.mp hidx (e ▸ ha)
  | kernAt j => exact ⟨.kernAt j, [], by simp [unpackKernsAux], nofun, by simp, fun h => by simp [Op.isKernAt] at h⟩
  | lig c q => exact ⟨.lig c q, [], by simp [unpackKernsAux], nofun, by simp, fun _ _ => rfl⟩
  | redirect u f => exact ⟨.redirect u f, [], by simp [unpackKernsAux], nofun, by simp, fun _ _ => rfl⟩

theorem unpackKernsAux_spec (ks : List Int) (l : List Instr) : ∃ more,
    (unpackKernsAux ks l).2 = ks ++ more ∧ (ks.Nodup → (ks ++ more).Nodup) ∧
    (∀ i ∈ (unpackKernsAux ks l).1, ∀ k, i.op ≠ Op.kern k) ∧
    (unpackKernsAux ks l).1.map (fun i => (i.next, i.right)) = l.map (fun i => (i.next, i.right)) ∧
    (noKernAt l = true → ∀ tail, packKerns (ks ++ more ++ tail) (unpackKernsAux ks l).1 = l) := by
  induction l generalizing ks with
  | nil => exact ⟨[], by simp [unpackKernsAux_nil], by simp, by simp [unpackKernsAux_nil], rfl, fun _ _ => rfl⟩
  | cons i rest ih =>
    obtain ⟨op', m1, heq, hk, hnd, hres⟩ := unpackKernsAux_cons ks i rest
    obtain ⟨m2, h2, hnd2, hk2, hsh2, hrt2⟩ := ih (ks ++ m1)
    rw [heq]
    refine ⟨m1 ++ m2, by simp [h2], fun h => by rw [← List.append_assoc]; exact hnd2 (hnd h), ?_,
      by simp [hsh2], fun h tail => ?_⟩
    · intro j hj
      rcases List.mem_cons.mp hj with rfl | hj
      · exact hk
      · exact hk2 j hj
    · obtain ⟨hi, hrest⟩ : i.op.isKernAt = false ∧ noKernAt rest = true := by simpa [noKernAt] using h
      have := hrt2 hrest tail
      simp only [packKerns, List.map_cons] at this ⊢
      rw [← List.append_assoc ks, this, List.append_assoc (ks ++ m1), hres hi]

theorem kerns_roundtrip (l : List Instr) (h : noKernAt l = true) :
    packKerns (unpackKerns l).2 (unpackKerns l).1 = l := by
  obtain ⟨more, h2, _, _, _, hrt⟩ := unpackKernsAux_spec [] l
  have := hrt h []
  rwa [List.append_nil, ← h2] at this

theorem unpackKerns_no_kern (l : List Instr) : ∀ i ∈ (unpackKerns l).1, ∀ k, i.op ≠ Op.kern k := by
  obtain ⟨_, _, _, h, _⟩ := unpackKernsAux_spec [] l
  exact h

theorem unpackKerns_shape (l : List Instr) :
    (unpackKerns l).1.map (fun i => (i.next, i.right)) = l.map (fun i => (i.next, i.right)) := by
  obtain ⟨_, _, _, _, h, _⟩ := unpackKernsAux_spec [] l
  exact h

theorem unpackKerns_nodup (l : List Instr) : (unpackKerns l).2.Nodup := by
  obtain ⟨more, h2, hnd, _⟩ := unpackKernsAux_spec [] l
  exact h2 ▸ hnd List.nodup_nil

end C11
