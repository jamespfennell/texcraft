import TexcraftModel.Model.C19

/-! `\read`: the line scanner against brace depth, what a `\read` from a file returns, the model
against TeX §485–§486 on single reads and on whole scripts, and the scope of the macro a `\read`
defines. -/

namespace C19

/-! Both `depthAfter` and `scanLine` advance over one token by the depth transition
`depthAfter [t] d`; everything below is by induction on the line through these two equations. -/

theorem depthAfter_cons (t : Tok) (r : List Tok) (d : Nat) :
    depthAfter (t :: r) d = (depthAfter [t] d).bind (depthAfter r) := by
  cases t <;> cases d <;> rfl

theorem scanLine_cons (t : Tok) (r : List Tok) (d : Nat) (acc : List Tok) :
    scanLine (t :: r) d acc =
      match depthAfter [t] d with
      | some dx => scanLine r dx (acc ++ [t])
      | none => .cut acc := by
  cases t <;> cases d <;> rfl

theorem depthAfter_singleton_none {t : Tok} {d : Nat} (h : depthAfter [t] d = none) :
    t = .eg ∧ d = 0 := by
  cases t with
  | eg =>
    cases d with
    | zero => exact ⟨rfl, rfl⟩
    | succ d => cases h
  | _ => cases d <;> cases h

theorem depthAfter_append (a b : List Tok) (d d' : Nat) (h : depthAfter a d = some d') :
    depthAfter (a ++ b) d = depthAfter b d' := by
  induction a generalizing d with
  | nil => cases h; rfl
  | cons t r ih =>
    rw [depthAfter_cons] at h
    rw [List.cons_append, depthAfter_cons]
    cases hx : depthAfter [t] d with
    | none => rw [hx] at h; cases h
    | some dx => rw [hx] at h; exact ih dx h

theorem scanLine_eol {l : List Tok} {d : Nat} {acc acc' : List Tok} {d' : Nat}
    (h : scanLine l d acc = .eol acc' d') : acc' = acc ++ l ∧ depthAfter l d = some d' := by
  induction l generalizing d acc with
  | nil => cases h; exact ⟨(List.append_nil _).symm, rfl⟩
  | cons t r ih =>
    rw [scanLine_cons] at h
    rw [depthAfter_cons]
    cases hx : depthAfter [t] d with
    | none => rw [hx] at h; cases h
    | some dx =>
      rw [hx] at h
      obtain ⟨h1, h2⟩ := ih h
      exact ⟨by rw [h1, List.append_assoc]; rfl, h2⟩

theorem scanLine_cut {l : List Tok} {d : Nat} {acc acc' : List Tok} (h : scanLine l d acc = .cut acc') :
    ∃ p q, l = p ++ Tok.eg :: q ∧ acc' = acc ++ p ∧ depthAfter p d = some 0 := by
  induction l generalizing d acc with
  | nil => cases h
  | cons t r ih =>
    rw [scanLine_cons] at h
    cases hx : depthAfter [t] d with
    | none =>
      rw [hx] at h
      cases h
      obtain ⟨rfl, rfl⟩ := depthAfter_singleton_none hx
      exact ⟨[], r, rfl, (List.append_nil _).symm, rfl⟩
    | some dx =>
      rw [hx] at h
      obtain ⟨p, q, rfl, rfl, hp⟩ := ih h
      exact ⟨t :: p, q, rfl, by rw [List.append_assoc]; rfl, by rw [depthAfter_cons, hx]; exact hp⟩

/-- The lines `taken` are one group for a `\read` entered with `d` open braces, and `body` is what
it makes of them: `body` closes the `d` braces (`closes`); it is the lines whole, or the last one
cut before an unmatched `}` (`lines`); and the group ends at the first line end with no brace open:
after any smaller positive number of its lines one still is (`first`). -/
structure OneGroup (d : Nat) (taken : List TLine) (body : List Tok) : Prop where
  closes : depthAfter body d = some 0
  lines : body = taken.flatten ∨
    ∃ (full : List TLine) (p q : List Tok), taken = full ++ [p ++ Tok.eg :: q] ∧ body = full.flatten ++ p
  first : ∀ k, k + 1 < taken.length → ∃ e, depthAfter (taken.take (k + 1)).flatten d = some (e + 1)

theorem OneGroup.nil : OneGroup 0 [] [] :=
  ⟨rfl, .inl rfl, fun _ hk => nomatch hk⟩

theorem OneGroup.whole {l : TLine} {d : Nat} (hl : depthAfter l d = some 0) : OneGroup d [l] l :=
  ⟨hl, .inl (List.append_nil l).symm, fun _ hk => absurd (Nat.le_of_succ_le_succ hk) (Nat.not_succ_le_zero _)⟩

theorem OneGroup.cut {p : List Tok} {d : Nat} (hp : depthAfter p d = some 0) (q : List Tok) :
    OneGroup d [p ++ Tok.eg :: q] p :=
  ⟨hp, .inr ⟨[], p, q, rfl, rfl⟩, fun _ hk => absurd (Nat.le_of_succ_le_succ hk) (Nat.not_succ_le_zero _)⟩

theorem OneGroup.cons {l : TLine} {d d' : Nat} {taken : List TLine} {body : List Tok}
    (hl : depthAfter l d = some d') (hd : d' ≠ 0) (h : OneGroup d' taken body) :
    OneGroup d (l :: taken) (l ++ body) where
  closes := by rw [depthAfter_append l body d d' hl]; exact h.closes
  lines := by
    cases h.lines with
    | inl hb => exact .inl (by rw [hb]; rfl)
    | inr hb =>
      obtain ⟨full, p, q, rfl, rfl⟩ := hb
      exact .inr ⟨l :: full, p, q, rfl, (List.append_assoc ..).symm⟩
  first := by
    intro k hk
    rw [List.take_succ_cons, List.flatten_cons, depthAfter_append l _ d d' hl]
    cases k with
    | zero => exact ⟨d' - 1, by rw [Nat.sub_add_cancel (Nat.pos_of_ne_zero hd)]; rfl⟩
    | succ k => exact h.first k (Nat.lt_of_succ_lt_succ hk)

theorem readFile_ok {ls : List TLine} {d : Nat} {acc toks : List Tok} {rem : Option (List TLine)}
    (h : readFile ls d acc = .ok toks rem) :
    ∃ (taken rest : List TLine) (body : List Tok), ls = taken ++ rest ∧
      (rem = if rest.isEmpty then none else some rest) ∧ toks = acc ++ body ∧ OneGroup d taken body := by
  fun_induction readFile ls d acc with
  | case1 d acc hd => cases h                       -- no line left, a brace open: error
  | case2 d acc hd =>                               -- no line left, none open
    cases h
    obtain rfl : d = 0 := Nat.eq_zero_of_not_pos hd
    exact ⟨[], [], [], rfl, rfl, (List.append_nil _).symm, .nil⟩
  | case3 l ls d acc acc' hs =>                     -- the line is cut at an unmatched `}`
    cases h
    obtain ⟨p, q, rfl, rfl, hp⟩ := scanLine_cut hs
    exact ⟨_, ls, p, rfl, rfl, rfl, .cut hp q⟩
  | case4 l d acc acc' d' hs hd => cases h          -- last line, a brace open: error
  | case5 l d acc acc' d' hs hd =>                  -- last line, none open
    cases h
    obtain rfl : d' = 0 := Nat.eq_zero_of_not_pos hd
    obtain ⟨rfl, hl⟩ := scanLine_eol hs
    exact ⟨[l], [], l, rfl, rfl, rfl, .whole hl⟩
  | case6 l d acc acc' l2 ls2 hs =>                 -- none open, lines remain
    cases h
    obtain ⟨rfl, hl⟩ := scanLine_eol hs
    exact ⟨[l], l2 :: ls2, l, rfl, rfl, rfl, .whole hl⟩
  | case7 l d acc acc' d' hs l2 ls2 hd ih =>        -- a brace open: read on
    obtain ⟨rfl, hl⟩ := scanLine_eol hs
    obtain ⟨taken, rest, body, hsplit, hrem, rfl, hg⟩ := ih h
    exact ⟨l :: taken, rest, l ++ body, by rw [hsplit]; rfl, hrem, List.append_assoc .., hg.cons hl hd⟩

/-- Number of lines a `\read` left in its stream (`none`: the stream was closed), so that
`ls.length - remLen rem` lines were consumed. -/
def remLen : Option (List TLine) → Nat
  | none => 0
  | some r => r.length

theorem remLen_rest (rest : List TLine) : remLen (if rest.isEmpty then none else some rest) = rest.length := by
  cases rest <;> rfl

/-- Finding C19-b exactly: the model's `\read` is TeX's, except that a stream left with no real
line is closed at once. -/
theorem readFile_eq_closeEmpty_tex (ls : List TLine) (d : Nat) (acc : List Tok) (h : ls ≠ []) :
    readFile ls d acc = closeEmpty (texReadFile ls d acc) := by
  fun_induction readFile ls d acc with
  -- the cases are those of `readFile_ok`
  | case1 | case2 => exact absurd rfl h
  | case3 l ls d acc acc' hs => simp only [texReadFile, hs]; cases ls <;> rfl
  | case4 l d acc acc' d' hs hd =>
    simp only [texReadFile, hs, if_neg (Nat.ne_of_gt hd), if_pos hd]; rfl
  | case5 l d acc acc' d' hs hd =>
    obtain rfl : d' = 0 := Nat.eq_zero_of_not_pos hd   -- `omega` would rest on `Quot.sound`
    simp only [texReadFile, hs, if_true]; rfl
  | case6 l d acc acc' l2 ls2 hs => simp only [texReadFile, hs, if_true]; rfl
  | case7 l d acc acc' d' hs l2 ls2 hd ih =>
    simp only [texReadFile, hs, if_neg hd]; exact ih (List.cons_ne_nil _ _)

theorem eq_of_closeEmpty_eq_some {r : ReadRes} {toks : List Tok} {rem : List TLine}
    (h : closeEmpty r = .ok toks (some rem)) : r = .ok toks (some rem) := by
  unfold closeEmpty at h
  split at h
  · cases h
  · exact h

theorem readFile_tex_open {ls : List TLine} {d : Nat} {acc toks : List Tok} {rem : List TLine}
    (h : readFile ls d acc = .ok toks (some rem)) : texReadFile ls d acc = .ok toks (some rem) := by
  cases ls with
  | nil => rw [readFile] at h; split at h <;> cases h
  | cons l ls =>
    rw [readFile_eq_closeEmpty_tex _ d acc (List.cons_ne_nil _ _)] at h
    exact eq_of_closeEmpty_eq_some h

/-- Every line that the unrepaired lexer had already started was started under the
`\endlinechar` now in force (then finding C19-d does not show). -/
def freshSlots (e : Elc) (slots : List Slot) : Bool :=
  slots.all (fun s => match s.loaded with | none => true | some l => l == attach e s.raw)

theorem mat_true (e : Elc) (s : Slot) : mat true e s = attach e s.raw := by
  unfold mat
  split
  · contradiction
  · rfl

theorem map_mat_fresh (e : Elc) : ∀ (slots : List Slot), freshSlots e slots = true →
    slots.map (mat false e) = slots.map (mat true e) := by
  intro slots h
  apply List.map_congr_left
  intro s hs
  have hfresh := List.all_eq_true.mp h s hs
  obtain ⟨loaded, raw⟩ := s
  cases loaded with
  | none => rfl
  | some l => exact eq_of_beq hfresh

/-- An operation on which the model and TeX cannot differ: no `\openin` of an empty file, and
no `\read` that leaves its stream without a further real line or fails. -/
def safeOp (rfs : List (Nat × List RawLine)) (st : RSt) (op : Op) : Bool :=
  match op with
  | .openin _ f => !(lookup rfs f == some [])
  | .read _ n _ =>
    match takeFile st.streams n with
    | some slots =>
      (match readFile (slots.map (mat true st.elc)) 0 [] with
        | .ok _ (some _) => true
        | _ => false)
    | none => true
  | _ => true

/-- Every operation of the script is safe in the state the model has reached when it runs. -/
def safeRun (rfs : List (Nat × List RawLine)) (st : RSt) : List Op → Bool
  | [] => true
  | op :: r => safeOp rfs st op && safeRun rfs (opStep false rfs st op) r

theorem rawEnsureNewline_of_ne_nil {l : List RawLine} (h : l ≠ []) : rawEnsureNewline l = l := by
  cases l with
  | nil => exact absurd rfl h
  | cons a b => rfl

/-- The model and TeX differ only in `\openin` (an empty file gets a line) and in `\read` from
a file (`readFile` against `texReadFile`); `safeOp` excludes the first and brings the second
under `readFile_tex_open`. -/
theorem opStep_agree (rfs : List (Nat × List RawLine)) (st : RSt) (op : Op)
    (hsafe : safeOp rfs st op = true) : opStep false rfs st op = opStep true rfs st op := by
  cases op with
  | openin n f =>
    simp only [opStep, if_true, Bool.false_eq_true, if_false]
    cases hl : lookup rfs f with
    | none => rfl
    | some l =>
      have hne : l ≠ [] := by
        rintro rfl
        simp [safeOp, hl] at hsafe
      rw [Option.map_some, rawEnsureNewline_of_ne_nil hne]; rfl
  | read g n x =>
    simp only [opStep, if_true, Bool.false_eq_true, if_false]
    cases ht : takeFile st.streams n with
    | none => rfl
    | some slots =>
      simp only [safeOp, ht] at hsafe
      split at hsafe
      · rename_i toks rem hr
        simp only [hr, readFile_tex_open hr]
      · cases hsafe
  | _ => rfl

theorem foldl_agree (rfs : List (Nat × List RawLine)) (ops : List Op) (st : RSt)
    (hsafe : safeRun rfs st ops = true) :
    ops.foldl (opStep false rfs) st = ops.foldl (opStep true rfs) st := by
  induction ops generalizing st with
  | nil => rfl
  | cons op r ih =>
    simp only [safeRun, Bool.and_eq_true] at hsafe
    rw [List.foldl_cons, List.foldl_cons, ← opStep_agree rfs st op hsafe.1]
    exact ih _ hsafe.2

section opStep
variable {tex : Bool} {rfs : List (Nat × List RawLine)} {st : RSt}

theorem opStep_bgroup (hrun : st.status = .running) :
    opStep tex rfs st .bgroup = { st with saved := (st.macros, st.elc) :: st.saved } := by
  rw [opStep, hrun]

theorem opStep_egroup_macros (hrun : st.status = .running) {m : List (Nat × List Tok) × Elc}
    {r : List (List (Nat × List Tok) × Elc)} (hs : st.saved = m :: r) :
    (opStep tex rfs st .egroup).macros = m.1 := by
  rw [opStep, hrun]
  simp only [hs]

/-- What a `\read` that does not fail does to the scoped part of the state: it is `defMacro` there,
whether the tokens came from a file or from the terminal. -/
theorem opStep_read_scope (hrun : st.status = .running) {g : Bool} {n : Int} {x : Nat}
    (hok : (opStep tex rfs st (.read g n x)).status = .running) :
    ∃ toks, (opStep tex rfs st (.read g n x)).macros = (x, toks) :: st.macros ∧
      (opStep tex rfs st (.read g n x)).saved =
        if g then st.saved.map (fun m => ((x, toks) :: m.1, m.2)) else st.saved := by
  rw [opStep, hrun] at hok ⊢
  cases ht : takeFile st.streams n with
  | none =>
    simp only [ht] at hok ⊢
    cases hr : readTerm (st.term.map (attach st.elc)) 0 [] with
    | exhausted => rw [hr] at hok; cases hok
    | ok toks term' => exact ⟨toks, by cases g <;> rfl, by cases g <;> rfl⟩
  | some slots =>
    simp only [ht] at hok ⊢
    cases hr : (if tex then texReadFile (slots.map (mat true st.elc)) 0 [] else readFile (slots.map (mat true st.elc)) 0 []) with
    | unmatched => rw [hr] at hok; cases hok
    | ok toks rem => exact ⟨toks, by cases g <;> rfl, by cases g <;> rfl⟩

end opStep

end C19
