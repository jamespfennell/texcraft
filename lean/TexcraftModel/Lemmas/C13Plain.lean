import TexcraftModel.Tables.C13Plain
import TexcraftModel.Lemmas.C13

/-! C13: the shipped plain TeX patterns satisfy the hypotheses of the property theorems
(well-formed, pairwise different letters+anchors, far fewer than 2^32 trie edges, no pattern
with the key of an exception). All of it is one linear pass over the 4447 patterns that the kernel
evaluates; what makes the pass sufficient is proved for every pattern list. -/
namespace C13

/-- The trie key as numbers: an anchor as 46 (the dot), a letter as its code point. -/
def keyCode (p : List Char) : List Nat :=
  (parsePat p).key.map fun
    | .ch c => c.toNat
    | _ => 46

theorem keyCode_eq (p : List Char) :
    keyCode p = (if (parsePat p).anchorStart then [46] else []) ++ (lettersOf p).map Char.toNat ++
      (if (parsePat p).anchorEnd then [46] else []) := by
  rw [keyCode, Pat.key, parsePat_letters, List.map_append, List.map_append, List.map_map]
  cases (parsePat p).anchorStart <;> cases (parsePat p).anchorEnd <;> rfl

theorem nodup_keys_of_sorted (ps : List (List Char))
    (h : ps.Pairwise (fun p q => keyCode p < keyCode q)) :
    ((ps.map parsePat).map Pat.key).Nodup := by
  rw [List.map_map, List.Nodup, List.pairwise_map]
  refine h.imp ?_
  intro p q hlt heq
  rw [keyCode, show (parsePat p).key = (parsePat q).key from heq] at hlt
  -- the instance given by hand: the one that instance search finds for `Nat` rests on `Classical.choice`
  exact @List.lt_irrefl Nat _ ⟨Nat.lt_irrefl⟩ _ hlt

theorem keyCode_length (p : List Char) : (keyCode p).length = (patOps p).2.length := by
  rw [keyCode, List.length_map, ← patItem_key']
  rfl

/-- The rest `r` of a pattern. `a`: the pattern began with a dot; `dig`: the character before `r`
was a digit. The key code of `r`, unless a dot stands before the end, a final dot closes a pattern
with `a`, or two digits are adjacent. -/
def keyTail : List Char → Bool → Bool → Option (List Nat)
  | [], _, _ => some []
  | c :: r, a, dig =>
    if c.toNat = 46 then (if r.isEmpty && !a then some [46] else none)
    else if isDig c then (if dig then none else keyTail r a true)
    else (keyTail r a false).map (c.toNat :: ·)

/-- The key code of a pattern, or `none` unless the pattern is well formed and not anchored at both
ends (so that it cannot have an exception's key). -/
def patKey : List Char → Option (List Nat)
  | [] => some []
  | c :: r =>
    if c.toNat = 46 then (if r.isEmpty then none else (keyTail r true false).map (46 :: ·))
    else keyTail (c :: r) false false

/-- Fails unless `patKey` increases strictly along the list, starting above `lo` (so that no two
patterns have the same key); gives the last key, and `n` plus the total length of the keys (the
patterns' share of `edgeCount`). -/
def climbKeys : List Nat → Nat → List (List Char) → Option (List Nat × Nat)
  | lo, n, [] => some (lo, n)
  | lo, n, p :: r =>
    match patKey p with
    | none => none
    | some k => if lo.lex k then climbKeys k (n + k.length) r else none

theorem climbKeys_append (lo : List Nat) (n : Nat) (l₁ l₂ : List (List Char)) :
    climbKeys lo n (l₁ ++ l₂) = (climbKeys lo n l₁).bind (fun x => climbKeys x.1 x.2 l₂) := by
  induction l₁ generalizing lo n with
  | nil => rfl
  | cons p r ih =>
    simp only [List.cons_append, climbKeys]
    split
    · rfl
    · split
      · exact ih _ _
      · rfl

theorem eq_dot {c : Char} (h : c.toNat = 46) : c = '.' := by
  rw [← Char.ofNat_toNat c, h]

theorem ends_cons (c : Char) (r : List Char) (hc : c ≠ '.') :
    (c :: r).dropLast.all (· ≠ '.') = r.dropLast.all (· ≠ '.') ∧
    ((c :: r).getLast? = some '.' ↔ r.getLast? = some '.') := by
  cases r with
  | nil => simp [hc]
  | cons c' r' => simp [hc]

theorem keyTail_sound (r : List Char) (a dig : Bool) (k : List Nat) (h : keyTail r a dig = some k) :
    r.dropLast.all (· ≠ '.') = true ∧ (a = true → r.getLast? ≠ some '.') ∧
    (∀ prev, isDig prev = dig → noAdjDigits (prev :: bodyOf r) = true) ∧
    k = (lettersOf r).map Char.toNat ++ (if r.getLast? = some '.' then [46] else []) := by
  fun_induction keyTail r a dig generalizing k with
  | case1 => cases h; exact ⟨rfl, nofun, fun _ _ => rfl, rfl⟩
  | case2 c r a dig hdot he =>
    obtain rfl := eq_dot hdot
    simp only [Bool.and_eq_true, List.isEmpty_iff, Bool.not_eq_true'] at he
    obtain ⟨rfl, rfl⟩ := he
    cases h
    exact ⟨rfl, nofun, fun _ _ => rfl, rfl⟩
  | case3 => cases h
  | case4 => cases h
  | case5 c r a dig hdot hd hdig ih =>
    have hc : c ≠ '.' := fun e => hdot (e ▸ rfl)
    obtain ⟨e1, e2⟩ := ends_cons c r hc
    obtain ⟨h1, h2, h3, h5⟩ := ih k h
    rw [bodyOf_ne c r hc, lettersOf_digit c r hd]
    simp only [e2]
    refine ⟨e1.trans h1, fun ha hl => h2 ha (e2.1 hl), fun prev hp => ?_, h5⟩
    -- no digit stands before this digit, and the rest was read with this digit before it
    rw [noAdjDigits, h3 c hd, hp, Bool.eq_false_iff.2 hdig]
    rfl
  | case6 c r a dig hdot hd ih =>
    have hc : c ≠ '.' := fun e => hdot (e ▸ rfl)
    have hd' : isDig c = false := Bool.eq_false_iff.2 hd
    obtain ⟨e1, e2⟩ := ends_cons c r hc
    obtain ⟨k', hk', rfl⟩ := Option.map_eq_some_iff.1 h
    obtain ⟨h1, h2, h3, h5⟩ := ih k' hk'
    rw [bodyOf_ne c r hc, lettersOf_letter c r hd' hc, h5]
    simp only [e2]
    refine ⟨e1.trans h1, fun ha hl => h2 ha (e2.1 hl), fun prev _ => ?_, rfl⟩
    rw [noAdjDigits, h3 c hd', hd', Bool.and_false]
    rfl

theorem patKey_sound (p : List Char) (k : List Nat) (h : patKey p = some k) :
    wellFormed p = true ∧ (!((parsePat p).anchorStart && (parsePat p).anchorEnd)) = true ∧
    k = keyCode p := by
  cases p with
  | nil => cases h; exact ⟨rfl, rfl, rfl⟩
  | cons c r =>
    simp only [patKey] at h
    split at h
    next hdot =>
      obtain rfl := eq_dot hdot
      split at h
      next => cases h
      next hne =>
        obtain ⟨k', hk', rfl⟩ := Option.map_eq_some_iff.1 h
        obtain ⟨h1, h2, h3, h5⟩ := keyTail_sound r true false k' hk'
        have hlast : ('.' :: r).getLast? ≠ some '.' := by
          cases r with
          | nil => exact absurd rfl hne
          | cons c' r' => rw [List.getLast?_cons_cons]; exact h2 rfl
        refine ⟨?_, by simp [parsePat, hlast], ?_⟩
        · show (noAdjDigits (bodyOf ('.' :: r)) && r.dropLast.all (· ≠ '.')) = true
          rw [bodyOf_dot, noAdj_tail 'a' _ (h3 'a' rfl), h1]
          rfl
        · rw [h5, if_neg (h2 rfl)]
          simp [keyCode_eq, parsePat, hlast, lettersOf_dot]
    next hdot =>
      have hc : c ≠ '.' := fun e => hdot (e ▸ rfl)
      obtain ⟨h1, _, h3, h5⟩ := keyTail_sound (c :: r) false false k h
      refine ⟨?_, by simp [parsePat, hc], ?_⟩
      · show (noAdjDigits (bodyOf (c :: r)) && r.dropLast.all (· ≠ '.')) = true
        rw [noAdj_tail 'a' _ (h3 'a' rfl), ← (ends_cons c r hc).1, h1]
        rfl
      · rw [h5]
        simp [keyCode_eq, parsePat, hc]

theorem climbKeys_sound (l : List (List Char)) (lo : List Nat) (n : Nat) (x : List Nat × Nat)
    (h : climbKeys lo n l = some x) :
    (∀ p ∈ l, wellFormed p = true ∧ (!((parsePat p).anchorStart && (parsePat p).anchorEnd)) = true ∧
      lo < keyCode p) ∧
    l.Pairwise (fun p q => keyCode p < keyCode q) ∧
    x.2 = n + (l.map (fun p => (keyCode p).length)).sum := by
  fun_induction climbKeys lo n l with
  | case1 => cases h; simp
  | case2 => cases h
  | case3 lo n p r k hk hlt ih =>
    obtain ⟨hwf, han, rfl⟩ := patKey_sound p k hk
    rw [List.lex_eq_true_iff_lt] at hlt
    obtain ⟨hr, hp, hx⟩ := ih h
    refine ⟨?_, List.pairwise_cons.2 ⟨fun q hq => (hr q hq).2.2, hp⟩, ?_⟩
    · intro q hq
      rcases List.mem_cons.1 hq with rfl | hq
      · exact ⟨hwf, han, hlt⟩
      · exact ⟨(hr q hq).1, (hr q hq).2.1, List.lt_trans hlt (hr q hq).2.2⟩
    · rw [hx, List.map_cons, List.sum_cons, Nat.add_assoc]
  | case4 => cases h

theorem edgeCount_of_climb (ps es : List (List Char)) (x : List Nat × Nat)
    (h : climbKeys [] 0 ps = some x) :
    edgeCount ps es = x.2 + (es.map (fun e => (excScan e [excNo] [.start]).2.length + 1)).sum := by
  rw [(climbKeys_sound ps [] 0 x h).2.2, Nat.zero_add]
  simp only [edgeCount, keyCode_length]

theorem key_ne_exc (p e : List Char)
    (h : (!((parsePat p).anchorStart && (parsePat p).anchorEnd)) = true) :
    (parsePat p).key ≠ enc true (stripHyphens e) true := by
  intro heq
  obtain ⟨ha, _, hb⟩ :=
    enc_inj (a := (parsePat p).anchorStart) (L := (parsePat p).letters) heq
  rw [ha, hb] at h
  cases h

/-- The last key is `zzy`. -/
theorem plain_checked : climbKeys [] 0 plainPatterns = some ([122, 122, 121], 17995) := by
  -- the table is a chain of `++`: the pass is split along it first, so that the kernel evaluates
  -- chunk by chunk instead of pulling every pattern through the nested appends
  simp only [plainPatterns, climbKeys_append]
  decide +kernel

theorem plain_edges : edgeCount plainPatterns plainExceptions < rootV := by
  rw [edgeCount_of_climb _ _ _ plain_checked]
  decide

theorem plain_disjoint : ∀ p ∈ plainPatterns, ∀ e ∈ plainExceptions,
    (parsePat p).key ≠ enc true (stripHyphens e) true :=
  fun p hp e _ => key_ne_exc p e ((climbKeys_sound _ _ _ _ plain_checked).1 p hp).2.1

end C13
