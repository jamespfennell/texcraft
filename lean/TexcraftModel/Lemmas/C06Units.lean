import TexcraftModel.Lemmas.C06
/-!
C06 — the units level. `dimVal` names what a coefficient `ip + f/2^16` is worth in a unit;
`scan_and_apply_units` (M) and TeX §453–§459 (S) both compute it (`applyUnits_val`, `units_val`), and
what is said of either — that they agree, that the code never panics, the range, the recorded
deviation — is read off those two equations.
-/
namespace C06

/-- The model's outcome read as a specification outcome (`panic` has no counterpart). -/
def SRes.toSR : SRes → Spec.SR
  | .ok s => .ok s.val s.nerr s.order
  | .panic => .undef

/-- Recorded deviation C06-f: a *negative* internal unit whose multiple overflows (the code
clamps to `-max_dimen`, TeX to `+max_dimen`, before the explicit signs). -/
def negUnitOverflow (ip f : Int) : UnitSpec → Bool
  | .internal v => decide (v < 0) &&
      (match xnOverD v f 65536 with
       | .ok (a, _) => (match nxPlusY v ip a with | .ok _ => false | _ => true)
       | _ => true)
  | _ => false

/-- What the coefficient `ip + f/2^16 ≥ 0` is worth in unit `u`, in scaled points; `none` where TeX
says "Dimension too large" (§448, §455, §458). A missing unit and `fil` count as points. -/
def dimVal (ip f : Int) : UnitSpec → Option Int
  | .internal v =>
    if (Int.tdiv (v * f) 65536).natAbs > 1073741823 ∨ (v * ip + Int.tdiv (v * f) 65536).natAbs > 1073741823
    then none else some (v * ip + Int.tdiv (v * f) 65536)
  | .phys u => physVal u ip f
  | _ => physVal .pt ip f

/-- The errors a unit reports by itself: a surplus `l`, a missing unit. -/
def unitErrs : UnitSpec → Nat
  | .fil ls => ls - 2
  | .bad => 1
  | _ => 0

/-- The glue order a unit gives: `fil` and its `l`s, `filll` at most. -/
def unitOrder : UnitSpec → Nat
  | .fil ls => min (1 + ls) 3
  | _ => 0

/-- The scanned record: the value with `e` errors, or `max_dimen` (`-max_dimen` if `cneg`) and one
more error. -/
def clamped (cneg : Bool) (v : Option Int) (e o : Nat) : Scan :=
  match v with
  | some x => { val := x, nerr := e, order := o }
  | none => { val := if cneg then -maxDimen else maxDimen, nerr := e + 1, order := o }

/-- A record with a sign `σ ∈ {1, -1, 0}` applied and `e` more errors. -/
def Scan.signed (sc : Scan) (σ : Int) (e : Nat) : Scan := { sc with val := sc.val * σ, nerr := sc.nerr + e }

theorem Scan.signed_bound (sc : Scan) (σ : Int) (e : Nat) (hσ : -1 ≤ σ ∧ σ ≤ 1)
    (h : -1073741823 ≤ sc.val ∧ sc.val ≤ 1073741823) :
    -1073741823 ≤ (sc.signed σ e).val ∧ (sc.signed σ e).val ≤ 1073741823 := by
  obtain ⟨h1, h2⟩ := hσ
  obtain rfl | rfl | rfl : σ = -1 ∨ σ = 0 ∨ σ = 1 := by omega
  all_goals simp only [Scan.signed]; omega

theorem mul_sign (x : Int) (neg : Bool) : x * (if neg then -1 else 1) = if neg then -x else x := by
  cases neg <;> simp

theorem Scan.signed_toSR (sc : Scan) (neg : Bool) (e : Nat) :
    (SRes.ok (sc.signed (if neg then -1 else 1) e)).toSR
      = .ok (if neg then -sc.val else sc.val) (sc.nerr + e) sc.order := by
  simp only [SRes.toSR, Scan.signed, mul_sign]

theorem clamped_bound (cneg : Bool) (v : Option Int) (e o : Nat)
    (h : ∀ x, v = some x → -1073741823 ≤ x ∧ x ≤ 1073741823) :
    -1073741823 ≤ (clamped cneg v e o).val ∧ (clamped cneg v e o).val ≤ 1073741823 := by
  cases v with
  | some x => exact h x rfl
  | none => cases cneg <;> simp [clamped, maxDimen]

theorem dimVal_bound (ip f : Int) (hip : 0 ≤ ip) (hf0 : 0 ≤ f) (u : UnitSpec) (x : Int)
    (h : dimVal ip f u = some x) : -1073741823 ≤ x ∧ x ≤ 1073741823 := by
  have phys : ∀ pu, physVal pu ip f = some x → -1073741823 ≤ x ∧ x ≤ 1073741823 := by
    intro pu h
    rcases pu.sp_or_frac with rfl | ⟨hsp, hn, hd, _⟩
    · simp only [physVal_sp, Option.ite_none_left_eq_some, Option.some.injEq] at h
      omega
    · obtain ⟨hq, _, _, hF⟩ := convVal_parts pu.frac.1 pu.frac.2 ip f hn hd hip hf0
      simp only [physVal_conv pu hsp, convVal, Option.ite_none_left_eq_some, Option.some.injEq] at h
      omega
  cases u with
  | internal v =>
    simp only [dimVal, Option.ite_none_left_eq_some, Option.some.injEq] at h
    omega
  | phys pu => exact phys pu h
  | fil _ => exact phys .pt h
  | bad => exact phys .pt h

theorem dimVal_zero (u : UnitSpec) : dimVal 0 0 u = some 0 := by
  cases u with
  | internal v => simp [dimVal]
  | phys pu => cases pu <;> decide
  | fil _ => exact (physVal_pt 0 0).trans (by decide)
  | bad => decide

theorem applyUnits_val (ip f : Int) (hip : 0 ≤ ip) (hf0 : 0 ≤ f) (hf : f ≤ 65536) (u : UnitSpec) :
    applyUnits ip f u = .ok (clamped (negUnitOverflow ip f u) (dimVal ip f u) (unitErrs u) (unitOrder u)) := by
  have hM : maxDimen = 1073741823 := rfl
  cases u with
  | phys pu =>
    simp only [applyUnits, scaledNew_val pu ip f hip hf0 hf, dimVal]
    cases physVal pu ip f <;> rfl
  | bad =>
    simp only [applyUnits, scaledNew_val .pt ip f hip hf0 hf, dimVal]
    cases physVal .pt ip f <;> rfl
  | fil ls =>
    simp only [applyUnits, dimVal, physVal_pt, unitErrs, unitOrder, negUnitOverflow]
    by_cases h1 : ip ≥ 16384
    · simp only [fromInteger_none ip h1]
      rw [if_pos (by omega)]; rfl
    · simp only [fromInteger_ok ip ⟨by omega, by omega⟩, chk32_ok (65536 * ip + f) ⟨by omega, by omega⟩]
      by_cases h2 : 65536 * ip + f ≤ maxDimen
      · rw [if_pos h2, if_neg (by omega)]; rfl
      · rw [if_neg h2, if_pos (by omega)]; rfl
  | internal v =>
    simp only [applyUnits, dimVal, xnOverD_eq v f 65536 hf (by omega) (by omega), unitErrs, unitOrder,
      negUnitOverflow]
    generalize Int.tdiv (v * f) 65536 = a
    by_cases hbig : a.natAbs > 1073741823
    · rw [if_pos hbig, if_pos (Or.inl hbig), Bool.and_true]; rfl
    · rw [if_neg hbig]
      simp only [nxPlusY_val v ip a (by omega)]
      by_cases hc : -maxDimen ≤ v * ip + a ∧ v * ip + a ≤ maxDimen
      · rw [if_pos hc, if_neg (by omega)]; rfl
      · rw [if_neg hc, if_pos (by omega), Bool.and_true]; rfl

/-- §458 carries what the integer part leaves over into the fraction and goes on as for `pt`. -/
theorem convVal_carry (n d ip f : Int) :
    convVal n d ip f
      = physVal .pt (ip * n / d + (f * n + 65536 * (ip * n % d)) / d / 65536)
          ((f * n + 65536 * (ip * n % d)) / d % 65536) := by
  rw [physVal_pt, convVal]
  generalize ip * n / d = q
  generalize (f * n + 65536 * (ip * n % d)) / d = F
  rw [show F % 65536 / 65536 = 0 by omega, Int.add_zero,
    show 65536 * (q + F / 65536) + F % 65536 = 65536 * q + F by omega]

theorem units_phys (pu : TUnit) (hpt : pu ≠ .pt) (hsp : pu ≠ .sp) (cv f : Int) (neg : Bool) (nerr : Nat) :
    Spec.units cv f neg nerr (.phys pu)
      = Spec.attachFraction
          ((Spec.xnOverD cv pu.frac.1 pu.frac.2).1
            + (pu.frac.1 * f + 65536 * (Spec.xnOverD cv pu.frac.1 pu.frac.2).2.1) / pu.frac.2 / 65536)
          ((pu.frac.1 * f + 65536 * (Spec.xnOverD cv pu.frac.1 pu.frac.2).2.1) / pu.frac.2 % 65536)
          (Spec.xnOverD cv pu.frac.1 pu.frac.2).2.2 neg nerr 0 := by
  cases pu <;> first | rfl | exact absurd rfl hpt | exact absurd rfl hsp

/-- The errors so far come split as `e + k`: `k` of them are counted as the unit's own, inside `clamped`. -/
theorem attachSign_unit (x : Int) (ae neg : Bool) (e k o : Nat) :
    Spec.attachSign x ae neg (e + k) o
      = (SRes.ok ((clamped false (if ae = true ∨ x.natAbs ≥ 1073741824 then none else some x) k o).signed
          (if neg then -1 else 1) e)).toSR := by
  rw [Scan.signed_toSR]
  unfold Spec.attachSign
  by_cases h : ae = true ∨ x.natAbs ≥ 1073741824
  · simp only [if_pos h]; simp [clamped, maxDimen]; omega
  · simp only [if_neg h]; simp [clamped, Nat.add_comm]

theorem attachSign_val (x : Int) (ae neg : Bool) (e o : Nat) :
    Spec.attachSign x ae neg e o
      = (SRes.ok ((clamped false (if ae = true ∨ x.natAbs ≥ 1073741824 then none else some x) 0 o).signed
          (if neg then -1 else 1) e)).toSR :=
  attachSign_unit x ae neg e 0 o

theorem attachFraction_val (cv f : Int) (hcv : 0 ≤ cv) (hf : 0 ≤ f) (neg : Bool) (e k o : Nat) :
    Spec.attachFraction cv f false neg (e + k) o
      = (SRes.ok ((clamped false (physVal .pt cv f) k o).signed (if neg then -1 else 1) e)).toSR := by
  unfold Spec.attachFraction
  simp only [physVal_pt, attachSign_unit]
  -- out of the way of the `if_pos` rewrites below
  generalize (if neg = true then (-1 : Int) else 1) = σ
  by_cases h1 : cv ≥ 16384
  · rw [if_pos h1, if_pos (Or.inl trivial), if_pos (by omega)]
  · simp only [if_neg h1, Int.mul_comm cv, Bool.false_eq_true, false_or,
      show (65536 * cv + f).natAbs ≥ 1073741824 ↔ cv + f / 65536 ≥ 16384 by omega]

theorem attachFraction_err (cv f : Int) (neg : Bool) (e k o : Nat) :
    Spec.attachFraction cv f true neg (e + k) o
      = (SRes.ok ((clamped false none k o).signed (if neg then -1 else 1) e)).toSR := by
  unfold Spec.attachFraction
  split <;> rw [attachSign_unit, if_pos (Or.inl rfl)]

theorem units_val (ip f : Int) (hip : 0 ≤ ip) (hf0 : 0 ≤ f) (neg : Bool) (e : Nat) (u : UnitSpec) :
    Spec.units ip f neg e u
      = (SRes.ok ((clamped false (dimVal ip f u) (unitErrs u) (unitOrder u)).signed (if neg then -1 else 1) e)).toSR := by
  have hM : maxDimen = 1073741823 := rfl
  cases u with
  | fil ls => exact attachFraction_val ip f hip hf0 neg e _ _
  | bad => exact attachFraction_val ip f hip hf0 neg e 1 0
  | internal v =>
    obtain ⟨g, hg⟩ := specXnOverD_eq v f 65536 hf0 (by omega)
    simp only [Spec.units, hg, dimVal, unitErrs, unitOrder]
    generalize Int.tdiv (v * f) 65536 = a
    by_cases hbig : a.natAbs > 1073741823
    · rw [if_pos hbig, if_pos (Or.inl hbig), attachSign_val, if_pos (Or.inl (by simp))]
    · rw [if_neg hbig]
      simp only [Spec.nxPlusY, multAndAdd_exact ip v a 1073741823 (by omega), attachSign_val, Bool.false_or,
        Int.mul_comm ip v]
      generalize (if neg = true then (-1 : Int) else 1) = σ
      by_cases hc : -1073741823 ≤ v * ip + a ∧ v * ip + a ≤ 1073741823
      · rw [if_pos hc, if_neg (by simp; omega), if_neg (by omega)]
      · rw [if_neg hc, if_pos (Or.inl rfl), if_pos (by omega)]
  | phys pu =>
    simp only [dimVal, unitErrs, unitOrder]
    by_cases hpt : pu = .pt
    · subst hpt; exact attachFraction_val ip f hip hf0 neg e 0 0
    rcases pu.sp_or_frac with rfl | ⟨hsp, hn, hd, _⟩
    · simp only [Spec.units, attachSign_val, physVal_sp, Bool.false_eq_true, false_or,
        show ip.natAbs ≥ 1073741824 ↔ ip > 1073741823 by omega]
    obtain ⟨g, hg⟩ := specXnOverD_nonneg ip pu.frac.1 pu.frac.2 hip (by omega) hd
    obtain ⟨hq, _, _, hF⟩ := convVal_parts pu.frac.1 pu.frac.2 ip f hn hd hip hf0
    rw [units_phys pu hpt hsp, hg, physVal_conv pu hsp, Int.mul_comm pu.frac.1 f]
    by_cases hbig : ip * pu.frac.1 / pu.frac.2 > maxDimen
    · -- `arith_error` from `xn_over_d`: Knuth's leftover value `g` is discarded
      rw [if_pos hbig, convVal, if_pos (by omega)]
      exact attachFraction_err _ _ neg e 0 0
    · rw [if_neg hbig, convVal_carry]
      simp only []
      exact attachFraction_val _ _ (by omega) (Int.emod_nonneg _ (by omega)) neg e 0 0

theorem applyUnits_eq (ip f : Int) (hip : 0 ≤ ip) (hf0 : 0 ≤ f) (hf : f ≤ 65536)
    (u : UnitSpec) (hex : negUnitOverflow ip f u = false) :
    (applyUnits ip f u).toSR = Spec.units ip f false 0 u := by
  rw [applyUnits_val ip f hip hf0 hf, units_val ip f hip hf0, hex, Scan.signed_toSR]
  rfl

theorem scaledNew_eq (u : TUnit) (ip f : Int) (hip : 0 ≤ ip) (hf0 : 0 ≤ f) (hf : f ≤ 65536) :
    (match scaledNew ip f u with
      | .ok s => Spec.SR.ok s 0 0 | .overflow => Spec.SR.ok maxDimen 1 0 | .panic => Spec.SR.undef)
      = Spec.units ip f false 0 (.phys u) := by
  rw [scaledNew_val u ip f hip hf0 hf, units_val ip f hip hf0, Scan.signed_toSR]
  simp only [dimVal]
  cases physVal u ip f <;> rfl

theorem scaledNew_no_panic (u : TUnit) (ip f : Int) (hip : 0 ≤ ip) (hip2 : ip ≤ 2147483647) (hf0 : 0 ≤ f)
    (hf : f ≤ 65536) : scaledNew ip f u ≠ .panic := by
  rw [scaledNew_val u ip f hip hf0 hf]
  split <;> simp

end C06
