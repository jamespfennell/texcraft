import TexcraftModel.Model.C12

/-! Lemmas for C12's text side: the text front end (`addText`: spelling, glue count, glue values),
the `--widths` option, the space factor and the inter-word glue. -/
namespace C12

theorem splitAtGlue_some {rest : List (Option (List Nat))} {hd : List Nat} {tl : List (List Nat)}
    (cs : List Nat) (h : splitAtGlue rest = hd :: tl) :
    splitAtGlue (some cs :: rest) = (cs ++ hd) :: tl := by
  rw [splitAtGlue, h]

theorem splitAtGlue_addItems {rest : List (Option (List Nat))} {hd : List Nat} {tl : List (List Nat)}
    (h : splitAtGlue rest = hd :: tl) : ∀ (rs : List RunItem),
    splitAtGlue ((rs.flatMap addItem).map TItem.chars ++ rest) = (runSpell rs ++ hd) :: tl
  | [] => h
  | r :: rs => by
    have ih := splitAtGlue_addItems h rs
    rw [List.flatMap_cons, List.map_append, List.append_assoc]
    cases r with
    | char c =>
      rw [addItem]
      split
      · exact splitAtGlue_some [c] (splitAtGlue_some [] ih)
      · exact splitAtGlue_some [c] ih
    | kern w => exact splitAtGlue_some [] ih
    | lig c orig lb rb =>
      rw [addItem, runSpell, List.append_assoc]
      split
      · exact splitAtGlue_some orig (splitAtGlue_some [] ih)
      · exact splitAtGlue_some orig ih

theorem addWords_split_true (run : List Nat → List RunItem) (codes : List Int) (tp : TextParams)
    (f : Font) (hrun : ∀ w, runSpell (run w) = w) :
    ∀ (ws : List (List Nat)) (sf : Int),
      splitAtGlue ((addWords run codes tp f sf true ws).map TItem.chars) = [] :: ws
  | [], _ => rfl
  | w :: ws, sf => by
    have ih := addWords_split_true run codes tp f hrun ws (sfWord codes sf w)
    rw [addWords, if_pos rfl, List.singleton_append, List.map_cons, List.map_append, addWord]
    have := splitAtGlue_addItems ih (run w)
    rw [hrun, List.append_nil] at this
    rw [TItem.chars, splitAtGlue, this]

theorem addWords_split_false (run : List Nat → List RunItem) (codes : List Int) (tp : TextParams)
    (f : Font) (hrun : ∀ w, runSpell (run w) = w) (w : List Nat) (ws : List (List Nat)) (sf : Int) :
    splitAtGlue ((addWords run codes tp f sf false (w :: ws)).map TItem.chars) = w :: ws := by
  have := splitAtGlue_addItems (addWords_split_true run codes tp f hrun ws (sfWord codes sf w)) (run w)
  rw [hrun, List.append_nil] at this
  rw [addWords, if_neg Bool.false_ne_true, List.nil_append, List.map_append, addWord, this]

theorem addItem_noGlue (r : RunItem) : ∀ x ∈ addItem r, x.isGlue = false := by
  intro x hx
  cases r with
  | kern w => cases List.mem_singleton.mp hx; rfl
  | char c | lig c orig lb rb =>
    rcases List.mem_cons.mp hx with rfl | hx
    · rfl
    · split at hx
      · cases List.mem_singleton.mp hx; rfl
      · cases hx

theorem addWord_noGlue (run : List Nat → List RunItem) (w : List Nat) :
    ∀ x ∈ addWord run w, x.isGlue = false := by
  intro x hx
  obtain ⟨r, _, hr⟩ := List.mem_flatMap.mp hx
  exact addItem_noGlue r x hr

theorem splitWs_cons_of_not_ws {c : Nat} (t : List Nat) (hc : isWs c = false) :
    splitWs (c :: t) = [c] :: splitWs t ∨
      ∃ w ws, splitWs t = w :: ws ∧ splitWs (c :: t) = (c :: w) :: ws := by
  simp only [splitWs, hc, Bool.false_eq_true, if_false]
  split
  · exact Or.inl rfl
  · split
    · exact Or.inl rfl
    · split
      · rename_i w ws heq
        exact Or.inr ⟨w, ws, heq, rfl⟩
      · rename_i heq
        rw [heq]; exact Or.inl rfl

theorem splitWs_cons_of_ws {c : Nat} (t : List Nat) (hc : isWs c = true) :
    splitWs (c :: t) = splitWs t := by
  simp only [splitWs, hc, if_true]

theorem splitWs_word : ∀ (t : List Nat), ∀ w ∈ splitWs t, w ≠ [] ∧ ∀ c ∈ w, isWs c = false
  | [], _, hw => by cases hw
  | c :: t, w, hw => by
    cases hc : isWs c with
    | true => exact splitWs_word t w (splitWs_cons_of_ws t hc ▸ hw)
    | false =>
      rcases splitWs_cons_of_not_ws t hc with h | ⟨w0, ws, ht, h⟩
      · rw [h] at hw
        rcases List.mem_cons.mp hw with rfl | hw
        · exact ⟨List.cons_ne_nil _ _, List.forall_mem_cons.mpr ⟨hc, fun _ hx => nomatch hx⟩⟩
        · exact splitWs_word t w hw
      · rw [h] at hw
        rcases List.mem_cons.mp hw with rfl | hw
        · exact ⟨List.cons_ne_nil _ _,
            List.forall_mem_cons.mpr ⟨hc, (splitWs_word t w0 (ht ▸ List.mem_cons_self)).2⟩⟩
        · exact splitWs_word t w (ht ▸ List.mem_cons_of_mem _ hw)

theorem splitWs_flatten : ∀ (t : List Nat), (splitWs t).flatten = t.filter (fun c => !isWs c)
  | [] => rfl
  | c :: t => by
    have ih := splitWs_flatten t
    cases hc : isWs c with
    | true => rw [splitWs_cons_of_ws t hc, List.filter_cons_of_neg (by simp [hc]), ih]
    | false =>
      rw [List.filter_cons_of_pos (by simp [hc]), ← ih]
      rcases splitWs_cons_of_not_ws t hc with h | ⟨w0, ws, ht, h⟩
      · rw [h]; rfl
      · rw [h, ht]; rfl

theorem addWords_glue_count (run : List Nat → List RunItem) (codes : List Int) (tp : TextParams)
    (f : Font) : ∀ (ws : List (List Nat)) (sf : Int) (pending : Bool),
      ((addWords run codes tp f sf pending ws).filter TItem.isGlue).length =
        if pending then ws.length else ws.length - 1
  | [], _, pending => by cases pending <;> rfl
  | w :: ws, sf, pending => by
    have hw : (addWord run w).filter TItem.isGlue = [] :=
      List.filter_eq_nil_iff.mpr fun x hx => by rw [addWord_noGlue run w x hx]; exact Bool.false_ne_true
    rw [addWords, List.filter_append, List.filter_append, hw, List.nil_append, List.length_append,
      addWords_glue_count run codes tp f ws _ true, if_pos rfl]
    cases pending
    · exact Nat.zero_add _
    · exact Nat.add_comm _ _

/-- The inter-word glues `add_text` pushed, in order (`.panic` where `add_space` panics). -/
def glueItems : List TItem → List (Res Glue)
  | [] => []
  | .glue g :: t => g :: glueItems t
  | _ :: t => glueItems t

theorem glueItems_append (a b : List TItem) : glueItems (a ++ b) = glueItems a ++ glueItems b := by
  induction a with
  | nil => rfl
  | cons x t ih => cases x <;> simp only [List.cons_append, glueItems, ih]

theorem glueItems_noGlue : ∀ (l : List TItem), (∀ x ∈ l, x.isGlue = false) → glueItems l = []
  | [], _ => rfl
  | x :: t, h => by
    have ht := glueItems_noGlue t fun y hy => h y (List.mem_cons_of_mem _ hy)
    cases x with
    | glue g => cases h _ List.mem_cons_self
    | _ => exact ht

theorem addWords_glueItems (run : List Nat → List RunItem) (codes : List Int) (tp : TextParams)
    (f : Font) : ∀ (ws : List (List Nat)) (sf : Int) (pending : Bool),
      glueItems (addWords run codes tp f sf pending ws) =
        (addTextGlues codes tp f sf pending ws).filterMap id
  | [], _, _ => rfl
  | w :: ws, sf, pending => by
    rw [addWords, addTextGlues, glueItems_append, glueItems_append,
      glueItems_noGlue _ (addWord_noGlue run w), List.nil_append,
      addWords_glueItems run codes tp f ws _ true]
    cases pending <;> rfl

theorem splitOnChar_ne_nil (sep : Nat) : ∀ l, splitOnChar sep l ≠ []
  | [] => List.cons_ne_nil _ _
  | c :: t => by
    rw [splitOnChar]
    split
    · exact List.cons_ne_nil _ _
    · split <;> exact List.cons_ne_nil _ _

theorem splitOnChar_append (sep : Nat) {rest w : List Nat} {ws : List (List Nat)}
    (h : splitOnChar sep rest = w :: ws) :
    ∀ f : List Nat, (∀ c ∈ f, c ≠ sep) → splitOnChar sep (f ++ rest) = (f ++ w) :: ws
  | [], _ => h
  | c :: t, hf => by
    have ⟨hc, ht⟩ := List.forall_mem_cons.mp hf
    rw [List.cons_append, splitOnChar, if_neg hc, splitOnChar_append sep h t ht]
    rfl

theorem trimWs_space (g : List Nat) : trimWs (32 :: g) = trimWs g := by
  simp [trimWs, List.dropWhile, isTrimWs, isWs]

theorem widthFields_joinComma : ∀ (fs : List (List Nat)), fs ≠ [] →
    (∀ f ∈ fs, ∀ c ∈ f, c ≠ 44) → widthFields (joinComma fs) = fs.map trimWs
  | [], h, _ => absurd rfl h
  | [f], _, hc => by
    have := splitOnChar_append 44 (rest := []) rfl f (hc f List.mem_cons_self)
    rw [List.append_nil] at this
    rw [joinComma, widthFields, this]
  | f :: g :: r, _, hc => by
    have ⟨hf, hr⟩ := List.forall_mem_cons.mp hc
    have ih := widthFields_joinComma (g :: r) (List.cons_ne_nil _ _) hr
    rw [widthFields] at ih
    cases hs : splitOnChar 44 (joinComma (g :: r)) with
    | nil => exact absurd hs (splitOnChar_ne_nil 44 _)
    | cons w ws =>
      -- the field after the comma starts with the blank written by `joinComma`
      have h1 : splitOnChar 44 (32 :: joinComma (g :: r)) = (32 :: w) :: ws :=
        splitOnChar_append 44 hs [32] (by decide)
      have h2 : splitOnChar 44 (44 :: 32 :: joinComma (g :: r)) = [] :: (32 :: w) :: ws := by
        rw [splitOnChar, if_pos rfl, h1]
      rw [hs] at ih
      rw [joinComma, widthFields, splitOnChar_append 44 h2 f hf, List.append_nil, List.map_cons,
        List.map_cons, trimWs_space, ← List.map_cons, ih]
      rfl

theorem sfSpec_pos (code : Int) {sf : Int} (h : 0 < sf) : 0 < sfSpec code sf := by
  unfold sfSpec
  split
  · decide
  · split
    · split
      · assumption
      · exact h
    · split
      · decide
      · omega

theorem xnOverD_of_bounds {x n d : Int} (hn : n ≤ 65536) (hd0 : 0 < d) (hd : d ≤ 65536)
    (h1 : -maxDimen ≤ Int.tdiv (x * n) d) (h2 : Int.tdiv (x * n) d ≤ maxDimen) :
    xnOverD x n d = .ok (Int.tdiv (x * n) d) := by
  rw [xnOverD, if_neg (by omega), if_neg (by omega)]
  exact if_neg (by omega)

theorem scaleBySf_of_bounds (mp : Glue) (extra sf : Int)
    (b1 : 0 < sf) (b2 : sf ≤ 32767)
    (b3 : -maxDimen ≤ Int.tdiv (mp.st * sf) 1000) (b4 : Int.tdiv (mp.st * sf) 1000 ≤ maxDimen)
    (b5 : -maxDimen ≤ Int.tdiv (mp.sh * 1000) sf) (b6 : Int.tdiv (mp.sh * 1000) sf ≤ maxDimen) :
    scaleBySf mp extra sf =
      .ok { mp with w := if sf ≥ 2000 then mp.w + extra else mp.w,
                    st := Int.tdiv (mp.st * sf) 1000, sh := Int.tdiv (mp.sh * 1000) sf } := by
  rw [scaleBySf, xnOverD_of_bounds (by omega) (by decide) (by decide) b3 b4,
    xnOverD_of_bounds (by decide) b1 (by omega) b5 b6]

end C12
