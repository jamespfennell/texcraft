import TexcraftModel.Lemmas.C13

/-! C13: the scores of a word of letters are, position by position, a maximum over the visited
vertices (`aggregate_eq`); Liang's scores, the exception's scores and the absence of panics follow. -/
namespace C13

theorem items_term (ps es : List (List Char)) : ∀ it ∈ itemsOf ps es, Term it.ops := by
  intro it h
  rcases mem_itemsOf.1 h with ⟨p, _, rfl⟩ | ⟨e, _, rfl⟩
  · exact (patItem_stream p).term
  · obtain ⟨_, _, h⟩ := excItem_decode e; exact h

theorem items_bound (ps es : List (List Char)) :
    ∀ it ∈ itemsOf ps es, (decodeOps it.ops).length ≤ chCount it.key + 1 := by
  intro it h
  rcases mem_itemsOf.1 h with ⟨p, _, rfl⟩ | ⟨e, _, rfl⟩
  · rw [patItem_key, chCount_enc]; exact (patItem_stream p).length
  · obtain ⟨p', h1, _⟩ := excItem_decode e
    rw [excItem_key, chCount_enc, h1]
    simp [marks_length]

theorem bounded_build (ps es : List (List Char)) : Bounded (build ps es) :=
  bounded_of_inv _ _ (inv_build ps es) (items_term ps es) (items_bound ps es)

theorem byteLen_ge (w : List Char) : w.length ≤ byteLen w := by
  induction w with
  | nil => simp [byteLen]
  | cons c w ih =>
    have : 0 < c.utf8Size := Char.utf8Size_pos c
    simp only [byteLen, List.map_cons, List.sum_cons, List.length_cons] at ih ⊢
    omega

/-- Position 0 and the length `w.length` are `scores[0] = 0; scores.truncate(num_chars)`. -/
theorem aggregate_eq (h : Hyph) (hB : Bounded h) (lc : Char → Option Char)
    (w ls : List Char) (hl : w.mapM lc = some ls) :
    aggregateScores h lc w = some ((List.range w.length).map (fun i =>
      if i = 0 then 0 else maxOver (visited ls) (fun x => digitAt (val h x.2) x.1 i))) := by
  have hbl := byteLen_ge w
  obtain ⟨s, h1, h2, h3⟩ := forEachPattern_spec h hB lc w (List.replicate (byteLen w + 1) 0)
    (by simp; omega)
  have hlen' : s.length = byteLen w + 1 := by simpa using h2
  simp only [aggregateScores, h1]
  congr 1
  apply List.ext_getElem
  · simp [hlen']; omega
  · intro i hi1 hi2
    simp only [List.length_take, List.length_set] at hi1
    rw [List.getElem_take, List.getElem_set, List.getElem_map, List.getElem_range]
    by_cases hi0 : i = 0
    · simp [hi0]
    · have h0i : ¬ 0 = i := fun h => hi0 h.symm
      have := (h3 ls hl).2 i
      rw [getD_replicate_zero, Nat.zero_max, List.getD_eq_getElem?_getD,
        List.getElem?_eq_getElem (by omega)] at this
      simpa [h0i, hi0] using this

/-- No index is ever out of range, for any word (letters or not). -/
theorem aggregate_some (h : Hyph) (hB : Bounded h) (lc : Char → Option Char) (w : List Char) :
    ∃ s, aggregateScores h lc w = some s ∧ s.length = w.length := by
  have hbl := byteLen_ge w
  obtain ⟨s, h1, h2, _⟩ := forEachPattern_spec h hB lc w (List.replicate (byteLen w + 1) 0)
    (by simp; omega)
  refine ⟨_, by rw [aggregateScores, h1], ?_⟩
  simp [h2]; omega

theorem visited_eq_liang (ps es : List (List Char)) (ls : List Char) (hne : ls ≠ [])
    (hwf : ∀ p ∈ ps, wellFormed p = true)
    (hnd : ((ps.map parsePat).map Pat.key).Nodup)
    (hex : findException es ls = none) (i : Nat) :
    maxOver (visited ls) (fun x => digitAt (val (build ps es) x.2) x.1 i)
      = liangAt (ps.map parsePat) ls i := by
  have hI := inv_build ps es
  have hT := items_term ps es
  have hnoexc : ∀ o, ∀ e ∈ es, (o, (excItem e).key) ∉ visited ls := by
    intro o e he hv
    rw [excItem_key] at hv
    exact findException_none es ls hex e he ((exc_mem_visited ls o _).1 hv).2
  unfold liangAt
  apply Nat.le_antisymm
  · -- a visited vertex with a value holds the newest item of its key, which is a pattern (no
    -- exception's vertex is visited) that matches there
    rw [maxOver_le_iff]
    rintro ⟨o, π⟩ hx
    simp only
    rcases val_cases _ _ hI hT π with h0 | ⟨it, hit, rfl, _, h2⟩
    · rw [h0, digitAt_nil]; exact Nat.zero_le _
    · rw [h2]
      rcases mem_itemsOf.1 hit with ⟨p, hp, rfl⟩ | ⟨e, he, rfl⟩
      · rw [patItem_key] at hx
        have hm := (visited_iff_matches ls hne (parsePat p) o).1 hx
        have ho : o ≤ ls.length := by
          rcases (mem_visited ls o _).1 hx with ⟨rfl, _⟩ | ⟨h, _⟩ <;> omega
        have : digitAt (decodeOps (patItem p).ops) o i = contrib (parsePat p) ls o i := by
          rw [contrib_eq, if_pos hm, patItem_digitAt p (hwf p hp)]
        rw [this]
        refine Nat.le_trans ?_ (le_maxOver _ _ (parsePat p) (List.mem_map_of_mem hp))
        exact le_maxOver _ (fun o => contrib (parsePat p) ls o i) o (List.mem_range.2 (by omega))
      · exact absurd hx (hnoexc o e he)
  · -- a matching pattern's key is visited, and it is the newest item of that key because keys are
    -- distinct
    rw [maxOver_le_iff]
    intro P hP
    rw [maxOver_le_iff]
    intro o _
    obtain ⟨p, hp, rfl⟩ := List.mem_map.1 hP
    rw [contrib_eq]
    split
    next hm =>
      have hv := (visited_iff_matches ls hne (parsePat p) o).2 hm
      rw [← patItem_key] at hv
      have hL : (patItem p).key ≠ [] := by
        rw [patItem_key]; exact enc_ne_nil _ _ _ ((matchesAt_iff _ _ _).1 hm).1
      have hnew : newest (itemsOf ps es) (patItem p).key = some (patItem p) := by
        rw [itemsOf, newest_append, (newest_eq_none_iff _ _).2, Option.none_or]
        · refine newest_nodup (ps.map patItem) ?_ (patItem p) (List.mem_map_of_mem hp)
          simpa [List.map_map, Function.comp_def, patItem_key'] using hnd
        · intro y hy hky
          obtain ⟨e, he, rfl⟩ := List.mem_map.1 hy
          exact hnoexc o e he (hky ▸ hv)
      have hval : val (build ps es) (patItem p).key = decodeOps (patItem p).ops := by
        rw [val_eq _ _ hI hT, if_neg hL, hnew]; rfl
      rw [← patItem_digitAt p (hwf p hp), ← hval]
      exact le_maxOver (visited ls) (fun x => digitAt (val (build ps es) x.2) x.1 i) _ hv
    next => exact Nat.zero_le _

theorem trueIdx_ge (l : List Bool) (k : Nat) : ∀ x ∈ trueIdx k l, k ≤ x := by
  induction l generalizing k with
  | nil => intro x h; cases h
  | cons b l ih =>
    intro x h
    cases b
    · simp only [trueIdx] at h
      have := ih (k + 1) x (by simpa using h); omega
    · simp only [trueIdx, if_true, List.mem_cons] at h
      rcases h with rfl | h
      · exact Nat.le_refl _
      · have := ih (k + 1) x h; omega

theorem oddIdx_listed (l : List Bool) :
    oddIdx 0 ((l.map code).set 0 0) = (trueIdx 0 l).filter (fun i => decide (0 < i)) := by
  cases l with
  | nil => rfl
  | cons b l =>
    have hf : (trueIdx 1 l).filter (fun i => decide (0 < i)) = trueIdx 1 l := by
      rw [List.filter_eq_self]
      intro x hx; have := trueIdx_ge l 1 x hx; simp; omega
    simp only [List.map_cons, List.set_cons_zero, oddIdx]
    rw [show (0 + 1 = 1) from rfl, oddIdx_codes]
    cases b <;> simp [trueIdx, hf]

theorem exception_scores (ps es : List (List Char)) (lc : Char → Option Char)
    (w ls e : List Char) (hl : w.mapM lc = some ls) (hex : findException es ls = some e) :
    aggregateScores (build ps es) lc w = some (((marks e false).map code).set 0 0) := by
  have hml : (marks e false).length = ls.length := by
    rw [marks_length, findException_strip es ls e hex]
  rw [aggregate_eq _ (bounded_build ps es) lc w ls hl, ← mapM_length lc w ls hl]
  congr 1
  apply List.ext_getElem
  · simp [hml]
  · intro i hi1 hi2
    have hi : i < ls.length := by simpa using hi1
    have hne : ls ≠ [] := by intro h; rw [h] at hi; cases hi
    rw [List.getElem_map, List.getElem_range, List.getElem_set]
    by_cases hi0 : i = 0
    · simp [hi0]
    · have h0i : ¬ 0 = i := fun h => hi0 h.symm
      simp only [hi0, h0i, if_false]
      have hI := inv_build ps es
      have hT := items_term ps es
      obtain ⟨pend, hdec, _⟩ := excItem_decode e
      have hnew : newest (itemsOf ps es) (enc true ls true) = some (excItem e) := by
        unfold itemsOf; rw [newest_append, newest_exc, hex]; rfl
      have hval : val (build ps es) (enc true ls true) = decodeOps (excItem e).ops := by
        rw [val_eq _ _ hI hT, if_neg (enc_ne_nil _ _ _ hne), hnew]; rfl
      have hic : i < ((marks e false).map code).length := by simp [hml, hi]
      have hci : (decodeOps (excItem e).ops).getD i 0 = ((marks e false).map code)[i] := by
        rw [hdec, List.getD_eq_getElem?_getD, List.getElem?_append_left (by simp; omega),
          List.getElem?_eq_getElem (by simp; omega)]; rfl
      have hge : 12 ≤ ((marks e false).map code)[i] := by
        rw [List.getElem_map]; exact le_code _
      -- the exception's vertex is visited at offset 0 and holds codes ≥ 12; every other visited
      -- vertex holds pattern digits ≤ 9 or is that same vertex
      apply Nat.le_antisymm
      · rw [maxOver_le_iff]
        rintro ⟨o, π⟩ hx
        simp only
        rcases val_cases _ _ hI hT π with h0 | ⟨it, hit, hk, hn1, hn2⟩
        · rw [h0, digitAt_nil]; exact Nat.zero_le _
        · rw [hn2]
          rcases mem_itemsOf.1 hit with ⟨p, _, rfl⟩ | ⟨e', _, rfl⟩
          · have := digitAt_le _ 9 (patItem_stream p).digits_le o i
            omega
          · -- an exception's vertex is visited only for the whole word: it is `e`'s
            rw [excItem_key] at hk
            rw [← hk] at hx
            obtain ⟨rfl, hL⟩ := (exc_mem_visited ls o _).1 hx
            rw [← hk, hL, hnew] at hn1
            rw [← Option.some.inj hn1, digitAt_zero, hci]
            exact Nat.le_refl _
      · have := le_maxOver (visited ls) (fun x => digitAt (val (build ps es) x.2) x.1 i)
          (0, enc true ls true) ((exc_mem_visited ls 0 ls).2 ⟨rfl, rfl⟩)
        simpa only [hval, digitAt_zero, hci] using this

end C13
