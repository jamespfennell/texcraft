/-
C11 — words: what a reader learns from one written word (`encodeWord_spec`: the instruction up to a
redirect word's flag and right-character byte, the skip byte 255 test = `skip255`, the restart address),
and from a whole written program (`decodeRaw_encode`: the instructions, and the boundary data exactly as
`pack_boundary`'s `readRb`/`readLb` describe them).
-/
import TexcraftModel.Model.C11
import TexcraftModel.Model.C11Words

namespace C11

theorem decodePost_encodePost : ∀ p < 8, decodePost (encodePost p) = p := by decide

theorem encodePost_lt (p : Nat) : encodePost p < 128 := by
  unfold encodePost
  split <;> decide

theorem encodeWord_ok {rb : Option Nat} {i : Instr} {w : Word} (he : encodeWord rb i = some w) :
    wordOk i = true := by
  simp only [encodeWord] at he
  split at he
  · simp at he
  · rename_i h; simpa using h

theorem next_getD (next : Option Nat) (h : (match next with | none => true | some s => decide (s < 128)) = true) :
    ¬ next.getD 128 > 128 ∧ (if next.getD 128 < 128 then some (next.getD 128) else none) = next := by
  cases next with
  | none => simp
  | some s => simp at h; simp [h]; omega

/-- What the reader makes of a written redirect word: the flag is not stored. -/
def flagTrue (i : Instr) : Instr :=
  { i with op := match i.op with | .redirect u _ => .redirect u true | op => op }

/-- A redirect word whose right-character field is the byte the serialiser writes there. -/
def rightOk (rb : Option Nat) (i : Instr) : Bool :=
  match i.op with
  | .redirect _ true => i.right == rb.getD 0
  | .redirect _ false => i.right == 0
  | _ => true

theorem rightOk_of_not_redirect (rb : Option Nat) {i : Instr} (h : i.op.isRedirect = false) :
    rightOk rb i = true := by
  obtain ⟨n, r, op⟩ := i
  cases op with
  | redirect u f => cases h
  | _ => rfl

/-- What `rawLb` and `rawRb` take from a word, and `readLb` and `readRb` from an instruction. -/
def wordLb (w : Word) : Option Nat := if w.b0 = 255 then some (256 * w.b2 + w.b3) else none
def wordRb (w : Word) : Option Nat := if w.b0 = 255 then some w.b1 else none
def instrLb (rb : Option Nat) (i : Instr) : Option Nat :=
  if skip255 rb i then (match i.op with | .redirect u _ => some u | _ => none) else none
def instrRb (rb : Option Nat) (i : Instr) : Option Nat := if skip255 rb i then some i.right else none

/-- The right character is given as the byte `w.b1`: in a redirect word the serialiser puts the boundary
character or 0 there, whatever `i.right` is; `rightOk` says when the two agree. -/
theorem encodeWord_spec {rb : Option Nat} {i : Instr} {w : Word} (he : encodeWord rb i = some w) :
    decodeWord w = ⟨(flagTrue i).next, w.b1, (flagTrue i).op⟩ ∧ (rightOk rb i = true → w.b1 = i.right) ∧
      ((w.b0 = 255) ↔ skip255 rb i = true) ∧ wordLb w = instrLb rb i := by
  have hok := encodeWord_ok he
  simp only [encodeWord, hok, Bool.not_true, Bool.false_eq_true, if_false] at he
  obtain ⟨next, right, op⟩ := i
  simp only [wordOk, Bool.and_eq_true, decide_eq_true_eq] at hok
  obtain ⟨⟨hnext, _⟩, hopk⟩ := hok
  have hn := next_getD next hnext
  cases op with
  | kern k => simp at hopk
  | kernAt idx =>
    simp only [decide_eq_true_eq] at hopk
    simp only [Option.some.injEq] at he
    subst he
    have h2 : idx / 256 + 128 ≥ 128 := by omega
    refine ⟨?_, fun _ => rfl, ?_, ?_⟩
    · simp only [decodeWord, hn.1, if_false, h2, if_true, hn.2, flagTrue, Instr.mk.injEq, true_and, Op.kernAt.injEq]
      omega
    · simp only [skip255, Bool.false_eq_true, iff_false]; omega
    · simp only [wordLb, instrLb, skip255, Bool.false_eq_true, if_false, ite_eq_right_iff]; omega
  | lig c p =>
    simp only [Bool.and_eq_true, decide_eq_true_eq] at hopk
    simp only [Option.some.injEq] at he
    subst he
    have h2 : ¬ encodePost p ≥ 128 := by have := encodePost_lt p; omega
    refine ⟨?_, fun _ => rfl, ?_, ?_⟩
    · simp only [decodeWord, hn.1, if_false, h2, decodePost_encodePost p hopk.2, hn.2, flagTrue]
    · simp only [skip255, Bool.false_eq_true, iff_false]; omega
    · simp only [wordLb, instrLb, skip255, Bool.false_eq_true, if_false, ite_eq_right_iff]; omega
  | redirect u flag =>
    simp only [Bool.and_eq_true, decide_eq_true_eq, Option.isNone_iff_eq_none] at hopk
    obtain ⟨hu, rfl⟩ := hopk
    simp only [Option.some.injEq] at he
    subst he
    have := Nat.div_add_mod u 256
    -- with `this` in the simp set what is left is `right = c → c = right`; `omega` on the conjunctions that are left
    -- without it goes through `Classical.choice`
    cases flag <;> cases rb <;> simp [decodeWord, flagTrue, rightOk, skip255, wordLb, instrLb, this] <;> exact Eq.symm

theorem mapM_map {α β γ : Type} {f : α → Option β} {g : β → γ} {g' : α → γ} :
    ∀ {l : List α} {ws : List β}, l.mapM f = some ws → (∀ a ∈ l, ∀ b, f a = some b → g b = g' a) →
      ws.map g = l.map g'
  | [], ws, h, _ => by cases h; rfl
  | a :: t, ws, h, hp => by
    rw [List.mapM_cons] at h
    cases ha : f a with
    | none => simp [ha] at h
    | some w =>
      cases ht : t.mapM f with
      | none => simp [ha, ht] at h
      | some ws' =>
        simp only [ha, ht, Option.pure_def, Option.bind_eq_bind, Option.bind_some, Option.some.injEq] at h
        subst h
        rw [List.map_cons, List.map_cons, hp a (List.mem_cons_self ..) w ha,
          mapM_map ht fun a' ha' => hp a' (List.mem_cons_of_mem _ ha')]

theorem rawLb_eq (ws : List Word) : rawLb ws = (ws.map wordLb).getLast?.join := by
  rw [List.getLast?_map, rawLb]; cases ws.getLast? <;> rfl

theorem readLb_eq (rb : Option Nat) (l : List Instr) : readLb rb l = (l.map (instrLb rb)).getLast?.join := by
  rw [List.getLast?_map, readLb]; cases l.getLast? <;> rfl

theorem rawRb_eq (ws : List Word) : rawRb ws = (ws.map wordRb).head?.join := by
  cases ws <;> rfl

theorem readRb_eq (rb : Option Nat) (l : List Instr) : readRb rb l = (l.map (instrRb rb)).head?.join := by
  cases l <;> rfl

theorem decodeRaw_encode (rb : Option Nat) (l : List Instr) (ws : List Word)
    (hr : ∀ i ∈ l, rightOk rb i = true) (h : l.mapM (encodeWord rb) = some ws) :
    decodeRaw ws = ⟨l.map flagTrue, readLb rb l, readRb rb l⟩ := by
  have e1 : ws.map decodeWord = l.map flagTrue := mapM_map h fun i hi w hw => by
    obtain ⟨h1, h2, _⟩ := encodeWord_spec hw
    rw [h1, h2 (hr i hi)]
    rfl
  have e2 : ws.map wordLb = l.map (instrLb rb) := mapM_map h fun i _ w hw => (encodeWord_spec hw).2.2.2
  have e3 : ws.map wordRb = l.map (instrRb rb) := mapM_map h fun i hi w hw => by
    obtain ⟨_, h2, h3, _⟩ := encodeWord_spec hw
    simp only [wordRb, instrRb, h3, h2 (hr i hi)]
  rw [decodeRaw, e1, rawLb_eq, e2, rawRb_eq, e3, ← readLb_eq, ← readRb_eq]

end C11
