/-
C11 — `pack_entrypoints`: the boundary data survive (what the `.tfm` reader recovers from
the packed words), and the PL-level view (`stripRedirects`, `plIndex`) of a table with redirect words
put around it is the table; `C11.Thm.pack_idempotent` (`Props/C11.lean`) reads off that the round trip
through a property list reproduces the input of `pack`.
-/
import TexcraftModel.Model.C11
import TexcraftModel.Lemmas.C11Pack

namespace C11

theorem chain_subset (l : List Instr) : ∀ (e : Nat), ∀ i ∈ chain e l, i ∈ l := by
  intro e
  fun_induction chain e l with
  | case1 => exact fun _ h => h
  | case2 a rest ih =>
    intro i hi
    rcases List.mem_cons.mp hi with rfl | hi
    · exact List.mem_cons_self
    · cases hn : a.next with
      | none => simp [hn] at hi
      | some inc => exact List.mem_cons_of_mem _ (ih inc i (by simpa [hn] using hi))
  | case3 s a rest ih => exact fun i hi => List.mem_cons_of_mem _ (ih i hi)

theorem skip255_of_not_redirect {rb : Option Nat} {x : Instr} (h : x.op.isRedirect = false) :
    skip255 rb x = false := by
  cases hx : x.op <;> simp_all [skip255, Op.isRedirect]

theorem readRb_framed {p : Prog} {F Q : List Instr} (hf : PackFrame p F Q) (hnr : noRedirect p.instrs = true)
    (hlb : ∀ l, p.lb = some l → l < p.instrs.length) : readRb p.rb (F ++ p.instrs ++ Q) = p.rb := by
  cases hF : F with
  | cons f F' =>
    obtain ⟨_, hr, u, hu⟩ := hf.front f (hF ▸ List.mem_cons_self ..)
    cases hrb : p.rb <;> simp [readRb, skip255, hu, hr, hrb]
  | nil =>
    -- nothing in front: no boundary char, and word 0 is an original word or the table is empty
    have hrb : p.rb = none := by
      cases hrb : p.rb with
      | none => rfl
      | some c => exact absurd hF (hf.carrier (by simp [hrb]))
    rw [hrb]
    cases hI : p.instrs with
    | cons x I' =>
      simp [readRb, skip255_of_not_redirect (rb := none) (not_redirect_of_mem hnr (hI ▸ List.mem_cons_self ..))]
    | nil =>
      cases hl : p.lb with
      | none => simp [readRb, hf.post, hl]
      | some l => exact absurd (hI ▸ hlb l hl) (Nat.not_lt_zero _)

/-- The reader finds the left-boundary entry point of the packed program, except that it takes the
boundary-char carrier of an empty program for a left-boundary word. -/
theorem readLb_framed {p : Prog} {F Q : List Instr} (hf : PackFrame p F Q) (hnr : noRedirect p.instrs = true) :
    readLb p.rb (F ++ p.instrs ++ Q) = p.lb.map (F.length + ·) ∨ (p.lb = none ∧ p.instrs = []) := by
  cases hl : p.lb with
  | some l =>
    have hlast : (F ++ p.instrs ++ Q).getLast? = some (lbInstr (F.length + l)) := by simp [hf.post, hl]
    simp only [readLb, hlast]
    simp [skip255, lbInstr]
  | none =>
    have hQ : Q = [] := by simp [hf.post, hl]
    cases hI : p.instrs.getLast? with
    | none => exact Or.inr ⟨rfl, List.getLast?_eq_none_iff.mp hI⟩
    | some x =>
      have hlast : (F ++ p.instrs ++ Q).getLast? = some x := by
        rw [hQ, List.append_nil, List.getLast?_append, hI]; simp
      have := skip255_of_not_redirect (rb := p.rb) (not_redirect_of_mem hnr (List.mem_of_getLast? hI))
      simp only [readLb, hlast]
      simp [this]

theorem pack_boundary {p : Prog} {entries : List (Nat × Nat)} {P : Prog} {pe : List (Nat × Nat)}
    (h : pack p entries = some (P, pe)) (hwf : wf p entries = true) : boundaryOk p P = true := by
  obtain ⟨F, Q, _, hf, rfl, _, _⟩ := pack_spec h hwf
  obtain ⟨hnr, hcl, _, hlb⟩ := wf_parts hwf
  simp only [boundaryOk, framed, beq_self_eq_true, Bool.true_and, readRb_framed hf hnr hlb]
  rcases readLb_framed hf hnr with hr | ⟨hl, hI⟩
  · rw [hr]
    cases hl : p.lb with
    | none => simp
    | some l =>
      have := chain_embedded F p.instrs Q l hcl (hlb l hl)
      rw [List.append_assoc] at this
      simp [this]
  · -- only words in front: whatever the reader finds there, its chain holds redirect words only
    have hQ : Q = [] := by simp [hf.post, hl]
    simp only [hl, hI, hQ, List.append_nil, Option.map_none, beq_self_eq_true, Bool.true_and]
    cases readLb p.rb F with
    | none => rfl
    | some l' => exact List.all_eq_true.mpr fun i hi => hf.front_redirect i (chain_subset _ _ i hi)

/-- What `tfm_to_pl` prints and `pl_to_tfm` reads back as the instruction list: the redirect
words are omitted (`build_lig_kern_op` returns `None`, pl/mod.rs:780; pass-through words are
skipped, pl/mod.rs:850). -/
def stripRedirects (l : List Instr) : List Instr := l.filter (fun i => !i.op.isRedirect)

/-- The position a label printed in front of word `e` has when the text is read back:
the number of non-redirect words before it. -/
def plIndex (l : List Instr) (e : Nat) : Nat := (stripRedirects (l.take e)).length

theorem stripRedirects_append (A B : List Instr) :
    stripRedirects (A ++ B) = stripRedirects A ++ stripRedirects B := List.filter_append ..

theorem stripRedirects_redirects {F : List Instr} (h : ∀ i ∈ F, i.op.isRedirect = true) : stripRedirects F = [] := by
  simp only [stripRedirects, List.filter_eq_nil_iff]
  intro i hi
  simp [h i hi]

theorem stripRedirects_noRedirect {I : List Instr} (h : noRedirect I = true) : stripRedirects I = I := by
  simp only [stripRedirects, List.filter_eq_self]
  intro i hi
  simp [not_redirect_of_mem h hi]

theorem noRedirect_take {I : List Instr} (h : noRedirect I = true) (e : Nat) : noRedirect (I.take e) = true := by
  simp only [noRedirect, List.all_eq_true] at h ⊢
  intro i hi
  exact h i (List.mem_of_mem_take hi)

theorem stripRedirects_embedded (F I Q : List Instr) (hF : ∀ i ∈ F, i.op.isRedirect = true)
    (hQ : ∀ i ∈ Q, i.op.isRedirect = true) (hI : noRedirect I = true) :
    stripRedirects (F ++ I ++ Q) = I := by
  rw [stripRedirects_append, stripRedirects_append, stripRedirects_redirects hF, stripRedirects_redirects hQ,
    stripRedirects_noRedirect hI, List.nil_append, List.append_nil]

theorem plIndex_embedded (F I Q : List Instr) (e : Nat) (hF : ∀ i ∈ F, i.op.isRedirect = true)
    (hI : noRedirect I = true) (he : e ≤ I.length) : plIndex (F ++ I ++ Q) (F.length + e) = e := by
  rw [plIndex, List.append_assoc, List.take_length_add_append, List.take_append_of_le_length he,
    stripRedirects_append, stripRedirects_redirects hF, stripRedirects_noRedirect (noRedirect_take hI e),
    List.nil_append, List.length_take, Nat.min_eq_left he]

end C11
