import TexcraftModel.Model.C07

/-! # C07 — lemmas about the conditional machine, the specifications and `\expandafter`

The skipping loops are characterised once, on raw token lists (`skip_raw`, `skip_rawAny`); the
delivering machine once, on derivations of `Delivers` (`delivers_run`). Everything about trees
(`Text`, `Cases`) follows through `delivers_flatten` and `rawDepth_text`. `\expandafter`:
`xaOptLoop_eq`. -/
namespace C07

theorem ifodd_iff_not_dvd (n : Int) : ifodd n = true ↔ ¬ (2 ∣ n) := by
  unfold ifodd
  rw [bne_iff_ne]
  exact not_congr ⟨Int.dvd_of_tmod_eq_zero, Int.tmod_eq_zero_of_dvd⟩

theorem ifoddPre_iff (n : Int) : ifoddPreFix n = true ↔ (0 ≤ n ∧ n % 2 ≠ 0) := by
  unfold ifoddPreFix
  rw [beq_iff_eq]
  by_cases h : 0 ≤ n
  · rw [Int.tmod_eq_emod_of_nonneg h]; omega
  · -- Rust's remainder of a negative number is not positive
    have hneg := Int.tmod_nonneg 2 (show 0 ≤ -n by omega)
    rw [Int.neg_tmod] at hneg
    omega

/-- `n as i16` -/
def wrapI16 (n : Int) : Int := (n + 32768) % 65536 - 32768

theorem ifnum_iff (a b : Int) :
    (ifnum a .lt b = true ↔ a < b) ∧ (ifnum a .eq b = true ↔ a = b) ∧ (ifnum a .gt b = true ↔ a > b) := by
  unfold ifnum
  rcases Int.lt_trichotomy a b with h | h | h
  · rw [Int.compare_eq_lt.2 h]
    exact ⟨iff_of_true rfl h, iff_of_false Bool.false_ne_true (Int.ne_of_lt h),
      iff_of_false Bool.false_ne_true (Int.lt_asymm h)⟩
  · rw [Int.compare_eq_eq.2 h]
    exact ⟨iff_of_false Bool.false_ne_true (h ▸ Int.lt_irrefl a), iff_of_true rfl h,
      iff_of_false Bool.false_ne_true (h ▸ Int.lt_irrefl a)⟩
  · rw [Int.compare_eq_gt.2 h]
    exact ⟨iff_of_false Bool.false_ne_true (Int.lt_asymm h),
      iff_of_false Bool.false_ne_true (Int.ne_of_gt h), iff_of_true rfl h⟩

theorem evalTest_holds (c : Test) : evalTest c = true ↔ c.holds := by
  cases c with
  | tt => exact ⟨fun _ => trivial, fun _ => rfl⟩
  | ff => exact ⟨nofun, False.elim⟩
  | odd n => exact ifodd_iff_not_dvd n
  | num a r b =>
    cases r
    · exact (ifnum_iff a b).1
    · exact (ifnum_iff a b).2.1
    · exact (ifnum_iff a b).2.2

theorem evalTest_false {c : Test} (h : ¬ c.holds) : evalTest c = false :=
  Bool.eq_false_iff.2 fun e => h ((evalTest_holds c).1 e)

/-- The four loops that skip to a `\fi`, as functions of their depth counter. -/
def IsSkip (mk : Int → Mode) : Prop :=
  mk = Mode.skipFalse ∨ (∃ left, mk = Mode.skipCase left) ∨ mk = Mode.skipOr ∨ mk = Mode.skipElse

theorem isSkip_false : IsSkip Mode.skipFalse := Or.inl rfl
theorem isSkip_case (l : Int) : IsSkip (Mode.skipCase l) := Or.inr (Or.inl ⟨l, rfl⟩)
theorem isSkip_or : IsSkip Mode.skipOr := Or.inr (Or.inr (Or.inl rfl))
theorem isSkip_else : IsSkip Mode.skipElse := Or.inr (Or.inr (Or.inr rfl))

theorem IsSkip.of_any {mk : Int → Mode} (h : mk = Mode.skipOr ∨ mk = Mode.skipElse) : IsSkip mk :=
  Or.inr (Or.inr h)

theorem run_nil (s : St) : run s [] = finish s := rfl

theorem run_cons (s : St) (t : Tok) (ts : List Tok) :
    run s (t :: ts) = match step s t with | .ok s' => run s' ts | .error e => .error e := rfl

theorem step_skip_plain {mk} (h : IsSkip mk) (st g o) (d : Int) (p : Plain) :
    step ⟨st, mk d, g, o⟩ p.tok = .ok ⟨st, mk d, g, o⟩ := by
  rcases h with rfl | ⟨l, rfl⟩ | rfl | rfl <;> cases p <;> rfl

theorem step_skip_iff {mk} (h : IsSkip mk) (st g o) (d : Int) (c : Test) :
    step ⟨st, mk d, g, o⟩ (.iff c) = .ok ⟨st, mk (d + 1), g, o⟩ := by
  rcases h with rfl | ⟨l, rfl⟩ | rfl | rfl <;> rfl

theorem step_skip_ifcase {mk} (h : IsSkip mk) (st g o) (d : Int) (n : Int) :
    step ⟨st, mk d, g, o⟩ (.ifcase n) = .ok ⟨st, mk (d + 1), g, o⟩ := by
  rcases h with rfl | ⟨l, rfl⟩ | rfl | rfl <;> rfl

theorem fiClause_pos (s : St) (d : Int) (again : Int → Mode) (hd : 1 ≤ d) :
    fiClause s d again = { s with mode := again (d - 1) } :=
  if_neg (by omega)

theorem step_skip_fi {mk} (h : IsSkip mk) (st g o) (d : Int) (hd : 1 ≤ d) :
    step ⟨st, mk d, g, o⟩ .fi = .ok ⟨st, mk (d - 1), g, o⟩ := by
  rcases h with rfl | ⟨l, rfl⟩ | rfl | rfl <;> exact congrArg Except.ok (fiClause_pos _ d _ hd)

theorem step_skip_fi0 {mk} (h : IsSkip mk) (st g o) :
    step ⟨st, mk 0, g, o⟩ .fi = .ok ⟨st, .deliver, g, o⟩ := by
  rcases h with rfl | ⟨l, rfl⟩ | rfl | rfl <;> rfl

/-- Below the loop's own level the `depth == 0` tests of the `\iffalse` and `\ifcase` loops at
`\else` and `\or` fail; the other loops have none. -/
theorem step_skip_els {mk} (h : IsSkip mk) (st g o) (d : Int) (hd : 1 ≤ d) :
    step ⟨st, mk d, g, o⟩ .els = .ok ⟨st, mk d, g, o⟩ := by
  have h1 : ¬ ((d == 0) = true) := by simp; omega
  rcases h with rfl | ⟨l, rfl⟩ | rfl | rfl
  · exact if_neg h1
  · exact if_neg h1
  · rfl
  · rfl

theorem step_skip_orr {mk} (h : IsSkip mk) (st g o) (d : Int) (hd : 1 ≤ d) :
    step ⟨st, mk d, g, o⟩ .orr = .ok ⟨st, mk d, g, o⟩ := by
  rcases h with rfl | ⟨l, rfl⟩ | rfl | rfl
  · rfl
  · exact if_neg (by simp; omega)
  · rfl
  · rfl

theorem step_skipAny_els {mk} (h : mk = Mode.skipOr ∨ mk = Mode.skipElse) (st g o) (d : Int) :
    step ⟨st, mk d, g, o⟩ .els = .ok ⟨st, mk d, g, o⟩ := by
  rcases h with rfl | rfl <;> rfl

theorem step_skipAny_orr {mk} (h : mk = Mode.skipOr ∨ mk = Mode.skipElse) (st g o) (d : Int) :
    step ⟨st, mk d, g, o⟩ .orr = .ok ⟨st, mk d, g, o⟩ := by
  rcases h with rfl | rfl <;> rfl

theorem step_deliver_iff (st g o) (c : Test) :
    step ⟨st, .deliver, g, o⟩ (.iff c) =
      if evalTest c then .ok ⟨.tru :: st, .deliver, g, o⟩ else .ok ⟨st, .skipFalse 0, g, o⟩ := rfl

theorem step_deliver_ifcase (st g o) (n : Int) :
    step ⟨st, .deliver, g, o⟩ (.ifcase n) =
      if n == 0 then .ok ⟨.switch :: st, .deliver, g, o⟩ else .ok ⟨st, .skipCase n 0, g, o⟩ := rfl

theorem step_case_or {n : Int} (hn : n ≠ 0) (st g o) :
    step ⟨st, .skipCase n 0, g, o⟩ .orr =
      step ⟨st, .deliver, g, o⟩ (.ifcase (if n > 0 then n - 1 else n)) := by
  by_cases hpos : n > 0
  · -- the test `depth == 0 && left > 0` succeeds; what follows it is the clause of `\ifcase (n - 1)`
    rw [if_pos hpos]
    exact if_pos (by simpa using hpos)
  · -- the test fails and the loop goes on, which is also where `\ifcase n` starts
    have h0 : ¬ ((n == 0) = true) := by simpa using hn
    rw [if_neg hpos]
    exact (if_neg (by simpa using hpos)).trans (if_neg h0).symm

theorem run_ifcase_zero (st g o) (l : List Tok) :
    run ⟨st, .deliver, g, o⟩ (.ifcase 0 :: l) = run ⟨.switch :: st, .deliver, g, o⟩ l := rfl

theorem run_ifcase_ne {n : Int} (hn : n ≠ 0) (st g o) (l : List Tok) :
    run ⟨st, .deliver, g, o⟩ (.ifcase n :: l) = run ⟨st, .skipCase n 0, g, o⟩ l := by
  have h : ¬ ((n == 0) = true) := by simpa using hn
  rw [run_cons, step_deliver_ifcase, if_neg h]

@[elab_as_elim] theorem Tok.plainCases {motive : Tok → Prop} (plain : ∀ p : Plain, motive p.tok)
    (iff : ∀ c, motive (.iff c)) (ifcase : ∀ n, motive (.ifcase n)) (els : motive .els) (orr : motive .orr)
    (fi : motive .fi) : ∀ t, motive t
  | .other n => plain (.other n)
  | .bg => plain .bg
  | .eg => plain .eg
  | .iff c => iff c
  | .ifcase n => ifcase n
  | .els => els
  | .orr => orr
  | .fi => fi

theorem rawDepth_plain (k : Nat) (p : Plain) (l : List Tok) : rawDepth k (p.tok :: l) = rawDepth k l := by
  cases p <;> rfl

theorem rawDepthAny_plain (k : Nat) (p : Plain) (l : List Tok) : rawDepthAny k (p.tok :: l) = rawDepthAny k l := by
  cases p <;> rfl

theorem skip_raw {mk} (h : IsSkip mk) (st g o) : ∀ (l : List Tok) (k k' : Nat) (d : Int) (rest : List Tok),
    0 ≤ d → rawDepth k l = some k' →
    run ⟨st, mk (d + k), g, o⟩ (l ++ rest) = run ⟨st, mk (d + k'), g, o⟩ rest
  | [], k, k', d, rest, _, hr => by cases hr; rfl
  | t :: ts, k, k', d, rest, hd, hr => by
    rw [List.cons_append, run_cons]
    cases t using Tok.plainCases with
    | plain p =>
      rw [step_skip_plain h]
      exact skip_raw h st g o ts k k' d rest hd ((rawDepth_plain k p ts).symm.trans hr)
    | iff c =>
      rw [step_skip_iff h, Int.add_assoc]
      exact skip_raw h st g o ts (k + 1) k' d rest hd hr
    | ifcase n =>
      rw [step_skip_ifcase h, Int.add_assoc]
      exact skip_raw h st g o ts (k + 1) k' d rest hd hr
    | els =>
      cases k with
      | zero => cases hr
      | succ j =>
        rw [step_skip_els h st g o _ (by omega)]
        exact skip_raw h st g o ts (j + 1) k' d rest hd hr
    | orr =>
      cases k with
      | zero => cases hr
      | succ j =>
        rw [step_skip_orr h st g o _ (by omega)]
        exact skip_raw h st g o ts (j + 1) k' d rest hd hr
    | fi =>
      cases k with
      | zero => cases hr
      | succ j =>
        rw [step_skip_fi h st g o _ (by omega),
          show d + ((j + 1 : Nat) : Int) - 1 = d + (j : Int) by omega]
        exact skip_raw h st g o ts j k' d rest hd hr

theorem skip_balanced {mk} (h : IsSkip mk) (st g o) (l : List Tok) (d : Int) (rest : List Tok)
    (hd : 0 ≤ d) (hl : rawDepth 0 l = some 0) :
    run ⟨st, mk d, g, o⟩ (l ++ rest) = run ⟨st, mk d, g, o⟩ rest := by
  simpa using skip_raw h st g o l 0 0 d rest hd hl

theorem skip_to_fi {mk} (h : IsSkip mk) (st g o) (l : List Tok) (k : Nat) (rest : List Tok)
    (hl : rawDepth k l = some 0) :
    run ⟨st, mk k, g, o⟩ (l ++ .fi :: rest) = run ⟨st, .deliver, g, o⟩ rest := by
  have := skip_raw h st g o l k 0 0 (.fi :: rest) (Int.le_refl 0) hl
  simp only [Int.zero_add, Int.natCast_zero] at this
  rw [this, run_cons, step_skip_fi0 h]

theorem skip_to_else {mk} (h : mk = Mode.skipFalse ∨ ∃ left, mk = Mode.skipCase left) (st g o)
    (l rest : List Tok) (hl : rawDepth 0 l = some 0) :
    run ⟨st, mk 0, g, o⟩ (l ++ .els :: rest) = run ⟨.els :: st, .deliver, g, o⟩ rest := by
  rcases h with rfl | ⟨left, rfl⟩
  · exact skip_balanced isSkip_false st g o l 0 _ (Int.le_refl 0) hl
  · exact skip_balanced (isSkip_case left) st g o l 0 _ (Int.le_refl 0) hl

theorem skip_to_or {n : Int} (hn : n ≠ 0) (st g o) (l rest : List Tok) (hl : rawDepth 0 l = some 0) :
    run ⟨st, .skipCase n 0, g, o⟩ (l ++ .orr :: rest) =
      run ⟨st, .deliver, g, o⟩ (.ifcase (if n > 0 then n - 1 else n) :: rest) := by
  rw [skip_balanced (isSkip_case n) st g o l 0 _ (Int.le_refl 0) hl, run_cons, step_case_or hn, ← run_cons]

theorem skip_rawAny {mk} (h : mk = Mode.skipOr ∨ mk = Mode.skipElse) (st g o) :
    ∀ (l : List Tok) (k k' : Nat) (rest : List Tok), rawDepthAny k l = some k' →
    run ⟨st, mk k, g, o⟩ (l ++ rest) = run ⟨st, mk k', g, o⟩ rest
  | [], k, k', rest, hr => by cases hr; rfl
  | t :: ts, k, k', rest, hr => by
    have hs : IsSkip mk := .of_any h
    rw [List.cons_append, run_cons]
    cases t using Tok.plainCases with
    | plain p =>
      rw [step_skip_plain hs]
      exact skip_rawAny h st g o ts k k' rest ((rawDepthAny_plain k p ts).symm.trans hr)
    | iff c =>
      rw [step_skip_iff hs]
      exact skip_rawAny h st g o ts (k + 1) k' rest hr
    | ifcase n =>
      rw [step_skip_ifcase hs]
      exact skip_rawAny h st g o ts (k + 1) k' rest hr
    | els =>
      rw [step_skipAny_els h]
      exact skip_rawAny h st g o ts k k' rest hr
    | orr =>
      rw [step_skipAny_orr h]
      exact skip_rawAny h st g o ts k k' rest hr
    | fi =>
      cases k with
      | zero => cases hr
      | succ j =>
        rw [step_skip_fi hs st g o _ (by omega), show ((j + 1 : Nat) : Int) - 1 = (j : Int) by omega]
        exact skip_rawAny h st g o ts j k' rest hr

theorem skipAny_to_fi {mk} (h : mk = Mode.skipOr ∨ mk = Mode.skipElse) (st g o) (l rest : List Tok)
    (hl : rawDepthAny 0 l = some 0) :
    run ⟨st, mk 0, g, o⟩ (l ++ .fi :: rest) = run ⟨st, .deliver, g, o⟩ rest := by
  have := skip_rawAny h st g o l 0 0 (.fi :: rest) hl
  simp only [Int.natCast_zero] at this
  rw [this, run_cons, step_skip_fi0 (.of_any h)]

/-! What `rawDepth` and `rawDepthAny` do on the single tokens between the subtrees holds by
computation; the proofs below only chain the subtrees. -/
mutual
theorem rawDepth_text : ∀ (t : Text) (k : Nat) (rest : List Tok),
    rawDepth k (t.flatten ++ rest) = rawDepth k rest
  | .nil, k, rest => rfl
  | .plain p r, k, rest => by
    simp only [Text.flatten, List.cons_append]
    exact (rawDepth_plain k p _).trans (rawDepth_text r k rest)
  | .ifThen c a r, k, rest => by
    simp only [Text.flatten, List.cons_append, List.append_assoc]
    exact (rawDepth_text a (k + 1) _).trans (rawDepth_text r k rest)
  | .ifElse c a b r, k, rest => by
    simp only [Text.flatten, List.cons_append, List.append_assoc]
    exact (rawDepth_text a (k + 1) _).trans ((rawDepth_text b (k + 1) _).trans (rawDepth_text r k rest))
  | .caseOf n cs r, k, rest => by
    simp only [Text.flatten, List.cons_append, List.append_assoc]
    exact (rawDepth_cases cs k _).trans (rawDepth_text r k rest)
theorem rawDepth_cases : ∀ (cs : Cases) (k : Nat) (rest : List Tok),
    rawDepth (k + 1) (cs.flatten ++ rest) = rawDepth k rest
  | .last b, k, rest => by
    simp only [Cases.flatten, List.append_assoc, List.cons_append, List.nil_append]
    exact rawDepth_text b (k + 1) _
  | .lastElse b e, k, rest => by
    simp only [Cases.flatten, List.append_assoc, List.cons_append, List.nil_append]
    exact (rawDepth_text b (k + 1) _).trans (rawDepth_text e (k + 1) _)
  | .more b cs, k, rest => by
    simp only [Cases.flatten, List.append_assoc, List.cons_append]
    exact (rawDepth_text b (k + 1) _).trans (rawDepth_cases cs k rest)
end

/-- An `\ifcase` body without its closing `\fi`. -/
def Cases.body : Cases → List Tok
  | .last b => b.flatten
  | .lastElse b e => b.flatten ++ .els :: e.flatten
  | .more b cs => b.flatten ++ .orr :: cs.body

theorem Cases.flatten_eq_body : ∀ (cs : Cases), cs.flatten = cs.body ++ [.fi]
  | .last b => by simp [Cases.flatten, Cases.body]
  | .lastElse b e => by simp [Cases.flatten, Cases.body]
  | .more b cs => by simp [Cases.flatten, Cases.body, Cases.flatten_eq_body cs]

/-! The loops of `\or` and `\else` pass over an `\or` or `\else` of their own level too, so for
`rawDepthAny` a body is passed at the level it starts at, without its `\fi`. -/
mutual
theorem rawDepthAny_text : ∀ (t : Text) (k : Nat) (rest : List Tok),
    rawDepthAny k (t.flatten ++ rest) = rawDepthAny k rest
  | .nil, k, rest => rfl
  | .plain p r, k, rest => by
    simp only [Text.flatten, List.cons_append]
    exact (rawDepthAny_plain k p _).trans (rawDepthAny_text r k rest)
  | .ifThen c a r, k, rest => by
    simp only [Text.flatten, List.cons_append, List.append_assoc]
    exact (rawDepthAny_text a (k + 1) _).trans (rawDepthAny_text r k rest)
  | .ifElse c a b r, k, rest => by
    simp only [Text.flatten, List.cons_append, List.append_assoc]
    exact (rawDepthAny_text a (k + 1) _).trans ((rawDepthAny_text b (k + 1) _).trans (rawDepthAny_text r k rest))
  | .caseOf n cs r, k, rest => by
    simp only [Text.flatten, List.cons_append, List.append_assoc, Cases.flatten_eq_body]
    exact (rawDepthAny_body cs (k + 1) _).trans (rawDepthAny_text r k rest)
theorem rawDepthAny_body : ∀ (cs : Cases) (k : Nat) (rest : List Tok),
    rawDepthAny k (cs.body ++ rest) = rawDepthAny k rest
  | .last b, k, rest => by simp only [Cases.body]; exact rawDepthAny_text b k rest
  | .lastElse b e, k, rest => by
    simp only [Cases.body, List.append_assoc, List.cons_append]
    exact (rawDepthAny_text b k _).trans (rawDepthAny_text e k rest)
  | .more b cs, k, rest => by
    simp only [Cases.body, List.append_assoc, List.cons_append]
    exact (rawDepthAny_text b k _).trans (rawDepthAny_body cs k rest)
end

theorem rawDepthAny_cases : ∀ (cs : Cases) (k : Nat) (rest : List Tok),
    rawDepthAny (k + 1) (cs.flatten ++ rest) = rawDepthAny k rest := fun cs k rest => by
  rw [Cases.flatten_eq_body, List.append_assoc]
  exact rawDepthAny_body cs (k + 1) _

theorem rawDepth_flatten0 (t : Text) : rawDepth 0 t.flatten = some 0 := by
  simpa [rawDepth] using rawDepth_text t 0 []

theorem rawDepthAny_flatten0 (t : Text) : rawDepthAny 0 t.flatten = some 0 := by
  simpa [rawDepthAny] using rawDepthAny_text t 0 []

theorem rawDepthAny_body0 (cs : Cases) : rawDepthAny 0 cs.body = some 0 := by
  simpa [rawDepthAny] using rawDepthAny_body cs 0 []

theorem skip_cases {mk} (h : IsSkip mk) : ∀ (cs : Cases) (st g o) (d : Int) (rest : List Tok), 0 ≤ d →
    run ⟨st, mk (d + 1), g, o⟩ (cs.flatten ++ rest) = run ⟨st, mk d, g, o⟩ rest := by
  intro cs st g o d rest hd
  have hr : rawDepth 1 cs.flatten = some 0 := by simpa [rawDepth] using rawDepth_cases cs 0 []
  simpa using skip_raw h st g o cs.flatten 1 0 d rest hd hr

theorem select_neg (cs : Cases) (n : Int) (h : n < 0) : cs.select n = cs.selectElse := by
  have h0 : n ≠ 0 := by omega
  cases cs <;> simp [Cases.select, Cases.selectElse, h0, h]

theorem selectElse_eq : ∀ (cs : Cases),
    cs.selectElse = match cs.elseBranch with | some e => e.select | none => []
  | .last _ => rfl
  | .lastElse _ _ => rfl
  | .more _ cs => by simp only [Cases.selectElse, Cases.elseBranch]; exact selectElse_eq cs

theorem select_natCast : ∀ (cs : Cases) (k : Nat),
    cs.select (k : Int) = match cs.branches[k]? with | some b => b.select | none => cs.selectElse
  | .last b, 0 => rfl
  | .lastElse b e, 0 => rfl
  | .more b cs, 0 => rfl
  | .last _, k + 1 | .lastElse _ _, k + 1 => by
    have h : ((k + 1 : Nat) : Int) ≠ 0 := by omega
    simp only [Cases.select, if_neg h, Cases.branches, List.getElem?_cons_succ, List.getElem?_nil,
      Cases.selectElse]
  | .more b cs, k + 1 => by
    have h : ((k + 1 : Nat) : Int) ≠ 0 := by omega
    have h' : ¬ ((k + 1 : Nat) : Int) < 0 := by omega
    have e : ((k + 1 : Nat) : Int) - 1 = (k : Int) := by omega
    simp only [Cases.select, if_neg h, if_neg h', e, select_natCast cs k, Cases.branches,
      List.getElem?_cons_succ, Cases.selectElse]

mutual
theorem delivers_flatten : ∀ (t : Text), Delivers t.flatten t.select
  | .nil => .nil
  | .plain p r => .plain p (delivers_flatten r)
  | .ifThen c a r => by
    simp only [Text.flatten, Text.select]
    by_cases hc : c.holds
    · rw [if_pos hc]; exact .ifTrueFi hc (delivers_flatten a) (delivers_flatten r)
    · rw [if_neg hc, List.nil_append]; exact .ifFalseFi hc (rawDepth_flatten0 a) (delivers_flatten r)
  | .ifElse c a b r => by
    simp only [Text.flatten, Text.select]
    by_cases hc : c.holds
    · rw [if_pos hc]
      exact .ifTrueElse hc (delivers_flatten a) (rawDepthAny_flatten0 b) (delivers_flatten r)
    · rw [if_neg hc]
      exact .ifFalseElse hc (rawDepth_flatten0 a) (delivers_flatten b) (delivers_flatten r)
  | .caseOf n cs r => by
    simp only [Text.flatten, Text.select]
    exact .ifcase (caseDelivers_flatten cs n) (delivers_flatten r)
theorem caseDelivers_flatten : ∀ (cs : Cases) (n : Int), CaseDelivers n cs.flatten (cs.select n)
  | .last b, n => by
    simp only [Cases.flatten, Cases.select]
    by_cases hn : n = 0
    · rw [if_pos hn]; exact .selFi hn (delivers_flatten b)
    · rw [if_neg hn]; exact .skipFi hn (rawDepth_flatten0 b)
  | .lastElse b e, n => by
    simp only [Cases.flatten, Cases.select]
    by_cases hn : n = 0
    · rw [if_pos hn]; exact .selElse hn (delivers_flatten b) (rawDepthAny_flatten0 e)
    · rw [if_neg hn]; exact .skipElse hn (rawDepth_flatten0 b) (delivers_flatten e)
  | .more b cs, n => by
    simp only [Cases.flatten, Cases.select]
    by_cases hn : n = 0
    · rw [if_pos hn, Cases.flatten_eq_body cs]
      exact .selOr hn (delivers_flatten b) (rawDepthAny_body0 cs)
    · rw [if_neg hn]
      refine .skipOr hn (rawDepth_flatten0 b) ?_
      by_cases hneg : n < 0
      · rw [if_pos hneg, if_neg (by omega), ← select_neg cs n hneg]
        exact caseDelivers_flatten cs n
      · rw [if_neg hneg, if_pos (by omega)]
        exact caseDelivers_flatten cs (n - 1)
end

/-- Delivering one plain token touches only the group counter and the output. -/
def plainStep (g : Nat) (o : List Tok) : Plain → Except Err (Nat × List Tok)
  | .other n => .ok (g, o ++ [.other n])
  | .bg => .ok (g + 1, o ++ [.bg])
  | .eg =>
    match g with
    | 0 => .error .noGroupToEnd
    | g + 1 => .ok (g, o ++ [.eg])

def plainRun : Nat → List Tok → List Plain → Except Err (Nat × List Tok)
  | g, o, [] => .ok (g, o)
  | g, o, p :: ps =>
    match plainStep g o p with
    | .ok (g', o') => plainRun g' o' ps
    | .error e => .error e

/-- Continue in delivering mode with stack `st` on `rest`. -/
def andThen (r : Except Err (Nat × List Tok)) (st : List BranchKind) (rest : List Tok) : Except Err St :=
  match r with
  | .ok (g, o) => run ⟨st, .deliver, g, o⟩ rest
  | .error e => .error e

theorem step_deliver_plain (st g o) (p : Plain) :
    step ⟨st, .deliver, g, o⟩ p.tok =
      match plainStep g o p with
      | .ok (g', o') => .ok ⟨st, .deliver, g', o'⟩
      | .error e => .error e := by
  cases p with
  | other n => rfl
  | bg => rfl
  | eg => cases g <;> rfl

theorem run_plain (st) : ∀ (l : List Plain) (g o) (rest : List Tok),
    run ⟨st, .deliver, g, o⟩ (l.map Plain.tok ++ rest) = andThen (plainRun g o l) st rest
  | [], g, o, rest => rfl
  | p :: ps, g, o, rest => by
    simp only [List.map_cons, List.cons_append, run_cons, step_deliver_plain, plainRun]
    cases plainStep g o p with
    | error e => rfl
    | ok r => exact run_plain st ps r.1 r.2 rest

theorem plainRun_append : ∀ (l1 l2 : List Plain) (g o),
    plainRun g o (l1 ++ l2) =
      match plainRun g o l1 with
      | .ok (g', o') => plainRun g' o' l2
      | .error e => .error e
  | [], l2, g, o => rfl
  | p :: ps, l2, g, o => by
    simp only [List.cons_append, plainRun]
    cases plainStep g o p with
    | error e => rfl
    | ok r => exact plainRun_append ps l2 r.1 r.2

theorem plainRun_braces : ∀ (l : List Plain) (g : Nat) (o : List Tok),
    plainRun g o l =
      match bracesOk g l with
      | some g' => .ok (g', o ++ l.map Plain.tok)
      | none => .error .noGroupToEnd
  | [], g, o => by simp [plainRun, bracesOk]
  | .other n :: ps, g, o => by
    simp only [plainRun, plainStep, bracesOk, plainRun_braces ps]
    cases bracesOk g ps <;> simp [Plain.tok]
  | .bg :: ps, g, o => by
    simp only [plainRun, plainStep, bracesOk, plainRun_braces ps]
    cases bracesOk (g + 1) ps <;> simp [Plain.tok]
  | .eg :: ps, 0, o => by simp [plainRun, plainStep, bracesOk]
  | .eg :: ps, g + 1, o => by
    simp only [plainRun, plainStep, bracesOk, plainRun_braces ps]
    cases bracesOk g ps <;> simp [Plain.tok]

theorem andThen_nil (g o st rest) : andThen (plainRun g o []) st rest = run ⟨st, .deliver, g, o⟩ rest := rfl

theorem andThen_congr (r : Except Err (Nat × List Tok)) {st st' : List BranchKind} {rest rest' : List Tok}
    (h : ∀ g o, run ⟨st', .deliver, g, o⟩ rest' = run ⟨st, .deliver, g, o⟩ rest) :
    andThen r st' rest' = andThen r st rest := by
  cases r with
  | error e => rfl
  | ok q => exact h q.1 q.2

theorem andThen_seq {l1 l2 : List Plain} {st st' : List BranchKind} {rest rest' : List Tok} (g o)
    (h : ∀ g' o', run ⟨st', .deliver, g', o'⟩ rest' = andThen (plainRun g' o' l2) st rest) :
    andThen (plainRun g o l1) st' rest' = andThen (plainRun g o (l1 ++ l2)) st rest := by
  rw [plainRun_append]
  cases plainRun g o l1 with
  | error e => rfl
  | ok q => exact h q.1 q.2

theorem run_iff_true {c : Test} (hc : c.holds) (st g o) (l : List Tok) :
    run ⟨st, .deliver, g, o⟩ (.iff c :: l) = run ⟨.tru :: st, .deliver, g, o⟩ l := by
  simp only [run_cons, step_deliver_iff, (evalTest_holds c).2 hc, if_true]

theorem run_iff_false {c : Test} (hc : ¬ c.holds) (st g o) (l : List Tok) :
    run ⟨st, .deliver, g, o⟩ (.iff c :: l) = run ⟨st, .skipFalse 0, g, o⟩ l := by
  simp only [run_cons, step_deliver_iff, evalTest_false hc, Bool.false_eq_true, if_false]

/-- `l` does, in every delivering state and before any `rest`, what delivering the plain tokens `p` does. -/
def Runs (l : List Tok) (p : List Plain) : Prop :=
  ∀ (st g o) (rest : List Tok), run ⟨st, .deliver, g, o⟩ (l ++ rest) = andThen (plainRun g o p) st rest

/-- The same for the part `body` of an `\ifcase n` after the number. -/
def CaseRuns (n : Int) (body : List Tok) (p : List Plain) : Prop :=
  ∀ (st g o) (rest : List Tok),
    run ⟨st, .deliver, g, o⟩ (.ifcase n :: (body ++ rest)) = andThen (plainRun g o p) st rest

/-- Written against the induction principle, one named case per rule: a pattern match over
derivations has to unify indices that are list expressions, which is slow to check. In the cases a
`show` states where the machine is after the `\else`, `\or` or `\fi` just read. -/
theorem delivers_run {l : List Tok} {p : List Plain} (h : Delivers l p) : Runs l p :=
  h.rec (motive_1 := fun l p _ => Runs l p) (motive_2 := fun n body p _ => CaseRuns n body p)
    (nil := fun _ _ _ _ => rfl)
    (plain := fun q _ _ _ ih st g o rest =>
      (run_plain st [q] g o _).trans (andThen_seq g o fun g' o' => ih st g' o' rest))
    (ifTrueFi := fun hc _ _ ha hr st g o rest => by
      simp only [List.cons_append, List.append_assoc]
      rw [run_iff_true hc, ha]
      refine andThen_seq g o fun g' o' => ?_
      show run ⟨st, .deliver, g', o'⟩ _ = _
      exact hr st g' o' rest)
    (ifTrueElse := fun {_ _ _ b _ _} hc _ hb _ ha hr st g o rest => by
      simp only [List.cons_append, List.append_assoc]
      rw [run_iff_true hc, ha]
      refine andThen_seq g o fun g' o' => ?_
      show run ⟨st, .skipElse 0, g', o'⟩ _ = _
      rw [skipAny_to_fi (Or.inr rfl) st g' o' b _ hb]
      exact hr st g' o' rest)
    (ifFalseFi := fun {_ a _ _} hc ha _ hr st g o rest => by
      simp only [List.cons_append, List.append_assoc]
      rw [run_iff_false hc]
      exact (skip_to_fi isSkip_false st g o a 0 _ ha).trans (hr st g o rest))
    (ifFalseElse := fun {_ a _ _ _ _} hc ha _ _ hb hr st g o rest => by
      simp only [List.cons_append, List.append_assoc]
      rw [run_iff_false hc, skip_to_else (Or.inl rfl) st g o a _ ha, hb]
      refine andThen_seq g o fun g' o' => ?_
      show run ⟨st, .deliver, g', o'⟩ _ = _
      exact hr st g' o' rest)
    (ifcase := fun _ _ hb hr st g o rest => by
      simp only [List.cons_append, List.append_assoc]
      rw [hb]
      exact andThen_seq g o fun g' o' => hr st g' o' rest)
    (selFi := fun h0 _ hb st g o rest => by
      subst h0
      rw [run_ifcase_zero, List.append_assoc, hb]
      exact andThen_congr _ fun g' o' => rfl)
    (selOr := fun {_ _ _ x} h0 _ hx hb st g o rest => by
      subst h0
      simp only [run_ifcase_zero, List.append_assoc, List.cons_append, List.nil_append]
      rw [hb]
      refine andThen_congr _ fun g' o' => ?_
      show run ⟨st, .skipOr 0, g', o'⟩ _ = _
      exact skipAny_to_fi (Or.inl rfl) st g' o' x rest hx)
    (selElse := fun {_ _ _ x} h0 _ hx hb st g o rest => by
      subst h0
      simp only [run_ifcase_zero, List.append_assoc, List.cons_append, List.nil_append]
      rw [hb]
      refine andThen_congr _ fun g' o' => ?_
      show run ⟨st, .skipElse 0, g', o'⟩ _ = _
      exact skipAny_to_fi (Or.inr rfl) st g' o' x rest hx)
    (skipFi := fun {n a} hn ha st g o rest => by
      simp only [run_ifcase_ne hn, List.append_assoc, List.cons_append, List.nil_append]
      exact skip_to_fi (isSkip_case n) st g o a 0 rest ha)
    (skipElse := fun {n a _ _} hn ha _ he st g o rest => by
      simp only [run_ifcase_ne hn, List.append_assoc, List.cons_append, List.nil_append]
      rw [skip_to_else (Or.inr ⟨n, rfl⟩) st g o a _ ha, he]
      exact andThen_congr _ fun g' o' => rfl)
    (skipOr := fun {n a _ _} hn ha _ hb st g o rest => by
      simp only [run_ifcase_ne hn, List.append_assoc, List.cons_append]
      rw [skip_to_or hn st g o a _ ha]
      exact hb st g o rest)

theorem caseDelivers_run {n : Int} {body : List Tok} {p : List Plain} (h : CaseDelivers n body p) :
    CaseRuns n body p := fun st g o rest => by
  simpa using delivers_run (.ifcase h .nil) st g o rest

theorem caseDelivers_run0 : ∀ {n : Int} {body : List Tok} {p : List Plain}, CaseDelivers n body p → n = 0 →
    ∀ (st g o) (rest : List Tok),
    run ⟨.switch :: st, .deliver, g, o⟩ (body ++ rest) = andThen (plainRun g o p) st rest := by
  intro n body p h h0 st g o rest
  subst h0
  exact caseDelivers_run h st g o rest

theorem caseDelivers_runN : ∀ {n : Int} {body : List Tok} {p : List Plain}, CaseDelivers n body p → n ≠ 0 →
    ∀ (st g o) (rest : List Tok),
    run ⟨st, .skipCase n 0, g, o⟩ (body ++ rest) = andThen (plainRun g o p) st rest := by
  intro n body p h hn st g o rest
  rw [← run_ifcase_ne hn]
  exact caseDelivers_run h st g o rest

theorem deliver_text (t : Text) : Runs t.flatten t.select := delivers_run (delivers_flatten t)

theorem deliver_case0 : ∀ (cs : Cases) (st g o) (rest : List Tok),
    run ⟨.switch :: st, .deliver, g, o⟩ (cs.flatten ++ rest) = andThen (plainRun g o (cs.select 0)) st rest :=
  fun cs st g o rest => caseDelivers_run0 (caseDelivers_flatten cs 0) rfl st g o rest

theorem deliver_caseN : ∀ (cs : Cases) (left : Int) (st g o) (rest : List Tok), left ≠ 0 →
    run ⟨st, .skipCase left 0, g, o⟩ (cs.flatten ++ rest) = andThen (plainRun g o (cs.select left)) st rest :=
  fun cs left st g o rest hl => caseDelivers_runN (caseDelivers_flatten cs left) hl st g o rest

def XRes.prepend {σ} (buf : List XTok) : XRes σ → XRes σ
  | .ok (s, l) => .ok (s, buf ++ l)
  | .error e => .error e

theorem XRes.prepend_nil {σ} (r : XRes σ) : XRes.prepend [] r = r := by
  cases r with
  | error e => rfl
  | ok p => rfl

theorem XRes.prepend_append {σ} (a b : List XTok) (r : XRes σ) :
    XRes.prepend (a ++ b) r = XRes.prepend a (XRes.prepend b r) := by
  cases r with
  | error e => rfl
  | ok p => simp [XRes.prepend]

theorem xaOptLoop_eq {σ} (E : Expander σ) : ∀ (l : List XTok) (name : Nat) (buf : List XTok) (s : σ),
    xaOptLoop E name buf s l = XRes.prepend buf (xaSimple E s l)
  | [], name, buf, s => rfl
  | [_], name, buf, s => rfl
  | first :: second :: rest, name, buf, s => by
    cases second with
    | xa n =>
      -- chained or not, the loop prepends `buf ++ [first]` to what the simple function returns
      have key : xaOptLoop E name buf s (first :: .xa n :: rest) =
          XRes.prepend (buf ++ [first]) (xaSimple E s rest) := by
        simp only [xaOptLoop]
        split
        · exact xaOptLoop_eq E rest name (buf ++ [first]) s
        · rw [xaOptLoop_eq E rest n [] s, XRes.prepend_nil]; rfl
      rw [key]
      exact XRes.prepend_append buf [first] _
    | noexp | cs k | ch k =>
      -- both expand `second` once; the simple function then prepends `first`
      simp only [xaOptLoop, reduceCtorEq, if_false]
      exact XRes.prepend_append buf [first] _

theorem xaOptimized_eq {σ} (E : Expander σ) (name : Nat) (s : σ) (l : List XTok) :
    xaOptimized E name s l = xaSimple E s l := by
  rw [xaOptimized, xaOptLoop_eq, XRes.prepend_nil]

theorem xaOptimized_funext {σ} (E : Expander σ) : xaOptimized E = fun _ => xaSimple E :=
  funext fun name => funext fun s => funext fun l => xaOptimized_eq E name s l

/-- Transcription of mutant 28: the optimized `\expandafter` whose chain test always fails. -/
def xaNoChain {σ} (E : Expander σ) : σ → List XTok → XRes σ
  | _, [] => .error .xaEofFirst
  | _, [_] => .error .xaEofSecond
  | s, first :: second :: rest =>
    let r : XRes σ :=
      match second with
      | .xa _ => xaNoChain E s rest
      | .noexp => noexpandOnce s rest
      | t =>
        match E s t rest with
        | none => .ok (s, t :: rest)
        | some r => r
    match r with
    | .ok (s', l) => .ok (s', [first] ++ l)
    | .error e => .error e

theorem noexpand_noop' {σ} (E : Expander σ) (s : σ) (t1 t : XTok) (rest : List XTok) :
    xaSimple E s (t1 :: .noexp :: t :: rest) = .ok (s, t1 :: t :: rest) := rfl

end C07
