import TexcraftModel.Model.C03

/-! C03 — the specification alone, no lexer. The scanner's clauses are gathered in one function, `Spec.head`,
which `Spec.scan` (a whole buffer) and `Spec.scan1` (up to the first item) each iterate; hence `Spec.scan`
is `Spec.scan1` call after call, and one `Spec.step` delivers the head of what is still to come (`out_step`). -/
namespace C03

theorem Res.pos?_map {P Q : Type} (g : P → Q) (r : Res P) : (r.map g).pos? = r.pos?.map g := by
  cases r <;> rfl

theorem expanded_n {c : Char} {l : List Char} {c' : Char} {l' : List Char} {n : Nat}
    (he : Spec.expanded c l = some (c', l', n)) : 2 ≤ n ∧ l.length = l'.length + n := by
  unfold Spec.expanded at he
  split at he
  · split at he
    · split at he
      · split at he <;> simp at he <;> obtain ⟨_, rfl, rfl⟩ := he <;> simp <;> omega
      · simp at he; obtain ⟨_, rfl, rfl⟩ := he; simp
    · simp at he
  · simp at he

theorem moreLetters_spec (cfg : Cfg) : ∀ (f : Nat) (acc l : List Char), l.length < f →
    ∃ name l' d, d + l'.length = l.length ∧
      ∀ col, Spec.moreLetters cfg f acc l col = some (name, l', col + d) := by
  intro f
  induction f with
  | zero => intros; omega
  | succ f ih =>
    intro acc l hf
    cases l with
    | nil => exact ⟨acc, [], 0, rfl, fun _ => rfl⟩
    | cons c t =>
      simp only [List.length_cons] at hf
      by_cases h1 : cfg.cat c = .letter
      · obtain ⟨name, l', d, hd, h⟩ := ih (acc ++ [c]) t (by omega)
        exact ⟨name, l', d + 1, by simp only [List.length_cons]; omega,
          fun col => by simp only [Spec.moreLetters, h1, if_true, h]; congr 3; omega⟩
      · by_cases h2 : cfg.cat c = .superscript
        · cases he : Spec.expanded c t with
          | none => exact ⟨acc, c :: t, 0, by simp, fun col => by simp [Spec.moreLetters, h2, he]⟩
          | some x =>
            obtain ⟨c', t', n⟩ := x
            have hn := expanded_n he
            obtain ⟨name, l', d, hd, h⟩ := ih acc (c' :: t') (by simp only [List.length_cons]; omega)
            exact ⟨name, l', d + n, by have := hn.2; rw [List.length_cons] at hd; rw [List.length_cons]; omega,
              fun col => by simp [Spec.moreLetters, h2, he, h, Nat.add_assoc, Nat.add_comm n d]⟩
        · exact ⟨acc, c :: t, 0, by simp, fun col => by simp [Spec.moreLetters, h1, h2]⟩

theorem csName_spec (cfg : Cfg) : ∀ (f : Nat) (l : List Char), l.length < f →
    ∃ name st' l' d, d + l'.length = l.length ∧
      ∀ col, Spec.csName cfg f l col = some (name, st', l', col + d) := by
  intro f
  induction f with
  | zero => intros; omega
  | succ f ih =>
    intro l hf
    cases l with
    | nil => exact ⟨[], .newLine, [], 0, rfl, fun _ => rfl⟩
    | cons c t =>
      simp only [List.length_cons] at hf
      by_cases h1 : cfg.cat c = .letter
      · obtain ⟨name, l', d, hd, h⟩ := moreLetters_spec cfg (t.length + 1) [c] t (Nat.lt_succ_self _)
        exact ⟨name, .skipBlanks, l', d + 1, by simp only [List.length_cons]; omega,
          fun col => by simp only [Spec.csName, h1, if_true, h]; congr 4; omega⟩
      · by_cases h2 : cfg.cat c = .superscript
        · cases he : Spec.expanded c t with
          | none => exact ⟨[c], .midLine, t, 1, by simp; omega, fun col => by simp [Spec.csName, h2, he]⟩
          | some x =>
            obtain ⟨c', t', n⟩ := x
            have hn := expanded_n he
            obtain ⟨name, st', l', d, hd, h⟩ := ih (c' :: t') (by simp only [List.length_cons]; omega)
            exact ⟨name, st', l', d + n, by have := hn.2; rw [List.length_cons] at hd; rw [List.length_cons]; omega,
              fun col => by simp [Spec.csName, h2, he, h, Nat.add_assoc, Nat.add_comm n d]⟩
        · exact ⟨[c], if cfg.cat c = .space then .skipBlanks else .midLine, t, 1, by simp; omega,
            fun col => by simp [Spec.csName, h1, h2]⟩

theorem trimRight_snoc_space (l : List Char) : Spec.trimRight (l ++ [' ']) = Spec.trimRight l := by
  induction l with
  | nil => simp [Spec.trimRight]
  | cons a t ih => simp only [List.cons_append, Spec.trimRight, ih]

theorem trimRight_snoc (l : List Char) (c : Char) (hc : c ≠ ' ') :
    Spec.trimRight (l ++ [c]) = l ++ [c] := by
  induction l with
  | nil => simp [Spec.trimRight, hc]
  | cons a t ih => simp only [List.cons_append, Spec.trimRight, ih]; simp

theorem trimRight_length_le (l : List Char) : (Spec.trimRight l).length ≤ l.length := by
  induction l with
  | nil => simp [Spec.trimRight]
  | cons a t ih => simp only [Spec.trimRight]; split <;> simp <;> omega

theorem splitLinesAux_append (cur a b : List Char) (h : '\n' ∉ a) :
    Spec.splitLinesAux cur (a ++ b) = Spec.splitLinesAux (cur ++ a) b := by
  induction a generalizing cur with
  | nil => simp
  | cons c t ih =>
    simp only [List.mem_cons, not_or] at h
    simp only [List.cons_append, Spec.splitLinesAux, if_neg (Ne.symm h.1)]
    rw [ih _ h.2, List.append_assoc]; rfl

theorem buffer_length (cfg : Cfg) (ln : List Char) :
    (Spec.buffer cfg ln).length = (Spec.trimRight ln).length + (if cfg.endline.isSome then 1 else 0) := by
  unfold Spec.buffer; cases cfg.endline <;> simp

/-- What the scanner does with the first character of its buffer: it delivers an item and resumes in
state `st'`, or goes on silently in the state it is in; either way at the buffer `l'`, `d` columns
further right. The item gets its column from whoever delivers it. -/
inductive Spec.Act
  | emit (item : Res Unit) (st' : St) (l' : List Char) (d : Nat)
  | skip (l' : List Char) (d : Nat)

/-- The clauses of §344–§354 for the character `c` in front of `t`, in state `st`. Dropping the rest of a
line (a comment, an end-line character in state S) is skipping to the empty buffer. -/
def Spec.head (cfg : Cfg) (st : St) (c : Char) (t : List Char) : Spec.Act :=
  match cfg.cat c with
  | .escape =>
    match Spec.csName cfg (t.length + 1) t 1 with
    | some (name, st', t', d) => .emit (.token (.cs name) ()) st' t' d
    | none => .emit .fuel st [] 0
  | .endOfLine =>
    match st with
    | .newLine => .emit (.token (.cs parName) ()) .newLine [] (1 + t.length)
    | .midLine => .emit (.token (.chr ' ' .space) ()) .newLine [] (1 + t.length)
    | .skipBlanks => .skip [] (1 + t.length)
  | .space =>
    match st with
    | .midLine => .emit (.token (.chr ' ' .space) ()) .skipBlanks t 1
    | _ => .skip t 1
  | .superscript =>
    match Spec.expanded c t with
    | some (c', t', n) => .skip (c' :: t') n
    | none => .emit (.token (.chr c .superscript) ()) .midLine t 1
  | .comment => .skip [] (1 + t.length)
  | .ignored => .skip t 1
  | .invalid => .emit (.invalid c ()) st t 1
  | .active => .emit (.token (.active c) ()) .midLine t 1
  | cc => .emit (.token (.chr c cc) ()) .midLine t 1

theorem scan1_cons (cfg : Cfg) (f : Nat) (st : St) (c : Char) (t : List Char) (col : Nat)
    (hf : 0 < f) :
    Spec.scan1 cfg (f + 1) st (c :: t) col = match Spec.head cfg st c t with
      | .emit item st' l' d => some (item.map fun _ => col, st', l', col + d)
      | .skip l' d => Spec.scan1 cfg f st l' (col + d) := by
  obtain ⟨f, rfl⟩ : ∃ g, f = g + 1 := ⟨f - 1, by omega⟩
  rw [Spec.scan1.eq_def]; unfold Spec.head
  simp only []
  cases cfg.cat c
  case escape =>
    obtain ⟨name, st', l', d, -, h⟩ := csName_spec cfg (t.length + 1) t (Nat.lt_succ_self _)
    simp only [h, Nat.add_assoc]; rfl
  case endOfLine => cases st <;> simp only [Nat.add_assoc] <;> rfl
  case space => cases st <;> rfl
  case superscript => cases Spec.expanded c t <;> rfl
  all_goals rfl

theorem scan_cons (cfg : Cfg) (f : Nat) (st : St) (c : Char) (t : List Char) (col : Nat)
    (hf : 0 < f) :
    Spec.scan cfg (f + 1) st (c :: t) col = match Spec.head cfg st c t with
      | .emit item st' l' d => (item.map fun _ => col) :: Spec.scan cfg f st' l' (col + d)
      | .skip l' d => Spec.scan cfg f st l' (col + d) := by
  obtain ⟨f, rfl⟩ : ∃ g, f = g + 1 := ⟨f - 1, by omega⟩
  rw [Spec.scan.eq_def]; unfold Spec.head
  simp only []
  cases cfg.cat c
  case escape =>
    obtain ⟨name, st', l', d, -, h⟩ := csName_spec cfg (t.length + 1) t (Nat.lt_succ_self _)
    simp only [h, Nat.add_assoc]; rfl
  case endOfLine => cases st <;> rfl
  case space => cases st <;> rfl
  case superscript => cases Spec.expanded c t <;> rfl
  all_goals rfl

theorem head_spec (cfg : Cfg) (st : St) (c : Char) (t : List Char) :
    match Spec.head cfg st c t with
    | .emit item _ l' d => d + l'.length = 1 + t.length ∧ 0 < d ∧ item.pos? = some ()
    | .skip l' d => d + l'.length = 1 + t.length ∧ 0 < d := by
  unfold Spec.head
  cases cfg.cat c
  case escape =>
    obtain ⟨name, st', l', d, hd, h⟩ := csName_spec cfg (t.length + 1) t (Nat.lt_succ_self _)
    simp only [h]
    exact ⟨by omega, by omega, rfl⟩
  case endOfLine => cases st <;> simp [Res.pos?] <;> omega
  case space => cases st <;> simp [Res.pos?] <;> omega
  case superscript =>
    cases he : Spec.expanded c t with
    | none => simp [Res.pos?]
    | some x => have := expanded_n he; simp only [List.length_cons]; omega
  all_goals simp [Res.pos?] <;> omega

theorem scan_fuel (cfg : Cfg) : ∀ (f f' : Nat) (st : St) (l : List Char) (col : Nat),
    l.length < f → l.length < f' → Spec.scan cfg f st l col = Spec.scan cfg f' st l col := by
  intro f
  induction f with
  | zero => intros; omega
  | succ f ih =>
    intro f' st l col h h'
    obtain ⟨f', rfl⟩ : ∃ g, f' = g + 1 := ⟨f' - 1, by omega⟩
    cases l with
    | nil => rfl
    | cons c t =>
      simp only [List.length_cons] at h h'
      rw [scan_cons cfg f st c t col (by omega), scan_cons cfg f' st c t col (by omega)]
      have hs := head_spec cfg st c t
      generalize Spec.head cfg st c t = a at hs ⊢
      cases a with
      | emit item st' l' d => simp only [ih f' st' l' (col + d) (by omega) (by omega)]
      | skip l' d => exact ih f' st l' (col + d) (by omega) (by omega)

theorem scan_eq_scan1 (cfg : Cfg) : ∀ (f : Nat) (st : St) (l : List Char) (col : Nat), l.length < f →
    Spec.scan cfg f st l col = match Spec.scan1 cfg f st l col with
      | none => []
      | some (item, st', l', col') => item :: Spec.scan cfg (l'.length + 1) st' l' col' := by
  intro f
  induction f with
  | zero => intros; omega
  | succ f ih =>
    intro st l col h
    cases l with
    | nil => rfl
    | cons c t =>
      simp only [List.length_cons] at h
      rw [scan_cons cfg f st c t col (by omega), scan1_cons cfg f st c t col (by omega)]
      have hs := head_spec cfg st c t
      generalize Spec.head cfg st c t = a at hs ⊢
      cases a with
      | emit item st' l' d =>
        simp only [scan_fuel cfg f (l'.length + 1) st' l' (col + d) (by omega) (by omega)]
      | skip l' d => exact ih st l' (col + d) (by omega)

theorem scan1_spec (cfg : Cfg) : ∀ (f : Nat) (st : St) (l : List Char) (col : Nat) {item : Res Nat}
    {st' : St} {l' : List Char} {col' : Nat}, l.length < f →
    Spec.scan1 cfg f st l col = some (item, st', l', col') →
    l'.length < l.length ∧ col' + l'.length = col + l.length ∧
      ∃ p, item.pos? = some p ∧ col ≤ p ∧ p < col + l.length := by
  intro f
  induction f with
  | zero => intros; omega
  | succ f ih =>
    intro st l col item st' l' col' hf h
    cases l with
    | nil => cases h
    | cons c t =>
      simp only [List.length_cons] at hf ⊢
      rw [scan1_cons cfg f st c t col (by omega)] at h
      have hs := head_spec cfg st c t
      generalize Spec.head cfg st c t = a at hs h
      cases a with
      | emit it st1 l1 d =>
        cases h
        exact ⟨by omega, by omega, col, by rw [Res.pos?_map, hs.2.2]; rfl, Nat.le_refl _, by omega⟩
      | skip l1 d =>
        obtain ⟨h1, h2, p, hp, h3, h4⟩ := ih st l1 (col + d) (by omega) h
        exact ⟨by omega, by omega, p, hp, by omega, by omega⟩

theorem scan_col_lt (cfg : Cfg) : ∀ (f : Nat) (st : St) (l : List Char) (col : Nat), l.length < f →
    ∀ item ∈ Spec.scan cfg f st l col, ∀ p, item.pos? = some p → p < col + l.length := by
  intro f
  induction f with
  | zero => intros; omega
  | succ f ih =>
    intro st l col h item hi p hp
    cases l with
    | nil => cases hi
    | cons c t =>
      simp only [List.length_cons] at h ⊢
      rw [scan_cons cfg f st c t col (by omega)] at hi
      have hs := head_spec cfg st c t
      generalize Spec.head cfg st c t = a at hs hi
      cases a with
      | skip l' d => have := ih st l' (col + d) (by omega) item hi p hp; omega
      | emit it st' l' d =>
        rcases List.mem_cons.1 hi with rfl | hi
        · rw [Res.pos?_map, hs.2.2] at hp; cases hp; show col < _; omega
        · have := ih st' l' (col + d) (by omega) item hi p hp; omega

theorem step_of_some {cfg : Cfg} {rep : Bool} {rest : List (List Char)} {n : Nat} {text : List Char}
    {st : St} {buf : List Char} {col : Nat} {item : Res Nat} {st' : St} {l' : List Char} {col' : Nat}
    (h : Spec.scan1 cfg (buf.length + 1) st buf col = some (item, st', l', col')) :
    Spec.step cfg rep rest n text st buf col
      = (item.map (fun c => ⟨n, c, text⟩), ⟨n, text, st', l', col', rest⟩) := by
  rw [Spec.step.eq_def]
  simp only [h]

theorem step_of_none {cfg : Cfg} {rep : Bool} {rest : List (List Char)} {n : Nat} {text : List Char}
    {st : St} {buf : List Char} {col : Nat}
    (h : Spec.scan1 cfg (buf.length + 1) st buf col = none) :
    Spec.step cfg rep rest n text st buf col = match rest with
      | [] => (.endOfInput, ⟨n, text, st, [], col, []⟩)
      | l :: ls =>
        if rep ∧ 0 < n then (.endOfLine, ⟨n + 1, l, .newLine, Spec.buffer cfg l, 0, ls⟩)
        else Spec.step cfg rep ls (n + 1) l .newLine (Spec.buffer cfg l) 0 := by
  rw [Spec.step.eq_def]
  simp only [h]
  cases rest <;> rfl

/-- What the scanner still delivers from the state `s` when the configuration stays `cfg`: the rest
of the current line, then the lines not yet brought in. -/
def Spec.SState.out (cfg : Cfg) (rep : Bool) (s : Spec.SState) : List (Res Pos) :=
  (Spec.scan cfg (s.buf.length + 1) s.st s.buf s.col).map (Res.map fun col => ⟨s.n, col, s.text⟩)
    ++ Spec.lines cfg rep (s.n + 1) s.rest

theorem out_step_some {cfg : Cfg} {rep : Bool} {rest : List (List Char)} {n : Nat} {text : List Char}
    {st : St} {buf : List Char} {col : Nat} {x : Res Nat × St × List Char × Nat}
    (h : Spec.scan1 cfg (buf.length + 1) st buf col = some x) :
    Spec.SState.out cfg rep ⟨n, text, st, buf, col, rest⟩
      = match Spec.step cfg rep rest n text st buf col with
        | (.endOfInput, _) => [.endOfInput]
        | (item, s') => item :: s'.out cfg rep := by
  obtain ⟨item, st', l', col'⟩ := x
  -- an item of `scan1` carries a position, so it is not `endOfInput`
  obtain ⟨-, -, p, hp, -⟩ := scan1_spec cfg _ st buf col (Nat.lt_succ_self _) h
  rw [step_of_some h]
  simp only [Spec.SState.out]
  rw [scan_eq_scan1 cfg _ st buf col (Nat.lt_succ_self _), h]
  cases item
  case endOfInput => cases hp
  all_goals rfl

theorem out_step (cfg : Cfg) (rep : Bool) (s : Spec.SState) :
    s.out cfg rep = match s.step cfg rep with
      | (.endOfInput, _) => [.endOfInput]
      | (item, s') => item :: s'.out cfg rep := by
  obtain ⟨n, text, st, buf, col, rest⟩ := s
  simp only [Spec.SState.step]
  induction rest generalizing n text st buf col with
  | nil =>
    cases h1 : Spec.scan1 cfg (buf.length + 1) st buf col with
    | some x => exact out_step_some h1
    | none =>
      rw [step_of_none h1]
      simp [Spec.SState.out, scan_eq_scan1 cfg _ st buf col (Nat.lt_succ_self _), h1, Spec.lines]
  | cons l ls ih =>
    cases h1 : Spec.scan1 cfg (buf.length + 1) st buf col with
    | some x => exact out_step_some h1
    | none =>
      have hout : Spec.SState.out cfg rep ⟨n, text, st, buf, col, l :: ls⟩
          = (if rep = true ∧ 0 < n then [.endOfLine] else [])
            ++ Spec.SState.out cfg rep ⟨n + 1, l, .newLine, Spec.buffer cfg l, 0, ls⟩ := by
        simp [Spec.SState.out, scan_eq_scan1 cfg _ st buf col (Nat.lt_succ_self _), h1, Spec.lines]
      rw [hout, step_of_none h1]
      by_cases hr : rep = true ∧ 0 < n
      · simp only [hr, and_self, if_true]; rfl
      · simp only [hr, if_false, List.nil_append]
        exact ih (n + 1) l .newLine (Spec.buffer cfg l) 0

theorem lines_positions (cfg : Cfg) (rep : Bool) : ∀ (ls : List (List Char)) (n : Nat),
    ∀ r ∈ Spec.lines cfg rep n ls, ∀ p, r.pos? = some p →
      n ≤ p.line ∧ ls[p.line - n]? = some p.text ∧ p.col ≤ p.text.length := by
  intro ls
  induction ls with
  | nil => intro n r hr p hp; simp [Spec.lines] at hr; subst hr; simp [Res.pos?] at hp
  | cons l ls ih =>
    intro n r hr p hp
    simp only [Spec.lines, List.mem_append] at hr
    rcases hr with (hr | hr) | hr
    · split at hr
      · simp at hr; subst hr; simp [Res.pos?] at hp
      · simp at hr
    · obtain ⟨item, hi, rfl⟩ := List.mem_map.mp hr
      rw [Res.pos?_map, Option.map_eq_some_iff] at hp
      obtain ⟨q, hq, rfl⟩ := hp
      have := scan_col_lt cfg _ _ _ _ (Nat.lt_succ_self _) _ hi q hq
      have hb := buffer_length cfg l
      have ht := trimRight_length_le l
      simp only [Nat.zero_add] at this
      refine ⟨Nat.le_refl _, by simp, ?_⟩
      simp only []
      split at hb <;> omega
    · obtain ⟨h1, h2, h3⟩ := ih (n + 1) r hr p hp
      refine ⟨by omega, ?_, h3⟩
      have : p.line - n = (p.line - (n + 1)) + 1 := by omega
      rw [this]; simpa using h2

end C03
