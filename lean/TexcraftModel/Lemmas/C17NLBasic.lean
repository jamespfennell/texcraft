import TexcraftModel.Model.C17NL
import TexcraftModel.Lemmas.C17Graph
/-! Lemmas for `next_larger_algo` (C17) that do not mention the state of the loop: the "stuck"
lemma — when every remaining node has a remaining predecessor, the step function permutes the
remaining nodes and each of them lies on a cycle; the pending in-edges `pend` that the counters of
the work-list loop count, and what a pop and a cut do to them; the first loop of `new` (the
existence filter) in closed form. -/
namespace C17

/-- One link per character. -/
def Functional (g : List (Nat × Nat)) : Prop := (g.map Prod.fst).Nodup

/-- `x` is an endpoint of a kept edge (a key of `node_to_num_smaller`). -/
def IsNode (g : List (Nat × Nat)) (x : Nat) : Prop := ∃ e ∈ g, e.1 = x ∨ e.2 = x

theorem nxt_of_mem (g : List (Nat × Nat)) (hf : Functional g) (a b : Nat) (h : (a, b) ∈ g) :
    nxt g a = some b := by
  rw [nxt_eq]; exact (Assoc.lookup_eq_some_iff_mem hf).2 h

theorem nxt_filter_ne (g : List (Nat × Nat)) (s y : Nat) :
    nxt (g.filter (fun e => e.1 != s)) y = if y = s then none else nxt g y := by
  rw [nxt_filter_key g (· != s)]
  by_cases h : y = s <;> simp [h]

theorem isNode_of_nxt (g : List (Nat × Nat)) (a b : Nat) (h : nxt g a = some b) :
    IsNode g a ∧ IsNode g b :=
  ⟨⟨(a, b), mem_of_nxt g a b h, Or.inl rfl⟩, ⟨(a, b), mem_of_nxt g a b h, Or.inr rfl⟩⟩

theorem subset_of_nodup_length_ge (l₁ l₂ : List Nat) (h1 : l₁.Nodup)
    (hs : l₁ ⊆ l₂) (hl : l₂.length ≤ l₁.length) : l₂ ⊆ l₁ := by
  intro u hu
  apply Classical.byContradiction
  intro hnot
  have hsub : l₁ ⊆ l₂.erase u := by
    intro x hx
    have hne : x ≠ u := by intro e; subst e; exact hnot hx
    exact (List.mem_erase_of_ne hne).2 (hs hx)
  have := h1.length_le_of_subset hsub
  rw [List.length_erase_of_mem hu] at this
  have : 0 < l₂.length := List.length_pos_of_mem hu
  omega

theorem it_mem_of_closed (s : Nat → Option Nat) (U : List Nat) (h : ∀ y ∈ U, ∃ x ∈ U, s y = some x)
    (x : Nat) (hx : x ∈ U) : ∀ m, ∃ y ∈ U, it s m x = some y := by
  intro m
  induction m with
  | zero => exact ⟨x, hx, rfl⟩
  | succ m ih =>
    obtain ⟨y, hy, e⟩ := ih
    obtain ⟨z, hz, e'⟩ := h y hy
    exact ⟨z, hz, by rw [it, e]; exact e'⟩

theorem return_back (s : Nat → Option Nat) (U : List Nat) (hclosed : ∀ y ∈ U, ∃ x ∈ U, s y = some x)
    (hinj : ∀ y1 ∈ U, ∀ y2 ∈ U, s y1 = s y2 → y1 = y2) (p z : Nat) (hz : it s p z = some z) :
    ∀ i x, x ∈ U → it s i x = some z → it s p x = some x := by
  intro i
  induction i with
  | zero => intro x _ h; cases h; exact hz
  | succ i ih =>
    intro x hx h
    obtain ⟨x1, hx1, e1⟩ := hclosed x hx
    rw [it_succ_left, e1] at h
    have h1 := ih x1 hx1 h
    -- `y`, `p` steps after `x`, has the same successor as `x`
    obtain ⟨y, hy, ey⟩ := it_mem_of_closed s U hclosed x hx p
    have : s y = s x := by
      have h2 : it s (p + 1) x = s y := by rw [it, ey]; rfl
      rw [← h2, Nat.add_comm, it_add, it_succ_left, e1]
      simpa [it] using h1
    rw [ey, hinj y hy x hx this]

theorem stuck (s : Nat → Option Nat) (U : List Nat) (hU : U.Nodup)
    (hpred : ∀ x ∈ U, ∃ y ∈ U, s y = some x) :
    (∀ y ∈ U, ∃ x ∈ U, s y = some x) ∧
    (∀ y1 ∈ U, ∀ y2 ∈ U, s y1 = s y2 → y1 = y2) ∧
    (∀ x ∈ U, ∃ p, 1 ≤ p ∧ p ≤ U.length ∧ it s p x = some x) := by
  -- a choice `π` of predecessors maps `U` one-to-one into `U`, hence onto: every node of `U` is a
  -- `π x`, and `s (π x) = some x`
  let π : Nat → Nat := fun x => if h : x ∈ U then Classical.choose (hpred x h) else 0
  have hπ : ∀ x, x ∈ U → π x ∈ U ∧ s (π x) = some x := by
    intro x hx
    have := Classical.choose_spec (hpred x hx)
    simp only [π, hx, dif_pos]
    exact this
  have hinj : ∀ a ∈ U, ∀ b ∈ U, π a = π b → a = b := by
    intro a ha b hb e
    have h1 := (hπ a ha).2
    have h2 := (hπ b hb).2
    rw [e, h2] at h1
    simpa using h1.symm
  have himgN : (U.map π).Nodup :=
    List.pairwise_map.2 (hU.imp_of_mem (fun ha hb hne e => hne (hinj _ ha _ hb e)))
  have himgS : U.map π ⊆ U := by
    intro y hy
    obtain ⟨x, hx, rfl⟩ := List.mem_map.1 hy
    exact (hπ x hx).1
  have hsurj : U ⊆ U.map π :=
    subset_of_nodup_length_ge (U.map π) U himgN himgS (by simp)
  have hclosed : ∀ y ∈ U, ∃ x ∈ U, s y = some x := by
    intro y hy
    obtain ⟨x, hx, rfl⟩ := List.mem_map.1 (hsurj hy)
    exact ⟨x, hx, (hπ x hx).2⟩
  have hinjN : ∀ y1 ∈ U, ∀ y2 ∈ U, s y1 = s y2 → y1 = y2 := by
    intro y1 h1 y2 h2 e
    obtain ⟨x1, hx1, rfl⟩ := List.mem_map.1 (hsurj h1)
    obtain ⟨x2, hx2, rfl⟩ := List.mem_map.1 (hsurj h2)
    rw [(hπ x1 hx1).2, (hπ x2 hx2).2] at e
    simp only [Option.some.injEq] at e
    rw [e]
  refine ⟨hclosed, hinjN, fun x hx => ?_⟩
  obtain ⟨i, p, z, hp, hip, hi, hz⟩ := it_repeat s U x (U.length + 1) (by omega)
    (fun m _ => it_mem_of_closed s U hclosed x hx m)
  exact ⟨p, hp, by omega, return_back s U hclosed hinjN p z hz i x hx hi⟩

/-- The in-edges of `x` in the current map whose source has not been popped: what
`node_to_num_smaller[x]` counts while `x` waits. -/
def pend (g : List (Nat × Nat)) (sorted : List Nat) (x : Nat) : List (Nat × Nat) :=
  g.filter (fun e => decide (e.2 = x ∧ e.1 ∉ sorted))

theorem mem_pend {g : List (Nat × Nat)} {sorted : List Nat} {x : Nat} {e : Nat × Nat} :
    e ∈ pend g sorted x ↔ e ∈ g ∧ e.2 = x ∧ e.1 ∉ sorted := by
  simp [pend, List.mem_filter]

theorem pairs_nodup (g : List (Nat × Nat)) (hf : Functional g) : g.Nodup :=
  (List.pairwise_map.1 hf).imp (fun h e => h (by rw [e]))

theorem pend_pop (g : List (Nat × Nat)) (hf : Functional g) (sorted : List Nat) (s x : Nat) :
    pend g (s :: sorted) x = (pend g sorted x).erase (s, x) := by
  have hnd : (pend g sorted x).Nodup := (pairs_nodup g hf).sublist List.filter_sublist
  rw [hnd.erase_eq_filter, pend, pend, List.filter_filter]
  apply List.filter_congr
  rintro ⟨a, b⟩ _
  by_cases hb : b = x <;> by_cases ha : a = s <;> simp [hb, ha]

theorem pend_cut (g : List (Nat × Nat)) (sorted : List Nat) (s x : Nat) :
    pend (g.filter (fun e => e.1 != s)) sorted x = pend g (s :: sorted) x := by
  rw [pend, List.filter_filter]
  apply List.filter_congr
  intro e _
  by_cases hes : e.1 = s <;> simp [hes]

theorem cntGet_set (cnt : List (Nat × Nat)) (l v x : Nat) :
    cntGet (cntSet cnt l v) x = if x = l then (cntGet cnt l).map (fun _ => v) else cntGet cnt x := by
  induction cnt with
  | nil => simp [cntGet, cntSet, nxt]
  | cons e t ih =>
    simp only [cntGet, cntSet, List.map_cons, nxt] at ih ⊢
    by_cases hal : e.1 = l
    · by_cases hx : x = l
      · simp [hal, hx]
      · have : ¬ l = x := fun e => hx e.symm
        simp [hal, hx, this, ih]
    · by_cases hax : e.1 = x
      · have : ¬ x = l := fun h => hal (hax.trans h)
        simp [hax, this]
      · simp [hal, hax, ih]

theorem maxOf_eq_max? (l : List Nat) : maxOf l = l.max? := by
  induction l with
  | nil => rfl
  | cons a t ih =>
    rw [maxOf, ih, List.max?_cons]
    cases t.max? with
    | none => rfl
    | some y =>
      simp only [Option.elim, Nat.max_def]
      congr 1
      split <;> split <;> omega

theorem maxOf_none (l : List Nat) (h : maxOf l = none) : l = [] :=
  List.max?_eq_none_iff.1 (maxOf_eq_max? l ▸ h)

theorem maxOf_some (l : List Nat) (s : Nat) (h : maxOf l = some s) : s ∈ l ∧ ∀ x ∈ l, x ≤ s :=
  List.max?_eq_some_iff.1 (maxOf_eq_max? l ▸ h)

theorem filter_ne_perm (l : List Nat) (hn : l.Nodup) (a : Nat) (ha : a ∈ l) :
    (a :: l.filter (· != a)).Perm l := by
  rw [← hn.erase_eq_filter]
  exact (List.perm_cons_erase ha).symm

theorem length_filter_ne (l : List Nat) (hn : l.Nodup) (a : Nat) (ha : a ∈ l) :
    (l.filter (· != a)).length + 1 = l.length :=
  (filter_ne_perm l hn a ha).length_eq

theorem mem_filter_ne (l : List Nat) (a x : Nat) : x ∈ l.filter (· != a) ↔ x ∈ l ∧ x ≠ a := by
  simp [List.mem_filter]

theorem nlEdges_eq (exist : Nat → Bool) (dropNE : Bool) : ∀ (es g w : List (Nat × Nat)),
    nlEdges exist dropNE es g w =
      ((es.filter (fun e => exist e.2 || !dropNE)).reverse ++ g,
        w.reverse ++ es.filter (fun e => !exist e.2)) := by
  intro es
  induction es with
  | nil => intro g w; simp [nlEdges]
  | cons a t ih =>
    intro g w
    obtain ⟨s, l⟩ := a
    cases he : exist l <;> cases dropNE <;> simp [nlEdges, he, ih]

end C17
