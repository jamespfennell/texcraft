import TexcraftModel.Model.C08
import TexcraftModel.Lemmas.C08Map
import TexcraftModel.Lemmas.C08Bisim
namespace C08
open C20 C01

/-!
# C08 — `deserialize ∘ serialize` gives back an equivalent VM; the repaired serialiser is total
on nameable states.

Encoding is a value map into `Option`, so by `Lemmas/C08Map.lean` the serialised map is the rebuilt
original with its values encoded (`fromIter_opt`) and iterates to the encoding of what that one
iterates to. C20's `iterAll_roundtrip`, used twice, then says that nothing observable is lost
(`transcode_roundtrip`, for any partial encoding with a left inverse); particular to C08 is only
that its decoders invert its encoders (`decCmd_encCmd`, `decSave_encSave`).
-/

theorem mapOpt_cons_some {α β : Type} (g : α → Option β) (a : α) (t : List α) (r : List β)
    (h : mapOpt g (a :: t) = some r) :
    ∃ b bs, g a = some b ∧ mapOpt g t = some bs ∧ r = b :: bs := by
  rw [mapOpt] at h
  split at h
  · exact ⟨_, _, ‹_›, ‹_›, (Option.some.inj h).symm⟩
  · cases h

theorem mapOpt_cons_of_some {α β : Type} (g : α → Option β) (a : α) (t : List α) (b : β)
    (bs : List β) (h1 : g a = some b) (h2 : mapOpt g t = some bs) :
    mapOpt g (a :: t) = some (b :: bs) := by
  rw [mapOpt, h1, h2]

theorem mapOpt_inv {α β : Type} {g : α → Option β} {g' : β → Option α}
    (hinv : ∀ a b, g a = some b → g' b = some a) :
    ∀ (l : List α) (r : List β), mapOpt g l = some r → mapOpt g' r = some l := by
  intro l
  induction l with
  | nil => intro r h; cases h; rfl
  | cons a t ih =>
    intro r h
    obtain ⟨b, bs, hb, hbs, rfl⟩ := mapOpt_cons_some g a t r h
    exact mapOpt_cons_of_some g' b bs a t (hinv a b hb) (ih bs hbs)

theorem mapOpt_total {α β : Type} (g : α → Option β) (l : List α)
    (h : ∀ a ∈ l, ∃ b, g a = some b) : ∃ r, mapOpt g l = some r := by
  induction l with
  | nil => exact ⟨[], rfl⟩
  | cons a t ih =>
    obtain ⟨b, hb⟩ := h a List.mem_cons_self
    obtain ⟨bs, hbs⟩ := ih (fun x hx => h x (List.mem_cons_of_mem _ hx))
    exact ⟨b :: bs, mapOpt_cons_of_some g a t b bs hb hbs⟩

theorem getElem?_idxOf_of_mem (n : Nat) (l : List Nat) (h : n ∈ l) : l[l.idxOf n]? = some n := by
  rw [List.getElem?_eq_getElem (List.idxOf_lt_length_of_mem h), List.getElem_idxOf]

theorem decCmd_encCmd (T : Table) (hT : NameTableSound T) (tbl : List Nat) (c : Cmd) (s : SCmd)
    (h : encCmd T tbl c = some s) : decCmd T tbl s = some c := by
  cases c with
  | prim p =>
    rw [encCmd] at h
    split at h
    · cases h; rw [decCmd, hT.1 p _ ‹_›]
    · cases h
  | alias v =>
    rw [encCmd] at h
    split at h
    · cases h; rw [decCmd, hT.2 v _ _ ‹_›]
    · cases h
  | mac n =>
    rw [encCmd] at h
    split at h
    · cases h; rw [decCmd, getElem?_idxOf_of_mem n tbl ‹_›]
    · cases h
  | tok c | chr c | mchr c | font c => cases h; rfl

theorem decSave_encSave (T : Table) (hT : NameTableSound T) (e : Var × Action Val)
    (x : Nat × Nat × Action Val) (h : encSave T e = some x) : decSave T x = some e := by
  rw [encSave] at h
  split at h
  · cases h; rw [decSave, hT.2 e.1 _ _ ‹_›]
  · cases h

section Codec
variable {K V W : Type} [DecidableEq K]

/-- A partial function on the values, applied to one item: what `encItem` and `decItem` are. -/
def itemOpt (f : V → Option W) : Item K V → Option (Item K W)
  | .beginGroup => some .beginGroup
  | .value k v => (f v).map (.value k)

omit [DecidableEq K] in
theorem itemOpt_inv (f : V → Option W) (g : W → Option V) (hfg : ∀ v w, f v = some w → g w = some v)
    (it : Item K V) (s : Item K W) (h : itemOpt f it = some s) : itemOpt g s = some it := by
  cases it with
  | beginGroup => cases h; rfl
  | value k v =>
    obtain ⟨w, hw, rfl⟩ := Option.map_eq_some_iff.1 h
    rw [itemOpt, hfg v w hw]; rfl

omit [DecidableEq K] in
theorem itemOpt_eq_some_iff (f : V → Option W) (it : Item K V) (s : Item K W) :
    itemOpt f it = some s ↔ itemMap f it = itemMap some s := by
  cases it with
  | beginGroup => cases s <;> simp [itemOpt, itemMap]
  | value k c => cases s <;> cases hc : f c <;> simp [itemOpt, itemMap, hc]

omit [DecidableEq K] in
theorem mapOpt_itemOpt_iff (f : V → Option W) (ci : List (Item K V)) :
    ∀ sc : List (Item K W), mapOpt (itemOpt f) ci = some sc ↔
      ci.map (itemMap f) = sc.map (itemMap some) := by
  induction ci with
  | nil => intro sc; cases sc <;> simp [mapOpt]
  | cons it t ih =>
    intro sc
    constructor
    · intro h
      obtain ⟨b, bs, hb, hbs, rfl⟩ := mapOpt_cons_some _ it t sc h
      rw [List.map_cons, List.map_cons, (itemOpt_eq_some_iff f it b).1 hb, (ih bs).1 hbs]
    · intro h
      cases sc with
      | nil => cases h
      | cons b bs =>
        injection h with h1 h2
        exact mapOpt_cons_of_some _ it t b bs ((itemOpt_eq_some_iff f it b).2 h1) ((ih bs).2 h2)

theorem fromIter_opt (f : V → Option W) (ci : List (Item K V)) (sc : List (Item K W))
    (he : mapOpt (itemOpt f) ci = some sc) :
    gmapMap some (GMap.fromIter sc) = gmapMap f (GMap.fromIter ci) := by
  rw [← fromIter_map, ← fromIter_map, (mapOpt_itemOpt_iff f ci sc).1 he]

theorem get_transcode (f : V → Option W) (m : GMap K V) (hm : Inv m) (ci : List (Item K V))
    (sc : List (Item K W)) (hi : m.iterAll = .ok ci) (he : mapOpt (itemOpt f) ci = some sc) (k : K) :
    ((GMap.fromIter sc).get k).map some = (m.get k).map f := by
  obtain ⟨_, hitems, habs, _⟩ := iterAll_roundtrip m hm
  rw [hi] at hitems
  cases hitems
  rw [← get_gmapMap, fromIter_opt f ci sc he, get_gmapMap, get_congr habs]

theorem transcode_roundtrip (f : V → Option W) (g : W → Option V)
    (hfg : ∀ v w, f v = some w → g w = some v) (m : GMap K V) (hm : Inv m)
    (ci : List (Item K V)) (sc : List (Item K W))
    (hi : m.iterAll = .ok ci) (he : mapOpt (itemOpt f) ci = some sc) :
    ∃ ci' sc', (GMap.fromIter sc).iterAll = .ok sc' ∧ mapOpt (itemOpt g) sc' = some ci' ∧
      MEquiv (GMap.fromIter ci') m := by
  obtain ⟨_, hitems, habs1, hinv1⟩ := iterAll_roundtrip m hm
  rw [hi] at hitems
  cases hitems
  obtain ⟨ci', hci', habs2, hinv2⟩ := iterAll_roundtrip (GMap.fromIter ci) hinv1
  have e := congrArg GMap.iterAll (fromIter_opt f ci sc he)
  rw [iterAll_map, iterAll_map, hci'] at e
  obtain ⟨sc', hsc', e'⟩ := resMap_eq_ok e
  have henc : mapOpt (itemOpt f) ci' = some sc' := (mapOpt_itemOpt_iff f ci' sc').2 e'.symm
  exact ⟨ci', sc', hsc',
    mapOpt_inv (itemOpt_inv f g hfg) ci' sc' henc,
    habs2.trans habs1, hinv2, hm⟩

end Codec

theorem encItem_eq (T : Table) (tbl : List Nat) : encItem T tbl = itemOpt (encCmd T tbl) := by
  funext it
  cases it with
  | beginGroup => rfl
  | value k c => rw [encItem, itemOpt]; cases encCmd T tbl c <;> rfl

theorem decItem_eq (T : Table) (tbl : List Nat) : decItem T tbl = itemOpt (decCmd T tbl) := by
  funext it
  cases it with
  | beginGroup => rfl
  | value k s => rw [decItem, itemOpt]; cases decCmd T tbl s <;> rfl

theorem serialize_ok (T : Table) (vm : VMState) (s : Ser) (hs : serialize true T vm = .ok s) :
    ∃ ci ai sc sa sv, vm.cmds.iterAll = .ok ci ∧ vm.active.iterAll = .ok ai ∧
      mapOpt (encItem T (macrosOf ai (macrosOf ci []))) ci = some sc ∧
      mapOpt (encItem T (macrosOf ai (macrosOf ci []))) ai = some sa ∧
      mapOpt (mapOpt (encSave T)) vm.save = some sv ∧
      s = { cmds := GMap.fromIter sc, active := GMap.fromIter sa,
            macros := macrosOf ai (macrosOf ci []), save := sv, vars := vm.vars, font := vm.font,
            fontSave := vm.fontSave, scopeBit := vm.scopeBit } := by
  unfold serialize at hs
  split at hs
  · rw [if_pos rfl] at hs
    split at hs
    · simp only at hs
      split at hs
      · cases hs; exact ⟨_, _, _, _, _, ‹_›, ‹_›, ‹_›, ‹_›, ‹_›, rfl⟩
      · cases hs
    · cases hs
    · cases hs
  · cases hs
  · cases hs

theorem deserialize_serialize (T : Table) (hT : NameTableSound T) (vm : VMState)
    (hc : Inv vm.cmds) (ha : Inv vm.active) (s : Ser) (hs : serialize true T vm = .ok s) :
    ∃ vm', deserialize T s = .ok vm' ∧ VEquiv vm' vm := by
  obtain ⟨ci, ai, sc, sa, sv, hci, hai, h1, h2, h3, rfl⟩ := serialize_ok T vm s hs
  rw [encItem_eq] at h1 h2
  have hfg := decCmd_encCmd T hT (macrosOf ai (macrosOf ci []))
  obtain ⟨ci', sc', c1, c2, c3⟩ := transcode_roundtrip _ _ hfg vm.cmds hc ci sc hci h1
  obtain ⟨ai', sa', a1, a2, a3⟩ := transcode_roundtrip _ _ hfg vm.active ha ai sa hai h2
  have h4 := mapOpt_inv (mapOpt_inv (decSave_encSave T hT)) vm.save sv h3
  refine ⟨_, ?_, .of_maps c3 a3 vm.vars vm.save vm.font vm.fontSave vm.scopeBit⟩
  simp only [deserialize, decItem_eq, c1, a1, c2, a2, h4]

theorem checkpoint_equiv (T : Table) (hT : NameTableSound T) (vm : VMState) (hc : Inv vm.cmds)
    (ha : Inv vm.active) (vm' : VMState) (h : checkpoint true T vm = .ok vm') : VEquiv vm' vm := by
  unfold checkpoint at h
  split at h
  · obtain ⟨vm'', hd, he⟩ := deserialize_serialize T hT vm hc ha _ ‹_›
    rw [h] at hd
    cases hd
    exact he
  · cases h
  · cases h

/-- What one command does to the macro table: the step of `macrosOf` at one item
(`macrosOf_value`). -/
def stepTbl (tbl : List Nat) : Cmd → List Nat
  | .mac n => if n ∈ tbl then tbl else tbl ++ [n]
  | _ => tbl

theorem macrosOf_value (k : Nat) (c : Cmd) (t : List (Item Nat Cmd)) (tbl : List Nat) :
    macrosOf (.value k c :: t) tbl = macrosOf t (stepTbl tbl c) := by
  cases c <;> rfl

theorem stepTbl_mac_of_mem {tbl : List Nat} {n : Nat} (h : n ∈ tbl) : stepTbl tbl (.mac n) = tbl :=
  if_pos h

theorem stepTbl_mac_of_not_mem {tbl : List Nat} {n : Nat} (h : n ∉ tbl) :
    stepTbl tbl (.mac n) = tbl ++ [n] :=
  if_neg h

theorem stepTbl_prefix (tbl : List Nat) (c : Cmd) : tbl <+: stepTbl tbl c := by
  cases c with
  | mac n =>
    rw [stepTbl]
    split
    · exact List.prefix_rfl
    · exact List.prefix_append tbl [n]
  | _ => exact List.prefix_rfl

theorem mem_stepTbl_mac (tbl : List Nat) (n : Nat) : n ∈ stepTbl tbl (.mac n) := by
  by_cases h : n ∈ tbl
  · rw [stepTbl_mac_of_mem h]; exact h
  · rw [stepTbl_mac_of_not_mem h]; exact List.mem_append_right _ (List.mem_singleton_self n)

theorem macrosOf_induct {P : List Nat → Prop} (hstep : ∀ tbl c, P tbl → P (stepTbl tbl c))
    (items : List (Item Nat Cmd)) : ∀ tbl : List Nat, P tbl → P (macrosOf items tbl) := by
  induction items with
  | nil => exact fun _ h => h
  | cons it t ih =>
    intro tbl h
    cases it with
    | beginGroup => exact ih tbl h
    | value k c => rw [macrosOf_value]; exact ih _ (hstep tbl c h)

theorem macrosOf_prefix (items : List (Item Nat Cmd)) (tbl : List Nat) :
    tbl <+: macrosOf items tbl :=
  macrosOf_induct (fun t c h => h.trans (stepTbl_prefix t c)) items tbl List.prefix_rfl

theorem macrosOf_mem (k n : Nat) (l : List (Item Nat Cmd)) :
    ∀ tbl : List Nat, Item.value k (Cmd.mac n) ∈ l → n ∈ macrosOf l tbl := by
  induction l with
  | nil => intro tbl h; cases h
  | cons it t ih =>
    intro tbl h
    cases it with
    | beginGroup =>
      rcases List.mem_cons.1 h with h' | h'
      · cases h'
      · exact ih tbl h'
    | value k' c =>
      rw [macrosOf_value]
      rcases List.mem_cons.1 h with h' | h'
      · cases h'; exact (macrosOf_prefix t _).subset (mem_stepTbl_mac tbl n)
      · exact ih _ h'

/-- The command has a name in the tables where `encCmd` looks one up (primitives, aliases). -/
def nameableCmd (T : Table) : Cmd → Prop
  | .prim p => (T.nameOfPrim p).isSome = true
  | .alias v => (T.nameOfVar v).isSome = true
  | _ => True

/-- Every command stored in the two maps (visible or saved for `Revert`) and every variable on the
save stack has a name: under this `serialize` meets none of its `unwrap` / `todo!()` arms. -/
def Nameable (T : Table) (vm : VMState) : Prop :=
  GAll (nameableCmd T) vm.cmds ∧ GAll (nameableCmd T) vm.active ∧
  ∀ g ∈ vm.save, ∀ e ∈ g, (T.nameOfVar e.1).isSome = true

theorem encCmd_total (T : Table) (tbl : List Nat) (c : Cmd) (hn : nameableCmd T c)
    (hm : ∀ n, c = .mac n → n ∈ tbl) : ∃ s, encCmd T tbl c = some s := by
  cases c with
  | prim p =>
    obtain ⟨n, hq⟩ := Option.isSome_iff_exists.1 hn
    exact ⟨.builtIn n, by simp only [encCmd, hq]⟩
  | alias v =>
    obtain ⟨⟨n, i⟩, hq⟩ := Option.isSome_iff_exists.1 hn
    exact ⟨.arrayStatic n i, by simp only [encCmd, hq]⟩
  | mac n => exact ⟨_, by rw [encCmd, if_pos (hm n rfl)]⟩
  | tok c | chr c | mchr c | font c => exact ⟨_, rfl⟩

theorem mapOpt_encItem_total (T : Table) (tbl : List Nat) (l : List (Item Nat Cmd))
    (hn : ∀ k c, Item.value k c ∈ l → nameableCmd T c)
    (hm : ∀ k n, Item.value k (Cmd.mac n) ∈ l → n ∈ tbl) :
    ∃ r, mapOpt (encItem T tbl) l = some r := by
  apply mapOpt_total
  intro it hit
  cases it with
  | beginGroup => exact ⟨_, rfl⟩
  | value k c =>
    obtain ⟨s, hs⟩ := encCmd_total T tbl c (hn k c hit) (fun n e => hm k n (e ▸ hit))
    exact ⟨.value k s, by simp only [encItem, hs]⟩

theorem mapOpt_encSave_total (T : Table) (l : List (List (Var × Action Val)))
    (h : ∀ g ∈ l, ∀ e ∈ g, (T.nameOfVar e.1).isSome = true) :
    ∃ r, mapOpt (mapOpt (encSave T)) l = some r := by
  apply mapOpt_total
  intro g hg
  apply mapOpt_total
  intro e he
  obtain ⟨⟨n, i⟩, hq⟩ := Option.isSome_iff_exists.1 (h g hg e he)
  exact ⟨(n, i, e.2), by simp only [encSave, hq]⟩

theorem serialize_total (T : Table) (vm : VMState) (hc : Inv vm.cmds) (ha : Inv vm.active)
    (hn : Nameable T vm) : ∃ s, serialize true T vm = .ok s := by
  obtain ⟨hnc, hna, hns⟩ := hn
  obtain ⟨ci, hci, _, _⟩ := iterAll_roundtrip vm.cmds hc
  obtain ⟨ai, hai, _, _⟩ := iterAll_roundtrip vm.active ha
  obtain ⟨sc, h1⟩ := mapOpt_encItem_total T (macrosOf ai (macrosOf ci [])) ci
    (iterAll_all _ _ hnc ci hci)
    (fun k n h => (macrosOf_prefix ai _).subset (macrosOf_mem k n ci [] h))
  obtain ⟨sa, h2⟩ := mapOpt_encItem_total T (macrosOf ai (macrosOf ci [])) ai
    (iterAll_all _ _ hna ai hai)
    (fun k n h => macrosOf_mem k n ai _ h)
  obtain ⟨sv, h3⟩ := mapOpt_encSave_total T vm.save hns
  unfold serialize
  simp only [hci, if_true, hai, h1, h2, h3]
  exact ⟨_, rfl⟩

end C08
