import TexcraftModel.Lemmas.C13Main

/-! C13: why three one-site changes of the code (`mutants/C13/`) cannot change any hyphenation.
03: the overflow byte `15·16` of a zero run before a terminator written as `14·16`; 16: blank lines
of the exception text are kept, so the empty entry is inserted; 33: `plain_tex_en_us` inserts the
exceptions before it loads the patterns. -/
namespace C13

theorem scores_depend_on_digits (h1 h2 : Hyph) (hB1 : Bounded h1) (hB2 : Bounded h2)
    (hv : ∀ π j, (val h1 π).getD j 0 = (val h2 π).getD j 0)
    (lc : Char → Option Char) (w ls : List Char) (hl : w.mapM lc = some ls) :
    aggregateScores h1 lc w = aggregateScores h2 lc w := by
  rw [aggregate_eq h1 hB1 lc w ls hl, aggregate_eq h2 hB2 lc w ls hl]
  simp only [digitAt, hv]

/-- Mutant 03: `b` is a zero-run byte (low nibble 0, any count in the high nibble: `15·16`,
`14·16`, …). -/
theorem terminal_run_is_zeros (k b z term : Nat) (hb : b % 16 = 0)
    (hterm : term = 10 ∨ term = 11) :
    ∀ d ∈ decodeOps (List.replicate k b ++ [term + z * 16]), d = 0 := by
  intro d hd
  rcases mem_decodeOps _ d hd with rfl | ⟨x, hx, hnt, rfl⟩
  · rfl
  · rcases List.mem_append.1 hx with h | h
    · rw [(List.mem_replicate.1 h).2, hb]
    · rw [List.mem_singleton.1 h, Nat.add_mul_mod_self_right] at hnt
      exact absurd (by omega) hnt

theorem findException_insert (es1 es2 : List (List Char)) (e0 lw : List Char)
    (h : stripHyphens e0 ≠ lw) :
    findException (es1 ++ e0 :: es2) lw = findException (es1 ++ es2) lw := by
  simp [findException_eq_find, List.find?_append, h]

theorem buildRev_eq (ps es : List (List Char))
    (hdis : ∀ p ∈ ps, ∀ e ∈ es, (excItem e).key ≠ (patItem p).key) :
    loadPatterns (insertExceptions {} es) ps = buildItems (es.map excItem ++ ps.map patItem) := by
  unfold loadPatterns
  rw [insertExceptions_eq]
  refine loadPatterns_buildItems ps (es.map excItem) (fun p hp it hit hk => ?_)
  obtain ⟨e, he, rfl⟩ := List.mem_map.1 hit
  exact absurd hk (hdis p hp e he)

end C13
