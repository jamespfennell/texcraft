import TexcraftModel.Lemmas.C18Render
import TexcraftModel.Lemmas.C18Build

/-! C18: every printing (`Lowers`) of an expressible list, in particular the CST that the list
printer produces, is printable (`callsOk`): names are words, numbers are in the ranges the text
level can carry. -/
namespace C18

theorem isWord_fnName (f : Fn) : isWord f.name = true := (Fn.table f f.mem_all).2
theorem isWord_fieldName (f : Field) : isWord f.name = true := (Field.table f f.mem_all).2

theorem argsOk_mkArgs : ∀ (n : Nat) (fs : List Field) (vs : List Val),
    vs.all valOk = true → argsOk (mkArgs n fs vs) = true
  | _, [], _, _ => by simp [mkArgs, argsOk]
  | _, _ :: _, [], _ => by simp [mkArgs, argsOk]
  | 0, f :: fs, v :: vs, h => by
    simp only [List.all_cons, Bool.and_eq_true] at h
    simp [mkArgs, argsOk, argOk, isWord_fieldName, h.1, argsOk_mkArgs 0 fs vs h.2]
  | n + 1, f :: fs, v :: vs, h => by
    simp only [List.all_cons, Bool.and_eq_true] at h
    simp [mkArgs, argsOk, argOk, h.1, argsOk_mkArgs n fs vs h.2]

theorem callOk_mkCall (fn : Fn) (vals : List Val) (hv : vals.all valOk = true) :
    callOk (mkCall fn vals) = true := by
  simp [mkCall, callOk, isWord_fnName, argsOk_mkArgs _ _ _ hv]

theorem intOk_toI32 {n : Nat} (h : u32Ok n = true) : intOk (toI32 n) = true := by
  unfold u32Ok at h
  have := of_decide_eq_true h
  unfold intOk toI32
  apply decide_eq_true
  split <;> omega

theorem valOk_stretchVal {s : Int} {o : Order} (h : stretchOk s o = true) : valOk (stretchVal s o) = true := by
  cases o <;> simpa [stretchVal, valOk, stretchOk] using h

theorem valOk_runningVal {s : Int} (h : ruleDimOk s = true) : valOk (runningVal s) = true := by
  unfold runningVal
  by_cases hs : s = running
  · simp [hs, valOk]
  · simp only [hs, if_false, valOk]
    unfold ruleDimOk at h
    simpa [hs] using h

theorem intOk_small {n : Nat} (h : n < 256) : intOk (n : Int) = true := by
  unfold intOk; apply decide_eq_true; omega

theorem callOk_charsCall (buf : Str) (font : Nat) (h : u32Ok font = true) :
    callOk (charsCall buf font) = true :=
  callOk_mkCall _ _ (by simpa [valOk] using intOk_toI32 h)

theorem callsOk_append : ∀ (a b : List Call), callsOk (a ++ b) = (callsOk a && callsOk b)
  | [], _ => rfl
  | c :: a, b => by rw [List.cons_append, callsOk, callsOk, callsOk_append a b, Bool.and_assoc]

mutual
theorem ok_node : ∀ (n : Node), exprNode n = true → callOk (lowerNode n) = true
  | .char c font, he => callOk_charsCall [c] font he
  | .glue kind w st sto sh sho, he => by
    simp only [exprNode, Bool.and_eq_true] at he
    refine callOk_mkCall _ _ ?_
    simp only [List.all_cons, List.all_nil, valOk, Bool.and_true, Bool.and_eq_true]
    exact ⟨he.1.1.2, valOk_stretchVal he.1.2, valOk_stretchVal he.2⟩
  | .kern kind w, he => by
    simp only [exprNode, Bool.and_eq_true] at he
    exact callOk_mkCall _ _ (by simpa [valOk] using he.2)
  | .penalty p, he => callOk_mkCall _ _ (by simpa [valOk, exprNode] using he)
  | .rule h w d, he => by
    simp only [exprNode, Bool.and_eq_true] at he
    refine callOk_mkCall _ _ ?_
    simp only [List.all_cons, List.all_nil, Bool.and_true, Bool.and_eq_true]
    exact ⟨valOk_runningVal he.1.1, valOk_runningVal he.1.2, valOk_runningVal he.2⟩
  | .lig c orig font l r, he => callOk_mkCall _ _ (by simpa [valOk] using intOk_toI32 he)
  | .mark n, he => callOk_mkCall _ _ (by decide)
  | .math a, he => callOk_mkCall _ _ rfl
  | .disc pre post rc, he => by
    simp only [exprNode, Bool.and_eq_true] at he
    refine callOk_mkCall _ _ ?_
    simp only [List.all_cons, List.all_nil, valOk, Bool.and_true, Bool.and_eq_true]
    exact ⟨ok_lowers .D pre _ (.lower .D pre) he.1.1, ok_lowers .D post _ (.lower .D post) he.1.2, intOk_toI32 he.2⟩
  | .hbox h w d shift ratio order l, he => by
    simp only [exprNode, Bool.and_eq_true] at he
    refine callOk_mkCall _ _ ?_
    simp only [List.all_cons, List.all_nil, valOk, Bool.and_true, Bool.and_eq_true, true_and]
    exact ⟨he.1.1.1.1.1.1, he.1.1.1.1.1.2, he.1.1.1.1.2, he.1.1.1.2, ok_lowers .H l _ (.lower .H l) he.2⟩
  | .vbox h w d shift gset l, he => by
    simp only [exprNode, Bool.and_eq_true] at he
    refine callOk_mkCall _ _ ?_
    simp only [List.all_cons, List.all_nil, valOk, Bool.and_true, Bool.and_eq_true]
    exact ⟨he.1.1.1.1.1, he.1.1.1.1.2, he.1.1.1.2, he.1.1.2, ok_lowers .V l _ (.lower .V l) he.2⟩
  | .adjust l, he => by
    refine callOk_mkCall _ _ ?_
    simp only [List.all_cons, List.all_nil, valOk, Bool.and_true]
    exact ok_lowers .V l _ (.lower .V l) he
  | .ins box h md w st sto sh sho fp l, he => by
    simp only [exprNode, Bool.and_eq_true, decide_eq_true_eq] at he
    refine callOk_mkCall _ _ ?_
    simp only [List.all_cons, List.all_nil, valOk, Bool.and_true, Bool.and_eq_true]
    exact ⟨intOk_small he.1.1.1.1.1.1.1, he.1.1.1.1.1.1.2, he.1.1.1.1.1.2, he.1.1.1.1.2,
      valOk_stretchVal he.1.1.1.2, valOk_stretchVal he.1.1.2, intOk_toI32 he.1.2, ok_lowers .V l _ (.lower .V l) he.2⟩

/-- Every printing of an expressible list is a printable CST. -/
theorem ok_lowers : ∀ (m : Mode) (l : List Node) (cs : List Call),
    Lowers l cs → exprList m l = true → callsOk cs = true
  | _, [], _, .nil, _ => rfl
  | m, n :: r, _, h, he => by
    have ihn := ok_node n
    have ihr := ok_lowers m r
    simp only [exprList, Bool.and_eq_true] at he
    cases h with
    | node h' => rw [callsOk, ihn he.1.2, ihr _ h' he.2]; rfl
    -- whether a `chars` call is printable does not depend on its string
    | join h' => exact (ihr _ h' he.2 :)
end

theorem ok_lower (m : Mode) (l : List Node) (he : exprList m l = true) : callsOk (lower m l) = true :=
  ok_lowers m l _ (.lower m l) he

end C18
