/-
C11 — the transcribed LIGTABLE printer and parser compose to the closed form `normalise`:
`printParse p es = normalise p es` (program equal; label positions equal as maps) whenever no
reachable word is a redirect word. This ties the theorems about `normalise` to the
item-level passes that the driver compares with the real `lower` / `from_ast`.
-/
import TexcraftModel.Model.C11
import TexcraftModel.Model.C11Norm
import TexcraftModel.Lemmas.C11Norm

namespace C11

/-- The entry points after the parser has read the labels `cs` in front of position `u`. -/
def addLabels (es : List (Nat × Nat)) (cs : List Nat) (u : Nat) : List (Nat × Nat) :=
  cs.foldl (fun acc c => insertEntry acc c u) es

theorem foldl_labels : ∀ (cs : List Nat) (s : PState),
    (cs.map Item.label).foldl parseStep s =
      { s with entries := addLabels s.entries cs s.instrs.length,
               precedes := if cs = [] then s.precedes else false } := by
  intro cs
  induction cs with
  | nil => intro s; simp [addLabels]
  | cons c t ih =>
    intro s
    simp only [List.map_cons, List.foldl_cons, parseStep, ih, addLabels]
    cases t <;> simp

theorem setLastNext_snoc : ∀ (acc : List Instr) (x : Instr) (n : Option Nat),
    setLastNext (acc ++ [x]) n = acc ++ [{ x with next := n }] := by
  intro acc
  induction acc with
  | nil => intro x n; rfl
  | cons a t ih =>
    intro x n
    cases t with
    | nil => simp [setLastNext]
    | cons b t' =>
      have := ih x n
      simp only [List.cons_append] at this ⊢
      simp only [setLastNext, this]

theorem foldl_op_tail (s : PState) (i : Instr) (fl : List Bool) :
    ([Item.op i.right i.op] ++ tailItems i.next fl).foldl parseStep s =
      ⟨s.instrs ++ [{ i with next := outNext i.next fl }], s.entries, s.lb, (tailItems i.next fl).isEmpty⟩ := by
  simp only [List.singleton_append, List.foldl_cons, parseStep, tailItems, outNext]
  cases ha : adjSkip i.next fl with
  | some n => simp [parseStep, setLastNext_snoc]
  | none =>
    cases hn : i.next with
    | none => simp [parseStep, setLastNext_snoc]
    | some m =>
      cases m with
      | zero => simp
      | succ m' => simp [parseStep, setLastNext_snoc]

theorem parseFold_cons_false (lb : Option Nat) (es : List (Nat × Nat)) (k : Nat) (i : Instr) (rest : List Instr)
    (fl : List Bool) (s : PState) :
    (printItems lb es k (i :: rest) (false :: fl)).foldl parseStep s =
      (printItems lb es (k + 1) rest fl).foldl parseStep s := rfl

theorem parseFold_cons_true (lb : Option Nat) (es : List (Nat × Nat)) (k : Nat) (i : Instr) (rest : List Instr)
    (fl : List Bool) (s : PState) (hop : i.op.isRedirect = false) :
    (printItems lb es k (i :: rest) (true :: fl)).foldl parseStep s =
      (printItems lb es (k + 1) rest fl).foldl parseStep
        ⟨s.instrs ++ [{ i with next := outNext i.next fl }],
         addLabels s.entries (labelsAt es k) s.instrs.length,
         if lb = some k then some s.instrs.length else s.lb,
         (tailItems i.next fl).isEmpty⟩ := by
  simp only [printItems, if_true, hop, Bool.false_eq_true, if_false]
  rw [List.foldl_append]
  refine congrArg (fun t => List.foldl parseStep t _) ?_
  simp only [List.append_assoc]
  rw [List.foldl_append, List.foldl_append, foldl_labels, foldl_op_tail]
  by_cases hb : lb = some k <;> simp [hb, parseStep]

theorem parseFold_instrs (lb : Option Nat) (es : List (Nat × Nat)) :
    ∀ (l : List Instr) (fl : List Bool) (k : Nat) (s : PState), noReachRedirect l fl = true →
      ((printItems lb es k l fl).foldl parseStep s).instrs = s.instrs ++ compact l fl := by
  intro l
  induction l with
  | nil => intro fl k s _; cases fl <;> simp [printItems, compact]
  | cons i rest ih =>
    intro fl k s hnr
    cases fl with
    | nil => simp [printItems, compact]
    | cons f fl' =>
      obtain ⟨h1, h2⟩ := noReachRedirect_cons hnr
      cases f with
      | false => exact ih fl' (k + 1) s h2
      | true =>
        rw [parseFold_cons_true lb es k i rest fl' s (h1 rfl), ih fl' (k + 1) _ h2]
        simp only [compact, h1 rfl, Bool.not_false, Bool.and_self, if_true, List.append_assoc]

theorem isReach_succ (f : Bool) (fl : List Bool) (j : Nat) : isReach (f :: fl) (j + 1) = isReach fl j := by
  simp [isReach]

theorem posOf_succ (i : Instr) (rest : List Instr) (f : Bool) (fl : List Bool) (j : Nat) :
    posOf (i :: rest) (f :: fl) (j + 1) = (if f && !i.op.isRedirect then 1 else 0) + posOf rest fl j := rfl

theorem posOf_zero : ∀ (l : List Instr) (fl : List Bool), posOf l fl 0 = 0 := by
  intro l fl; cases l <;> cases fl <;> rfl

theorem parseFold_unchanged {α : Type} (lb : Option Nat) (es : List (Nat × Nat)) (obs : PState → α) :
    ∀ (l : List Instr) (fl : List Bool) (k : Nat) (s : PState), noReachRedirect l fl = true →
      (∀ (k' : Nat) (s : PState) (I : List Instr) (P : Bool), k ≤ k' →
        obs ⟨I, addLabels s.entries (labelsAt es k') s.instrs.length,
          if lb = some k' then some s.instrs.length else s.lb, P⟩ = obs s) →
      obs ((printItems lb es k l fl).foldl parseStep s) = obs s := by
  intro l
  induction l with
  | nil => intro fl k s _ _; cases fl <;> rfl
  | cons i rest ih =>
    intro fl k s hnr h
    cases fl with
    | nil => rfl
    | cons f fl' =>
      obtain ⟨h1, h2⟩ := noReachRedirect_cons hnr
      have ih := fun s => ih fl' (k + 1) s h2 (fun k' s I P hk => h k' s I P (by omega))
      cases f with
      | false => exact ih s
      | true => rw [parseFold_cons_true lb es k i rest fl' s (h1 rfl), ih, h k s _ _ (Nat.le_refl k)]

/-- A quantity `obs` of the parser state that is set to the current position exactly when the
items of word `e` are read (the boundary label in front of word `e`, the label of a character
whose entry point is `e`) ends up as the position of word `e` among the printed steps. -/
theorem parseFold_mark (lb : Option Nat) (es : List (Nat × Nat)) (obs : PState → Option Nat) (e : Nat)
    (hobs : ∀ (k : Nat) (s : PState) (I : List Instr) (P : Bool),
      obs ⟨I, addLabels s.entries (labelsAt es k) s.instrs.length,
        if lb = some k then some s.instrs.length else s.lb, P⟩ =
        if k = e then some s.instrs.length else obs s) :
    ∀ (l : List Instr) (fl : List Bool) (d k : Nat) (s : PState), fl.length = l.length →
      noReachRedirect l fl = true → k + d = e →
      obs ((printItems lb es k l fl).foldl parseStep s) =
        if isReach fl d = true then some (s.instrs.length + posOf l fl d) else obs s := by
  intro l
  induction l with
  | nil =>
    intro fl d k s hl _ _
    cases fl with
    | nil => simp [printItems, isReach]
    | cons f fl' => simp at hl
  | cons i rest ih =>
    intro fl d k s hl hnr hk
    cases fl with
    | nil => simp at hl
    | cons f fl' =>
      obtain ⟨h1, h2⟩ := noReachRedirect_cons hnr
      cases d with
      | zero =>
        obtain rfl : k = e := hk
        -- the words behind `e` leave `obs` alone
        have hrest := fun s => parseFold_unchanged lb es obs rest fl' (k + 1) s h2
          (fun k' s I P hk' => by rw [hobs, if_neg (by omega)])
        cases f with
        | false => simp [parseFold_cons_false, hrest, isReach]
        | true => simp [parseFold_cons_true lb es k i rest fl' s (h1 rfl), hrest, hobs, isReach, posOf_zero]
      | succ j =>
        have ih := fun s => ih fl' j (k + 1) s (by simpa using hl) h2 (by omega)
        have hne : ¬ k = e := by omega
        rw [isReach_succ, posOf_succ]
        cases f with
        | false => rw [parseFold_cons_false, ih, Bool.false_and, if_neg Bool.false_ne_true, Nat.zero_add]
        | true =>
          rw [parseFold_cons_true lb es k i rest fl' s (h1 rfl), ih, hobs, if_neg hne]
          simp only [h1 rfl, List.length_append, List.length_cons, List.length_nil, Nat.add_assoc, Nat.zero_add,
            Bool.not_false, Bool.and_self, if_true]

theorem parseFold_target (lb : Option Nat) (es : List (Nat × Nat)) (obs : PState → Option Nat) (t : Option Nat)
    (hobs : ∀ (k : Nat) (s : PState) (I : List Instr) (P : Bool),
      obs ⟨I, addLabels s.entries (labelsAt es k) s.instrs.length,
        if lb = some k then some s.instrs.length else s.lb, P⟩ =
        if t = some k then some s.instrs.length else obs s)
    (h0 : obs ⟨[], [], none, false⟩ = none)
    (l : List Instr) (fl : List Bool) (hl : fl.length = l.length) (hnr : noReachRedirect l fl = true) :
    obs ((printItems lb es 0 l fl).foldl parseStep ⟨[], [], none, false⟩) =
      t.bind fun e => if isReach fl e = true then some (posOf l fl e) else none := by
  cases t with
  | none => exact (parseFold_unchanged lb es obs l fl 0 _ hnr fun k s I P _ => hobs k s I P).trans h0
  | some e =>
    rw [parseFold_mark lb es obs e (fun k s I P => by simp only [hobs, Option.some.injEq, eq_comm]) l fl e 0 _ hl hnr
      (Nat.zero_add e), h0, List.length_nil, Nat.zero_add]
    rfl

theorem lookup_insertEntry (acc : List (Nat × Nat)) (c u k : Nat) :
    lookup (insertEntry acc c u) k = if k = c then some u else lookup acc k := by
  simp only [insertEntry, lookup_append, lookup_filter_ne]
  by_cases hk : k = c
  · subst hk; simp [lookup]
  · have : ¬ c = k := fun h => hk h.symm
    simp only [hk, if_false, lookup, this]
    cases lookup acc k <;> rfl

theorem lookup_addLabels : ∀ (cs : List Nat) (acc : List (Nat × Nat)) (u k : Nat),
    lookup (addLabels acc cs u) k = if k ∈ cs then some u else lookup acc k := by
  intro cs
  induction cs with
  | nil => intro acc u k; simp [addLabels]
  | cons c t ih =>
    intro acc u k
    have := ih (insertEntry acc c u) u k
    simp only [addLabels, List.foldl_cons] at this ⊢
    rw [this, lookup_insertEntry]
    by_cases hc : k = c <;> simp [hc]

theorem mem_labelsAt {es : List (Nat × Nat)} (hnd : (es.map (·.1)).Nodup) (c k : Nat) :
    c ∈ labelsAt es k ↔ lookup es c = some k := by
  rw [lookup_iff_mem hnd]
  simp only [labelsAt, List.mem_map, List.mem_filter, decide_eq_true_eq]
  constructor
  · rintro ⟨⟨c', k'⟩, ⟨hx, rfl⟩, rfl⟩
    exact hx
  · exact fun h => ⟨(c, k), ⟨h, rfl⟩, rfl⟩

theorem printParse_normalise {p : Prog} {es : List (Nat × Nat)}
    (hnr : noReachRedirect p.instrs (reachable p es) = true) (hnd : (es.map (·.1)).Nodup) :
    (printParse p es).1 = (normalise p es).1 ∧
      ∀ c, lookup (printParse p es).2 c = lookup (normalise p es).2 c := by
  have hlen : (reachable p es).length = p.instrs.length := reachFrom_length _ _
  constructor
  · simp only [printParse, parseItems, normalise, parseFold_instrs _ _ _ _ _ _ hnr, List.nil_append]
    congr 1
    exact parseFold_target p.lb es (·.lb) p.lb (fun _ _ _ _ => rfl) rfl _ _ hlen hnr
  · intro c
    have hn : (normalise p es).2 = es.filterMap fun ce =>
        (if isReach (reachable p es) ce.2 = true then some (posOf p.instrs (reachable p es) ce.2) else none).map
          fun v => (ce.1, v) :=
      congrArg (List.filterMap · es) (funext fun ce => by split <;> rfl)
    rw [hn, lookup_filterMap (fun e => if isReach (reachable p es) e = true then
      some (posOf p.instrs (reachable p es) e) else none) es hnd c]
    exact parseFold_target p.lb es (fun s => lookup s.entries c) (lookup es c)
      (fun k s _ _ => by simp only [lookup_addLabels, mem_labelsAt hnd]) rfl _ _ hlen hnr

end C11
