import TexcraftModel.Lemmas.C04AlgoDefs

/-!
C04 — the transcribed algorithm's local computations (`classify`, `endUpdate`, `breakWidth`,
`rateFn`, `demeritsFn`) agree with the specification's prefix functions (`cum`, `autoAt`,
`insideReplaced`, `rawBreak`, `afterRef`, `rate`, `demerits`).
-/
namespace C04

theorem Totals.add_zero (a : Totals) : a.add {} = a := by
  cases a; simp [Totals.add]

theorem Totals.add_ofWidth_add (a : Totals) (w v : Int) :
    a.add (.ofWidth (w + v)) = (a.add (.ofWidth w)).add (.ofWidth v) := by
  simp only [Totals.add, Totals.ofWidth, Int.add_zero, Int.add_assoc]

theorem Totals.sub_add_comm (d k c : Totals) : (d.sub k).add c = (d.add c).sub k := by
  have h : ∀ a b c : Int, a - b + c = a + c - b := fun a b c => by omega
  simp only [Totals.add, Totals.sub, h]

theorem cum_succ (items : List Item) (i : Nat) :
    cum items (i + 1) = (cum items i).add (((items[i]?).map Item.contrib).getD {}) := by
  unfold cum
  cases h : items[i]? with
  | none =>
    have hlen := List.getElem?_eq_none_iff.mp h
    rw [List.take_of_length_le hlen, List.take_of_length_le (Nat.le_succ_of_le hlen)]
    exact (Totals.add_zero _).symm
  | some it =>
    rw [List.take_add_one, List.foldl_append, h]
    rfl

theorem spec_autoAt_eq (items : List Item) (b : Nat) : autoAt items b = autoBefore items (b + 1) := rfl

theorem spec_autoBefore_succ (items : List Item) (i : Nat) :
    autoBefore items (i + 1) =
      match items[i]? with
      | some (.math after) => after
      | _ => autoBefore items i := by
  unfold autoBefore
  rw [List.take_add_one, List.foldl_append]
  cases items[i]? with
  | none => rfl
  | some it => cases it <;> rfl

theorem spec_eorAt_succ (items : List Item) (i : Nat) :
    eorAt items (i + 1) =
      match items[i]? with
      | some (.disc _ _ r) => i + 1 + r
      | _ => eorAt items i := by
  unfold eorAt
  rw [List.range_succ, List.foldl_append]
  rfl

theorem spec_discOK_prop (x : Inst) (hd : discOK x = true) {a : Nat} {pre post : List Int} {r : Nat}
    (h : x.items[a]? = some (.disc pre post r)) {j : Nat} (h1 : a < j) (h2 : j < a + 1 + r) :
    (∃ w, x.items[j]? = some (.box w)) ∨ (∃ e w, x.items[j]? = some (.kern e w)) := by
  unfold discOK at hd
  rw [List.all_eq_true] at hd
  have hk := hd a (List.mem_range.2 (List.getElem?_eq_some_iff.1 h).1)
  simp only [h] at hk
  rw [List.all_eq_true] at hk
  have hj := hk (j - (a + 1)) (List.mem_range.2 (by omega))
  rw [show a + 1 + (j - (a + 1)) = j by omega] at hj
  cases h3 : x.items[j]? with
  | none => simp [h3] at hj
  | some it =>
    cases it <;> simp [h3] at hj
    · exact Or.inl ⟨_, rfl⟩
    · exact Or.inr ⟨_, _, rfl⟩

theorem spec_eorAt_le (x : Inst) (hd : discOK x = true) (i b : Nat) (hb : i ≤ b) :
    decide (eorAt x.items i ≤ b) = !(List.range i).any fun a =>
      match x.items[a]? with
      | some (.disc _ _ r) => decide (b < a + 1 + r)
      | _ => false := by
  induction i generalizing b with
  | zero => exact decide_eq_true (Nat.zero_le b)
  | succ i ih =>
    rw [spec_eorAt_succ, List.range_succ, List.any_append, Bool.not_or, ← ih b (Nat.le_of_succ_le hb),
      List.any_cons, List.any_nil, Bool.or_false]
    cases h : x.items[i]? with
    | none => simp only [Bool.not_false, Bool.and_true]
    | some it =>
      cases it with
      | disc pre post r =>
        -- a discretionary lies in no earlier one's replaced stretch (under `discOK` those items are
        -- boxes and kerns), so the old value is at most `i` and the new one takes over
        have hi : eorAt x.items i ≤ i := by
          apply of_decide_eq_true
          rw [ih i (Nat.le_refl i), Bool.not_eq_true', List.any_eq_false]
          intro a ha hc
          split at hc
          · rename_i ha'
            have := spec_discOK_prop x hd ha' (List.mem_range.1 ha) (of_decide_eq_true hc)
            rw [h] at this
            rcases this with ⟨w, hw⟩ | ⟨e, w, hw⟩ <;> cases hw
          · cases hc
        rw [Bool.eq_iff_iff]
        simp only [Bool.and_eq_true, Bool.not_eq_true', decide_eq_true_iff, decide_eq_false_iff_not]
        omega
      | _ => simp only [Bool.not_false, Bool.and_true]

theorem spec_eor_inside (x : Inst) (hd : discOK x = true) (i : Nat) :
    ¬ insideReplaced x.items i = true ↔ eorAt x.items i ≤ i := by
  rw [← decide_eq_true_iff (p := eorAt x.items i ≤ i), spec_eorAt_le x hd i i (Nat.le_refl i),
    Bool.not_eq_true, Bool.not_eq_true']
  exact Iff.rfl

theorem spec_breakInfo_none (x : Inst) (i : Nat) (h : rawBreak x i = none) : breakInfo x i = none := by
  unfold breakInfo; rw [h]

theorem classify_vars (x : Inst) (i : Nat) (st : LState) :
    (classify x i st).1.active = st.active ∧
    (classify x i st).1.auto =
      (match x.items[i]? with | some (.math after) => after | _ => st.auto) ∧
    (classify x i st).1.eor =
      (match x.items[i]? with | some (.disc _ _ r) => i + 1 + r | _ => st.eor) := by
  unfold classify
  cases x.items[i]? with
  | none => exact ⟨rfl, rfl, rfl⟩
  | some it =>
    cases it with
    | math _ | glue _ | kern _ _ => simp only; split <;> exact ⟨rfl, rfl, rfl⟩
    | _ => exact ⟨rfl, rfl, rfl⟩

theorem rawBreak_of_item {x : Inst} {i : Nat} {it : Item} : x.items[i]? = some it →
    rawBreak x i =
      match it with
      | .glue _ =>
        if autoAt x.items i ∧ 0 < i ∧ ((x.items[i - 1]?).map Item.precedesBreak).getD false
        then some (0, false) else none
      | .kern e _ =>
        if e ∧ autoAt x.items i ∧ isGlueAt x.items (i + 1) ∧ ¬ insideReplaced x.items i
        then some (0, false) else none
      | .math _ => if autoAt x.items i ∧ isGlueAt x.items (i + 1) then some (0, false) else none
      | .penalty p => some (p, false)
      | .disc pre _ _ => some (if pre.isEmpty then x.p.exHyphenPenalty else x.p.hyphenPenalty, true)
      | _ => none := by
  intro h
  unfold rawBreak Inst.n
  rw [if_neg (Nat.ne_of_lt (List.getElem?_eq_some_iff.1 h).1), h]
  cases it <;> rfl

theorem rawBreak_end (x : Inst) : rawBreak x x.n = some (-10000, true) := if_pos rfl

/-- The item has been added to the running totals unless it is tried as a breakpoint; then
`endUpdate` adds it after the break has been tried (`endUpdate_cum`). -/
theorem classify_eq (x : Inst) (hd : discOK x = true) (i : Nat) (st : LState) (hi : i ≤ x.n)
    (hb : LBasic x i st) :
    classify x i st =
      ({ diffs := if (rawBreak x i).isSome then cum x.items i else cum x.items (i + 1),
         auto := autoBefore x.items (i + 1), eor := eorAt x.items (i + 1), active := st.active },
       (rawBreak x i).map fun r => (r.1, r.2, preWidth x i)) := by
  obtain ⟨d, a, e, act⟩ := st
  obtain ⟨hdf, hau, heo⟩ := hb
  simp only at hdf hau heo
  subst hdf hau heo
  rw [cum_succ, spec_autoBefore_succ, spec_eorAt_succ]
  cases hit : x.items[i]? with
  | none =>
    have hin : i = x.n := by
      have := List.getElem?_eq_none_iff.mp hit
      unfold Inst.n at hi ⊢; omega
    subst hin
    rw [rawBreak_end]
    simp only [classify, preWidth, hit]
    rfl
  | some it =>
    rw [rawBreak_of_item hit, spec_autoAt_eq, spec_autoBefore_succ, hit]
    unfold classify preWidth
    rw [hit]
    cases it with
    | box w => rfl
    | inert => exact congrArg (fun t => (LState.mk t _ _ _, none)) (Totals.add_zero _).symm
    | disc pre post r => rfl
    | penalty p => rfl
    | math after =>
      dsimp only
      split
      · rfl
      · exact congrArg (fun t => (LState.mk t _ _ _, none)) (Totals.add_zero _).symm
    | glue g =>
      dsimp only
      split <;> rfl
    | kern k w =>
      -- the specification's condition in the code's terms and order
      simp only [spec_eor_inside x hd i, and_comm (b := eorAt x.items i ≤ i)]
      split <;> rfl

/-- A break with a non-zero penalty is at a penalty or a discretionary (or the end), which add
nothing to the totals. -/
theorem rawBreak_contrib {x : Inst} {i : Nat} {p : Int} {h : Bool} (hr : rawBreak x i = some (p, h))
    (hp : p ≠ 0) : cum x.items (i + 1) = cum x.items i := by
  rw [cum_succ]
  cases hit : x.items[i]? with
  | none => exact Totals.add_zero _
  | some it =>
    rw [rawBreak_of_item hit] at hr
    cases it with
    | glue _ | kern _ _ | math _ =>
      simp only at hr
      split at hr
      · cases hr; exact absurd rfl hp
      · cases hr
    | box _ | inert => cases hr
    | penalty _ | disc _ _ _ => exact Totals.add_zero _

/-- A breakpoint is never a box, the one item with a contribution that `endUpdate` does not add. -/
theorem endUpdate_cum {x : Inst} {i : Nat} {r : Int × Bool} (hr : rawBreak x i = some r) :
    endUpdate x i (cum x.items i) = cum x.items (i + 1) := by
  rw [cum_succ]
  unfold endUpdate
  cases hit : x.items[i]? with
  | none => exact (Totals.add_zero _).symm
  | some it =>
    rw [rawBreak_of_item hit] at hr
    cases it with
    | box w => cases hr
    | glue _ | kern _ _ => rfl
    | _ => exact (Totals.add_zero _).symm

theorem spec_discardList_eq (t : List Item) (d : Totals) :
    discardList t d = (t.takeWhile Item.discardable).foldl (fun t it => t.add it.contrib) d := by
  induction t generalizing d with
  | nil => simp [discardList]
  | cons a t ih =>
    cases a with
    | glue g =>
      rw [List.takeWhile_cons_of_pos (by rfl), List.foldl_cons]
      simp only [discardList]; rw [ih]; rfl
    | penalty _ | math _ =>
      rw [List.takeWhile_cons_of_pos (by rfl), List.foldl_cons]
      simp only [discardList]; rw [ih]
      exact congrArg (List.foldl _ · _) (Totals.add_zero d).symm
    | kern e w =>
      cases e
      · simp [discardList, Item.discardable]
      · rw [List.takeWhile_cons_of_pos (by rfl), List.foldl_cons]
        simp only [discardList]; rw [ih]; rfl
    | box _ | inert | disc _ _ _ => simp [discardList, Item.discardable]

theorem spec_discard_cum (items : List Item) (j : Nat) :
    discardList (items.drop j) (cum items j) = cum items (pruneEnd items j) := by
  rw [spec_discardList_eq]
  unfold pruneEnd cum
  rw [List.take_add, List.foldl_append, take_length_takeWhile]

theorem spec_foldl_sub (l : List Item) (d k : Totals) :
    l.foldl (fun t it => t.add it.contrib) (d.sub k) =
      (l.foldl (fun t it => t.add it.contrib) d).sub k := by
  induction l generalizing d with
  | nil => rfl
  | cons a l ih => rw [List.foldl_cons, List.foldl_cons, Totals.sub_add_comm, ih]

theorem spec_discard_sub (t : List Item) (d k : Totals) :
    discardList t (d.sub k) = (discardList t d).sub k := by
  rw [spec_discardList_eq, spec_discardList_eq, spec_foldl_sub]

theorem spec_replaced_cum (items : List Item) (r : Nat) : ∀ (j : Nat),
    (∀ k, j ≤ k → k < j + r →
      (∃ w, items[k]? = some (.box w)) ∨ (∃ e w, items[k]? = some (.kern e w))) →
    (cum items j).add (.ofWidth (replacedWidth items j r)) = cum items (j + r) := by
  induction r with
  | zero => exact fun j _ => Totals.add_zero _
  | succ r ih =>
    intro j H
    rw [show j + (r + 1) = j + 1 + r by omega,
      ← ih (j + 1) fun k h1 h2 => H k (by omega) (by omega)]
    rcases H j (Nat.le_refl j) (by omega) with ⟨w, hw⟩ | ⟨e, w, hw⟩
    all_goals
      simp only [replacedWidth, hw]
      rw [Totals.add_ofWidth_add, cum_succ, hw]; rfl

theorem breakWidth_eq (x : Inst) (hd : discOK x = true) (i : Nat) :
    breakWidth x i (cum x.items i) = afterRef x (some i) := by
  cases hit : x.items[i]? with
  | none =>
    have hlen : x.items.length ≤ i := List.getElem?_eq_none_iff.mp hit
    simp only [breakWidth, afterRef, hit]
    unfold pruneEnd
    rw [List.drop_eq_nil_of_le hlen]
    rfl
  | some it =>
    cases it with
    | disc pre post r =>
      simp only [breakWidth, afterRef, hit]
      have hcs : cum x.items (i + 1) = cum x.items i := by
        rw [cum_succ, hit]; exact Totals.add_zero _
      have hrc := spec_replaced_cum x.items r (i + 1)
        (fun k h1 h2 => spec_discOK_prop x hd hit h1 h2)
      rw [hcs] at hrc
      rw [hrc]
      by_cases hp : post.isEmpty = true
      · rw [if_pos hp, if_pos hp, spec_discard_sub, spec_discard_cum]
      · rw [if_neg hp, if_neg hp]
    | _ => simp only [breakWidth, afterRef, hit]; exact spec_discard_cum _ _

theorem rateFn_eq (ld : Totals) (lw dw : Int) :
    rateFn ld lw dw = rate (ld.add (.ofWidth dw)) lw := by
  have hs : lw - ld.w - dw = lw - (ld.w + dw) := by omega
  have h1 : (10000 : Int) + 1 = 10001 := by decide
  simp only [rateFn, rate, Totals.add, Totals.ofWidth, Int.add_zero, hs, h1]

theorem spec_fit_far (pf f : Fit) :
    (1 < iabs ((pf.toNat : Int) - (f.toNat : Int))) ↔ pf.farFrom f = true := by
  cases pf <;> cases f <;> decide

theorem spec_iabs_ge (d : Int) : (10000 ≤ iabs d) ↔ (10000 ≤ d ∨ d ≤ -10000) := by
  unfold iabs
  split <;> omega

theorem demeritsFn_eq (x : Inst) (a : Option Nat) (b : Nat) (pen : Int) (hy : Bool)
    (hb : breakInfo x b = some (pen, hy)) (bad : Int) (pf f : Fit) :
    demeritsFn x.p bad pen pf f (hyphAt x a && hy) (hyphAt x a && decide (b = x.n))
      = demerits x a pf b bad f := by
  simp only [demeritsFn, demerits, hb, spec_fit_far, spec_iabs_ge, Bool.and_eq_true,
    decide_eq_true_eq]

end C04
