import TexcraftModel.Lemmas.C06Scan
import TexcraftModel.Lemmas.C06Print
/-!
C06 — glue: addition (§1239), multiplication and division (§1240), and scanning back the
printed components.
-/
namespace C06

theorem addComp_eq (a : Int) (ao : Nat) (b : Int) (bo : Nat) : addComp a ao b bo = Spec.addComp a ao b bo := by
  unfold addComp Spec.addComp
  simp only []
  by_cases h1 : (if b = 0 then 0 else bo) = ao
  · rw [if_pos h1, if_pos h1, Int.add_comm b a, h1]
  · rw [if_neg h1, if_neg h1]

/-- The model's outcome of an arithmetic primitive read as a specification outcome (`undef` has no
counterpart). -/
def ARes.toAR {α : Type} : ARes α → Spec.AR α
  | .set a => .set a
  | .error => .error

theorem advanceGlue_eq (a b : Glue) : (advanceGlue a b).toAR = Spec.advanceGlue a b := by
  unfold advanceGlue Spec.advanceGlue
  simp only [addComp_eq, ARes.toAR, Int.add_comm b.width a.width]

theorem scaledCheckedMul_eq (a n : Int) :
    scaledCheckedMul a n = (if (Spec.nxPlusY a n 0).err then none else some (Spec.nxPlusY a n 0).val) := by
  have hM : maxDimen = 1073741823 := rfl
  rw [scaledCheckedMul, nxPlusY_val a n 0 (by omega), Spec.nxPlusY, multAndAdd_exact a n 0 _ (by omega), hM]
  by_cases hc : -1073741823 ≤ a * n + 0 ∧ a * n + 0 ≤ 1073741823
  · rw [if_pos hc, if_pos hc]; rfl
  · rw [if_neg hc, if_neg hc]; rfl

theorem multiplyGlue_eq (a : Glue) (n : Int) : (multiplyGlue a n).toAR = Spec.multiplyGlue a n := by
  unfold multiplyGlue Spec.multiplyGlue
  simp only [scaledCheckedMul_eq]
  cases h1 : (Spec.nxPlusY a.width n 0).err <;> cases h2 : (Spec.nxPlusY a.stretch n 0).err <;>
    cases h3 : (Spec.nxPlusY a.shrink n 0).err <;> simp [ARes.toAR]

theorem divideGlue_eq (a : Glue) (n : Int)
    (hw : -2147483648 ≤ a.width ∧ a.width ≤ 2147483647)
    (hst : -2147483648 ≤ a.stretch ∧ a.stretch ≤ 2147483647)
    (hsh : -2147483648 ≤ a.shrink ∧ a.shrink ≤ 2147483647)
    (hex : ¬ (n = -1 ∧ (a.width = -2147483648 ∨ a.stretch = -2147483648 ∨ a.shrink = -2147483648))) :
    (divideGlue a n).toAR = Spec.divideGlue a n := by
  have x1 : ¬ (a.width = -2147483648 ∧ n = -1) := fun h => hex ⟨h.2, Or.inl h.1⟩
  have x2 : ¬ (a.stretch = -2147483648 ∧ n = -1) := fun h => hex ⟨h.2, Or.inr (Or.inl h.1)⟩
  have x3 : ¬ (a.shrink = -2147483648 ∧ n = -1) := fun h => hex ⟨h.2, Or.inr (Or.inr h.1)⟩
  unfold divideGlue Spec.divideGlue
  simp only [checkedDiv_eq, xOverN_err]
  by_cases hn : n = 0
  · simp [hn, ARes.toAR]
  · simp [hn, x1, x2, x3, fits_xOverN _ n hw hn x1, fits_xOverN _ n hst hn x2, fits_xOverN _ n hsh hn x3,
      ARes.toAR]

theorem constLoop_dec5 (n : Nat) (h : n < 100000) : constLoop 10 (dec5 n) 0 false = ((n : Int), false) :=
  dec5_rec (fun n l => constLoop 10 l 0 false = ((n : Int), false))
    (fun n h1 => by
      simp only [constLoop, addLsd_nonneg 10 0 n (by omega), Int.zero_mul, Int.zero_add]
      rw [if_pos (by omega)])
    (fun n h1 h2 ih => by
      rw [constLoop_append, ih]
      simp only [constLoop, addLsd_nonneg 10 (n / 10 : Nat) (n % 10) (by omega)]
      rw [if_pos (by omega)]
      exact congrArg (fun v : Int => (v, false)) (by omega)) n h

theorem scanConst_dec5 (n : Nat) (h : n < 100000) : scanConst 10 (dec5 n) = ((n : Int), 0) := by
  obtain ⟨d, rest, e⟩ := List.exists_cons_of_ne_nil (dec5_ne_nil n)
  have hd := dec5_lt n h d (by rw [e]; exact List.mem_cons_self ..)
  have := constLoop_dec5 n h
  rw [e] at this ⊢
  rw [scanConst_cons 10 d rest (by omega), this]
  rfl

/-- The unit printed for a glue order: `pt`, `fil`, `fill`, `filll`. -/
def unitOfOrder : Nat → UnitSpec
  | 0 => .phys .pt
  | k + 1 => .fil k

theorem applyUnits_printed (X : Int) (hX0 : 0 ≤ X) (hX : X ≤ maxDimen) (k : Nat) (hk : k ≤ 3) :
    applyUnits (X / 65536) (X % 65536) (unitOfOrder k) = .ok { val := X, nerr := 0, order := k } := by
  have hM : maxDimen = 1073741823 := rfl
  have hv : physVal .pt (X / 65536) (X % 65536) = some X := by
    rw [physVal_pt, if_neg (by omega)]; congr 1; omega
  rw [applyUnits_val _ _ (by omega) (by omega) (by omega)]
  cases k with
  | zero => simp only [unitOfOrder, dimVal, hv]; rfl
  | succ ls =>
    simp only [unitOfOrder, dimVal, hv, clamped, unitErrs, unitOrder]
    rw [show min (1 + ls) 3 = ls + 1 by omega, show ls - 2 = 0 by omega]

theorem scanDimen_printed (s : Int) (h : -maxDimen ≤ s ∧ s ≤ maxDimen) (neg : Bool) (k : Nat) (hk : k ≤ 3) :
    scanDimen neg (.const 10 (dec5 (Spec.printScaled s).ip) (some (Spec.printScaled s).frac)) (unitOfOrder k)
      = .ok { val := if neg then -(s.natAbs : Int) else s.natAbs, nerr := 0, order := k } := by
  have hM : maxDimen = 1073741823 := rfl
  obtain ⟨_, h2, _, h4⟩ := printed_frac s
  have hsf : scanFraction (Spec.printScaled s).frac = (s.natAbs : Int) % 65536 := by
    unfold scanFraction
    rw [List.take_of_length_le (by omega), ← fromDecimalDigits_pad17, h4]
    omega
  have hip : (((Spec.printScaled s).ip : Nat) : Int) = (s.natAbs : Int) / 65536 := by
    rw [printScaled_ip]; omega
  simp only [scanDimen, scanConst_dec5 (Spec.printScaled s).ip (by have := printed_ip_small s h; omega), hsf, hip,
    if_true]
  rw [applyUnits_printed (s.natAbs : Int) (by omega) (by omega) k hk,
    mulSign_signed _ _ (by cases neg <;> simp) (by simp only []; omega)]
  simp only [Scan.signed, mul_sign]

theorem component_roundtrip (s : Int) (h : -maxDimen ≤ s ∧ s ≤ maxDimen) (k : Nat) (hk : k ≤ 3) :
    scanDimen (Spec.printScaled s).neg
      (.const 10 (dec5 (Spec.printScaled s).ip) (some (Spec.printScaled s).frac)) (unitOfOrder k)
      = .ok { val := s, nerr := 0, order := k } := by
  rw [scanDimen_printed s h _ k hk]
  exact congrArg (fun v => SRes.ok { val := v, nerr := 0, order := k }) (natAbs_signed s)

/-- The width of a glue is scanned as `scan_dimen` without sign, then negated. -/
theorem width_roundtrip (s : Int) (h : -maxDimen ≤ s ∧ s ≤ maxDimen) :
    scanGlueWidth (Spec.printScaled s).neg
      (.const 10 (dec5 (Spec.printScaled s).ip) (some (Spec.printScaled s).frac)) (.phys .pt)
      = .ok { val := s, nerr := 0, order := 0 } := by
  have hM : maxDimen = 1073741823 := rfl
  simp only [scanGlueWidth]
  rw [show UnitSpec.phys TUnit.pt = unitOfOrder 0 from rfl, scanDimen_printed s h false 0 (by omega),
    mulSign_signed _ _ (by split <;> simp) (by simp only [Bool.false_eq_true, if_false]; omega)]
  simp only [Scan.signed, mul_sign, Bool.false_eq_true, if_false]
  exact congrArg (fun v => SRes.ok { val := v, nerr := 0, order := 0 }) (natAbs_signed s)

/-- `Glue::parse_impl` on scanned components as they are printed: a zero stretch or shrink is left out, and
read as zero of order normal. -/
theorem scanGlue_printed (w : Scan) (x y : Int) (ox oy : Nat) (hx : x = 0 → ox = 0) (hy : y = 0 → oy = 0) :
    scanGlue (.ok w) (if x = 0 then none else some (.ok { val := x, nerr := 0, order := ox }))
        (if y = 0 then none else some (.ok { val := y, nerr := 0, order := oy }))
      = some ((⟨w.val, x, ox, y, oy⟩ : Glue), w.nerr) := by
  by_cases h1 : x = 0 <;> by_cases h2 : y = 0 <;> simp [scanGlue, h1, h2, hx, hy]

end C06
