import TexcraftModel.Lemmas.C17NLBasic
/-! The array layout of `NextLargerProgram::new` (C17): for a functional, topologically ordered
map the vectors are built without a panic and the iterator of `get` follows the map. The vector is
checked against itself: every entry finds the entry of its link target at the offset it carries. -/
namespace C17

theorem getElem?_cons_reverse {α : Type} (e : α) (arr : List α) (pp : Nat) (h : pp < arr.length) :
    (e :: arr.reverse)[arr.length - pp]? = arr[pp]? := by
  obtain ⟨d, hd⟩ : ∃ d, arr.length - pp = d + 1 := ⟨arr.length - pp - 1, by omega⟩
  rw [hd, List.getElem?_cons_succ, List.getElem?_reverse (by omega)]
  congr 1
  omega

/-- Entry `(c, o)` at index `k` of the final vector `nl`: a node without a link carries 255, any other
finds the entry of its link target `o` places further on. -/
structure EntryOK (g nl : List (Nat × Nat)) (k c o : Nat) : Prop where
  stop : nxt g c = none → o = 255
  link : ∀ par, nxt g c = some par → ∃ o', nl[k + o]? = some (par, o')

/-- Every entry of the vector `nl` is right: the one invariant of the layout, which `buildArr`
establishes and the iterator of `get` consumes. -/
def LayoutOK (g nl : List (Nat × Nat)) : Prop :=
  ∀ k c o, nl[k]? = some (c, o) → EntryOK g nl k c o

theorem getIter_stop (nl : List (Nat × Nat)) (hL : nl.length ≤ 255) (k : Nat) :
    ∀ n, getIter nl n (if k + 255 ≤ 255 then some (k + 255) else none) = [] := by
  intro n
  cases n with
  | zero => rfl
  | succ n =>
    split
    · rw [getIter, List.getElem?_eq_none (by omega)]
    · rfl

theorem getIter_spec (g nl : List (Nat × Nat)) (hL : nl.length ≤ 255) (hoff : LayoutOK g nl) :
    ∀ (n k x o : Nat), nl[k]? = some (x, o) → getIter nl (n + 1) (some k) = x :: chainL g n x := by
  intro n
  induction n with
  | zero => intro k x o h; simp only [getIter, h, chainL]
  | succ n ih =>
    intro k x o h
    have hx := hoff k x o h
    rw [getIter, h, chainL]
    cases hn : nxt g x with
    | none =>
      rw [hx.stop hn]
      simp only
      rw [getIter_stop nl hL]
    | some par =>
      obtain ⟨o', ho'⟩ := hx.link par hn
      have hlt : k + o < nl.length := (List.getElem?_eq_some_iff.1 ho').1
      simp only [show k + o ≤ 255 by omega, if_true]
      rw [ih (k + o) par o' ho']

/-- `buildArr` appends to the vector before `reverse`, so the final vector grows at its front, and no
offset looks back. -/
theorem LayoutOK.cons {g nl : List (Nat × Nat)} {c o : Nat} (h : LayoutOK g nl)
    (h0 : EntryOK g ((c, o) :: nl) 0 c o) : LayoutOK g ((c, o) :: nl) := by
  intro k c' o' hk
  cases k with
  | zero =>
    simp only [List.getElem?_cons_zero, Option.some.injEq, Prod.mk.injEq] at hk
    obtain ⟨rfl, rfl⟩ := hk
    exact h0
  | succ k =>
    have := h k c' o' hk
    exact ⟨this.stop, fun par hn => (this.link par hn).imp fun o'' h2 => by
      rw [Nat.add_right_comm]; exact h2⟩

theorem posOf_fall : ∀ (l : List (Nat × Nat)) (i : Nat) (acc r : List (Nat × Nat)),
    posOf i l acc = .ok r → ∀ c, c ∉ l.map Prod.fst → nxt r c = nxt acc c := by
  intro l
  induction l with
  | nil => intro i acc r h c _; simp only [posOf, Res.ok.injEq] at h; rw [h]
  | cons a t ih =>
    intro i acc r h c hc
    obtain ⟨c1, o1⟩ := a
    simp only [posOf] at h
    split at h
    · simp at h
    · simp only [List.map_cons, List.mem_cons, not_or] at hc
      rw [ih (i + 1) _ r h c hc.2]
      have : ¬ c1 = c := fun e => hc.1 e.symm
      simp [nxt, this]

theorem posOf_spec : ∀ (l : List (Nat × Nat)) (i : Nat) (acc : List (Nat × Nat)), i + l.length ≤ 256 →
    ∃ r, posOf i l acc = .ok r ∧
      ∀ c ∈ l.map Prod.fst, ∃ j o, nxt r c = some (i + j) ∧ l[j]? = some (c, o) := by
  intro l
  induction l with
  | nil => intro i acc _; exact ⟨acc, rfl, by simp⟩
  | cons a t ih =>
    intro i acc hi
    obtain ⟨c0, o0⟩ := a
    simp only [List.length_cons] at hi
    obtain ⟨r, hr, hspec⟩ := ih (i + 1) ((c0, i) :: acc) (by omega)
    refine ⟨r, by simp only [posOf, show ¬ i > 255 by omega, if_false]; exact hr, ?_⟩
    intro c hc
    by_cases hct : c ∈ t.map Prod.fst
    · obtain ⟨j, o, h1, h2⟩ := hspec c hct
      exact ⟨j + 1, o, by rw [h1]; congr 1; omega, by simpa using h2⟩
    · have : c = c0 := by simpa [hct] using hc
      subst this
      exact ⟨0, o0, by rw [posOf_fall t (i + 1) _ r hr c hct]; simp [nxt], rfl⟩

/-- `p` stands for the test `parents.contains`, so that the statement and the induction carry a
variable and not the list of all link targets. -/
theorem buildArr_spec (g : List (Nat × Nat)) (parents ord : List Nat) (p : Nat → Bool)
    (hp : ∀ c, parents.contains c = p c)
    (hE : ∀ pre c t, ord = pre ++ c :: t → ∀ par, nxt g c = some par → par ∈ pre ∧ p par = true) :
    ∀ (t pre : List Nat) (arr pos : List (Nat × Nat)), ord = pre ++ t →
      arr.length + (t.filter p).length ≤ 255 →
      (∀ c ∈ pre, p c = true → ∃ k o : Nat, nxt pos c = some k ∧ arr[k]? = some (c, o)) →
      LayoutOK g arr.reverse →
      ∃ arrF, buildArr g parents t arr pos = .ok arrF ∧ arrF.length ≤ 255 ∧
        (∀ c ∈ ord, p c = true → ∃ k o : Nat, arrF[k]? = some (c, o)) ∧
        LayoutOK g arrF.reverse := by
  intro t
  induction t with
  | nil =>
    intro pre arr pos hord hlen hb hc
    simp only [List.append_nil] at hord
    subst hord
    exact ⟨arr, rfl, hlen, fun c hc' hpc => (hb c hc' hpc).elim fun k h => h.elim fun o h => ⟨k, o, h.2⟩, hc⟩
  | cons c t ih =>
    intro pre arr pos hord hlen hb hc
    have hord' : ord = (pre ++ [c]) ++ t := by rw [hord]; simp
    simp only [buildArr, hp]
    by_cases hpar : p c = true
    · rw [List.filter_cons_of_pos hpar, List.length_cons] at hlen
      have hbound : ¬ arr.length > 255 := by omega
      have hpush : ∀ o, EntryOK g ((c, o) :: arr.reverse) 0 c o →
          ∃ arrF, buildArr g parents t (arr ++ [(c, o)]) ((c, arr.length) :: pos) = .ok arrF ∧
            arrF.length ≤ 255 ∧
            (∀ c ∈ ord, p c = true → ∃ k o : Nat, arrF[k]? = some (c, o)) ∧
            LayoutOK g arrF.reverse := by
        intro o ho
        apply ih (pre ++ [c]) _ _ hord'
        · rw [List.length_append, Nat.add_right_comm]; exact hlen
        · intro x hx hpx
          by_cases hxc : c = x
          · subst hxc
            exact ⟨arr.length, o, by simp [nxt], by simp⟩
          · have hx' : x ∈ pre := by
              rcases List.mem_append.1 hx with h | h
              · exact h
              · exact absurd (List.mem_singleton.1 h).symm hxc
            obtain ⟨k, o', h1, h2⟩ := hb x hx' hpx
            refine ⟨k, o', by simp only [nxt, hxc, if_false]; exact h1, ?_⟩
            rw [List.getElem?_append_left (List.getElem?_eq_some_iff.1 h2).1]; exact h2
        · rw [List.reverse_append]
          exact hc.cons ho
      simp only [hpar, Bool.not_true, Bool.false_eq_true, if_false, hbound]
      cases hn : nxt g c with
      | none => exact hpush 255 ⟨fun _ => rfl, fun par h => by rw [hn] at h; cases h⟩
      | some par =>
        simp only
        obtain ⟨hppre, hppar⟩ := hE pre c t hord par hn
        obtain ⟨pp, o', h1, h2⟩ := hb par hppre hppar
        have hlt : pp < arr.length := (List.getElem?_eq_some_iff.1 h2).1
        simp only [h1, Nat.not_le_of_lt hlt, if_false]
        have ho : ((c, arr.length - pp) :: arr.reverse)[0 + (arr.length - pp)]? = some (par, o') := by
          rw [Nat.zero_add, getElem?_cons_reverse _ _ pp hlt, h2]
        exact hpush _ ⟨fun h => (by rw [hn] at h; cases h), fun _ h => by
          rw [hn] at h; cases h; exact ⟨o', ho⟩⟩
    · rw [List.filter_cons_of_neg hpar] at hlen
      have hpar' : p c = false := by simpa using hpar
      simp only [hpar', Bool.not_false, if_true]
      apply ih (pre ++ [c]) arr pos hord' hlen
      · intro x hx hpx
        have hx' : x ∈ pre := by
          rcases List.mem_append.1 hx with h | h
          · exact h
          · simp only [List.mem_singleton] at h; subst h; rw [hpar'] at hpx; cases hpx
        exact hb x hx' hpx
      · exact hc

theorem buildEntry_spec (g pos : List (Nat × Nat)) : ∀ (t : List Nat) (acc : List (Nat × Nat)),
    t.Nodup → (∀ c ∈ t, nxt acc c = none) →
    (∀ c ∈ t, ∀ par, nxt g c = some par → ∃ i, nxt pos par = some i) →
    ∃ r, buildEntry g pos t acc = .ok r ∧
      ∀ c, nxt r c = if c ∈ t then (nxt g c).bind (nxt pos) else nxt acc c := by
  intro t
  induction t with
  | nil => intro acc _ _ _; exact ⟨acc, rfl, by simp⟩
  | cons c0 t ih =>
    intro acc hn hacc hpos
    have hn' := List.nodup_cons.1 hn
    simp only [buildEntry]
    cases hg : nxt g c0 with
    | none =>
      obtain ⟨r, hr, hspec⟩ := ih acc hn'.2 (fun c hc => hacc c (List.mem_cons_of_mem _ hc))
        (fun c hc => hpos c (List.mem_cons_of_mem _ hc))
      refine ⟨r, hr, ?_⟩
      intro c
      rw [hspec c]
      by_cases hc0 : c = c0
      · subst hc0
        simp [hn'.1, hg, hacc c (by simp)]
      · simp [hc0]
    | some par =>
      obtain ⟨i, hi⟩ := hpos c0 (by simp) par hg
      simp only [hi]
      obtain ⟨r, hr, hspec⟩ := ih ((c0, i) :: acc) hn'.2
        (fun c hc => by
          have hne : ¬ c0 = c := fun e => hn'.1 (e ▸ hc)
          simp only [nxt, hne, if_false]
          exact hacc c (List.mem_cons_of_mem _ hc))
        (fun c hc => hpos c (List.mem_cons_of_mem _ hc))
      refine ⟨r, hr, ?_⟩
      intro c
      rw [hspec c]
      by_cases hc0 : c = c0
      · subst hc0
        simp [hn'.1, hg, hi, nxt]
      · have : ¬ c0 = c := fun e => hc0 e.symm
        simp [hc0, nxt, this]

theorem length_le_256 (l : List Nat) (hn : l.Nodup) (hb : ∀ x ∈ l, x < 256) : l.length ≤ 256 := by
  have hsub : l ⊆ List.range 256 := fun x hx => List.mem_range.2 (hb x hx)
  have := hn.length_le_of_subset hsub
  simpa using this

theorem layout_correct (g : List (Nat × Nat)) (ord : List Nat) (hG : Functional g) (hN : ord.Nodup)
    (hT : Topo (nxt g) ord) (hE : ∀ y x, nxt g y = some x → y ∈ ord ∧ x ∈ ord)
    (hLab : ∀ x ∈ ord, x < 256) :
    ∃ arr pos entry, buildArr g (g.map Prod.snd) ord [] [] = .ok arr ∧
      posOf 0 arr.reverse [] = .ok pos ∧ buildEntry g pos ord [] = .ok entry ∧
      ∀ c, progGet ⟨entry, arr.reverse⟩ c = chainL g 257 c := by
  let p : Nat → Bool := fun c => (g.map Prod.snd).contains c
  have hP : ∀ y x, nxt g y = some x → p x = true := by
    intro y x h
    simp only [p, List.contains_iff_mem]
    exact List.mem_map.2 ⟨(y, x), mem_of_nxt g y x h, rfl⟩
  have hPinv : ∀ x, p x = true → ∃ y, nxt g y = some x := by
    intro x h
    simp only [p, List.contains_iff_mem] at h
    obtain ⟨e, he, hx⟩ := List.mem_map.1 h
    exact ⟨e.1, by rw [← hx]; exact nxt_of_mem g hG e.1 e.2 he⟩
  -- at most 255 parents: the last node of `ord` is nobody's link target
  have hK : (ord.filter p).length ≤ 255 := by
    have hlen := length_le_256 ord hN hLab
    rcases List.eq_nil_or_concat ord with h | ⟨init, z, h⟩
    · rw [h]; exact Nat.zero_le _
    · rw [List.concat_eq_append] at h
      have : (ord.filter p).length < ord.length :=
        List.length_filter_lt_length_iff_exists.2 ⟨z, by rw [h]; simp, fun hpz => by
          obtain ⟨y, hy⟩ := hPinv z hpz
          rw [h] at hT
          cases hT.mid y hy⟩
      omega
  have hE' : ∀ pre c t, ord = pre ++ c :: t → ∀ par, nxt g c = some par → par ∈ pre ∧ p par = true :=
    fun pre c t hord par hn => ⟨hT.before hN hord hn (hE c par hn).2, hP c par hn⟩
  obtain ⟨arr, harr, hlenA, hhas, hoff⟩ := buildArr_spec g (g.map Prod.snd) ord p (fun _ => rfl) hE'
    ord [] [] [] (by simp) (by simpa using hK) (by intro c hc; cases hc) (by intro k c o h; cases h)
  have hlenR : arr.reverse.length ≤ 255 := by rw [List.length_reverse]; exact hlenA
  obtain ⟨pos, hpos, hposspec⟩ := posOf_spec arr.reverse 0 [] (by omega)
  have hposK : ∀ c ∈ ord, p c = true → ∃ i o, nxt pos c = some i ∧ arr.reverse[i]? = some (c, o) := by
    intro c hc hpc
    obtain ⟨k, o, hk⟩ := hhas c hc hpc
    obtain ⟨j, o', h1, h2⟩ := hposspec c
      (List.mem_map.2 ⟨(c, o), List.mem_reverse.2 (List.mem_of_getElem? hk), rfl⟩)
    exact ⟨j, o', by rw [h1, Nat.zero_add], h2⟩
  obtain ⟨entry, hentry, hentryspec⟩ := buildEntry_spec g pos ord [] hN (by intro c _; rfl)
    (by
      intro c _ par hpar
      obtain ⟨i, _, hi, _⟩ := hposK par (hE c par hpar).2 (hP c par hpar)
      exact ⟨i, hi⟩)
  refine ⟨arr, pos, entry, harr, hpos, hentry, ?_⟩
  intro c
  simp only [progGet]
  rw [hentryspec c]
  cases hn : nxt g c with
  | none =>
    have : (if c ∈ ord then (none : Option Nat).bind (nxt pos) else nxt [] c) = none := by
      split <;> rfl
    rw [this]
    show getIter _ (256 + 1) none = chainL _ (256 + 1) c
    rw [getIter, chainL, hn]
  | some par =>
    obtain ⟨hco, hpo⟩ := hE c par hn
    obtain ⟨i, o, hi, hio⟩ := hposK par hpo (hP c par hn)
    simp only [hco, if_true, Option.bind_some, hi]
    show getIter _ (256 + 1) _ = chainL _ (256 + 1) c
    rw [chainL, hn]
    exact getIter_spec g arr.reverse hlenR hoff 256 i par o hio

end C17
