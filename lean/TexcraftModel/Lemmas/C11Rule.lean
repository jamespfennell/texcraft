/-
C11 with C05: `C05.rule` of a C11 program is `chainRule` (first instruction that matches the right
character, resolved through the kerns array) along the chain from the entry point (`rule_toC05`).
From that equation: two programs whose chains say the same have the same rule function
(`rule_eq_of_chains`), hence packing, and moving the kern values into the kerns array
(`unpack_kerns`), leave it unchanged.
-/
import TexcraftModel.Model.C05
import TexcraftModel.Model.C11
import TexcraftModel.Model.C11Bridge
import TexcraftModel.Lemmas.C11Pack
import TexcraftModel.Lemmas.C11Kerns

namespace C11

theorem findInstr_chain (r : Nat) (l : List Instr) :
    ∀ e, C05.findInstr r e (l.map toC05Instr) = ((chain e l).find? (fun i => i.right = r)).map toC05Instr := by
  intro e
  fun_induction chain e l with
  | case1 => simp [C05.findInstr]
  | case2 a rest ih =>
    simp only [List.map_cons, C05.findInstr]
    by_cases hr : a.right = r
    · simp [hr, toC05Instr]
    · have hr' : ¬ (toC05Instr a).right = r := hr
      simp only [hr', hr, if_false, List.find?_cons, decide_false]
      cases hn : a.next with
      | none => simp [toC05Instr, hn]
      | some inc => simpa [toC05Instr, hn] using ih inc
  | case3 s a rest ih => exact ih

theorem findInstr_map (f : C05.Instr → C05.Instr)
    (hf : ∀ i, (f i).next = i.next ∧ (f i).right = i.right) (r : Nat) (l : List C05.Instr) :
    ∀ e, C05.findInstr r e (l.map f) = (C05.findInstr r e l).map f := by
  intro e
  fun_induction C05.findInstr r e l with
  | case1 => rfl
  | case2 i rest h => simp [C05.findInstr, (hf i).2, h]
  | case3 i rest h hn => simp [C05.findInstr, (hf i).1, (hf i).2, h, hn]
  | case4 i rest h inc hn ih => simpa [C05.findInstr, (hf i).1, (hf i).2, h, hn] using ih
  | case5 s a rest ih => exact ih

theorem filterMap_all_some {α β : Type} (f : α → Option β) (g : α → β) :
    ∀ (l : List α), (∀ x ∈ l, f x = some (g x)) → l.filterMap f = l.map g := by
  intro l
  induction l with
  | nil => intro _; rfl
  | cons a t ih =>
    intro h
    rw [List.filterMap_cons, h a (List.mem_cons_self ..)]
    simp only [List.map_cons, List.cons.injEq, true_and]
    exact ih (fun x hx => h x (List.mem_cons_of_mem _ hx))

theorem unpackAll_map (instrs : List Instr) (es : List (Nat × Nat)) (f g : Nat → Nat)
    (h : ∀ ce ∈ es, unpackEntry instrs (f ce.2) = some (g ce.2)) :
    unpackAll instrs (es.map fun ce => (ce.1, f ce.2)) = es.map fun ce => (ce.1, g ce.2) := by
  simp only [unpackAll, List.filterMap_map]
  exact filterMap_all_some _ _ es fun ce hce => by simp [h ce hce]

/-- What `C05.rule` looks at in an instruction once the chain is fixed: the right character it
matches and the operation it resolves (not the skip). -/
def key (i : Instr) : Nat × Op := (i.right, i.op)

/-- What a chain of instructions says about right character `r`: the first instruction that
matches it, resolved through the kerns array. -/
def chainRule (ks : List Int) (r : Nat) (c : List Instr) : Option C05.Op :=
  (c.find? (fun i => i.right = r)).bind fun i => C05.resolveOp ks (toC05Op i.op)

/-- The entry point of a left character, or of the left boundary. -/
def entryAt (p : Prog) (es : List (Nat × Nat)) : Option Nat → Option Nat
  | none => p.lb
  | some c => lookup es c

theorem rule_toC05 (p : Prog) (es : List (Nat × Nat)) (ks : List Int) (l : Option Nat) (r : Nat) :
    C05.rule (toC05 p es ks) l r = (entryAt p es l).bind fun e => chainRule ks r (chain e p.instrs) := by
  have hent : C05.entryOf (toC05 p es ks) l = entryAt p es l := by
    cases l with
    | none => rfl
    | some c => exact (lookup_eq_find es c).symm
  simp only [C05.rule, C05.rawRule, hent]
  cases entryAt p es l with
  | none => rfl
  | some e =>
    simp only [toC05, findInstr_chain, chainRule, Option.bind_some]
    cases (chain e p.instrs).find? (fun i => i.right = r) <;> rfl

theorem chainRule_some {ks : List Int} {r : Nat} {c : List Instr} {o : C05.Op} (h : chainRule ks r c = some o) :
    ∃ i ∈ c, i.right = r ∧ C05.resolveOp ks (toC05Op i.op) = some o := by
  obtain ⟨i, hi, ho⟩ := Option.bind_eq_some_iff.mp h
  exact ⟨i, List.mem_of_find?_eq_some hi, by simpa using List.find?_some hi, ho⟩

theorem chainRule_eq (ks : List Int) (r : Nat) (c : List Instr) :
    chainRule ks r c =
      ((c.map fun i => (i.right, C05.resolveOp ks (toC05Op i.op))).find? (·.1 = r)).bind (·.2) := by
  rw [List.find?_map, Option.bind_map]
  rfl

theorem chainRule_congr (ks ks' : List Int) (r : Nat) (c c' : List Instr)
    (h : c'.map (fun i => (i.right, C05.resolveOp ks' (toC05Op i.op))) =
      c.map (fun i => (i.right, C05.resolveOp ks (toC05Op i.op)))) :
    chainRule ks' r c' = chainRule ks r c := by
  rw [chainRule_eq, chainRule_eq, h]

theorem chainRule_key (ks : List Int) (r : Nat) {c c' : List Instr} (h : c'.map key = c.map key) :
    chainRule ks r c' = chainRule ks r c := by
  refine chainRule_congr ks ks r c c' ?_
  have := congrArg (List.map fun k : Nat × Op => (k.1, C05.resolveOp ks (toC05Op k.2))) h
  simpa only [List.map_map, Function.comp_def, key] using this

theorem rule_eq_of_chains {p q : Prog} {es : List (Nat × Nat)} (f : Nat → Nat) (ks ks' : List Int)
    (hlb : q.lb = p.lb.map f)
    (hchain : ∀ e ∈ plainMarks p es, ∀ r,
      chainRule ks' r (chain (f e) q.instrs) = chainRule ks r (chain e p.instrs)) :
    ∀ (l : Option Nat) (r : Nat),
      C05.rule (toC05 q (es.map fun ce => (ce.1, f ce.2)) ks') l r = C05.rule (toC05 p es ks) l r := by
  intro l r
  rw [rule_toC05, rule_toC05]
  have hent : entryAt q (es.map fun ce => (ce.1, f ce.2)) l = (entryAt p es l).map f := by
    cases l with
    | none => exact hlb
    | some c => exact lookup_map_snd es f c
  rw [hent]
  cases he : entryAt p es l with
  | none => rfl
  | some e =>
    refine hchain e (mem_plainMarks.mpr ?_) r
    cases l with
    | none => exact Or.inl he
    | some c => exact Or.inr (List.mem_map_of_mem (f := (·.2)) (lookup_mem he))

theorem pack_unpackAll {p : Prog} {es : List (Nat × Nat)} {P : Prog} {pe : List (Nat × Nat)}
    (h : pack p es = some (P, pe)) (hwf : wf p es = true) :
    ∃ F Q, PackFrame p F Q ∧ P = framed F Q p ∧ unpackAll P.instrs pe = shift F.length es := by
  obtain ⟨F, Q, f, hf, hP, rfl, hun⟩ := pack_spec h hwf
  exact ⟨F, Q, hf, hP, unpackAll_map _ es f (F.length + ·) fun ce hce => (hun ce hce).2⟩

theorem rule_pack {p : Prog} {entries : List (Nat × Nat)} {P : Prog} {pe : List (Nat × Nat)}
    (h : pack p entries = some (P, pe)) (hwf : wf p entries = true) (kerns : List Int) :
    ∀ (l : Option Nat) (r : Nat),
      C05.rule (toC05 P (unpackAll P.instrs pe) kerns) l r = C05.rule (toC05 p entries kerns) l r := by
  obtain ⟨F, Q, _, rfl, hun⟩ := pack_unpackAll h hwf
  rw [hun]
  exact rule_eq_of_chains (F.length + ·) kerns kerns rfl fun e he r =>
    congrArg _ (chain_embedded _ _ _ _ (wf_parts hwf).2.1 (wf_marks hwf e he))

theorem resolveOp_resolve (ks : List Int) (op : Op) :
    C05.resolveOp ks (toC05Op op) = C05.resolveOp [] (toC05Op (resolve ks op)) := by
  cases op <;> simp [C05.resolveOp, toC05Op, resolve]

theorem chain_map_op (g : Op → Op) (l : List Instr) :
    ∀ e, chain e (l.map fun i => { i with op := g i.op }) = (chain e l).map fun i => { i with op := g i.op } := by
  intro e
  fun_induction chain e l with
  | case1 => simp [chain_nil]
  | case2 a rest ih =>
    simp only [List.map_cons, chain]
    cases hn : a.next with
    | none => simp
    | some inc => simp [ih inc]
  | case3 s a rest ih => exact ih

theorem rule_packKerns (I : List Instr) (lb rb : Option Nat) (entries : List (Nat × Nat)) (ks : List Int)
    (l : Option Nat) (r : Nat) :
    C05.rule (toC05 ⟨I, lb, rb⟩ entries ks) l r = C05.rule (toC05 ⟨packKerns ks I, lb, rb⟩ entries []) l r := by
  rw [rule_toC05, rule_toC05]
  have hent : entryAt ⟨packKerns ks I, lb, rb⟩ entries l = entryAt ⟨I, lb, rb⟩ entries l := by cases l <;> rfl
  rw [hent]
  congr 1
  funext e
  refine (chainRule_congr ks [] r _ _ ?_).symm
  simp only [packKerns, chain_map_op, List.map_map]
  exact List.map_congr_left fun i _ => by simp [resolveOp_resolve ks i.op]

theorem closed_map_op (g : Op → Op) (l : List Instr) :
    closed (l.map fun i => { i with op := g i.op }) = closed l := by
  induction l with
  | nil => rfl
  | cons a t ih => simp only [List.map_cons, closed, List.length_map, ih]

theorem resolve_isRedirect (ks : List Int) (op : Op) : (resolve ks op).isRedirect = op.isRedirect := by
  cases op <;> rfl

theorem noRedirect_packKerns (ks : List Int) (l : List Instr) : noRedirect (packKerns ks l) = noRedirect l := by
  simp only [noRedirect, packKerns, List.all_map, Function.comp_def, resolve_isRedirect]

theorem wf_packKerns (ks : List Int) (I : List Instr) (lb rb : Option Nat) (es : List (Nat × Nat)) :
    wf ⟨packKerns ks I, lb, rb⟩ es = wf ⟨I, lb, rb⟩ es := by
  simp only [wf, noRedirect_packKerns]
  simp only [packKerns, closed_map_op, List.length_map]

theorem wf_unpackKerns {p : Prog} {entries : List (Nat × Nat)} (hwf : wf p entries = true)
    (hk : noKernAt p.instrs = true) :
    wf ⟨(unpackKerns p.instrs).1, p.lb, p.rb⟩ entries = true := by
  rw [← wf_packKerns (unpackKerns p.instrs).2, C11.kerns_roundtrip p.instrs hk]
  exact hwf

end C11
