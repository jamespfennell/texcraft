import TexcraftModel.Model.C02Stream
import TexcraftModel.Lemmas.C02

/-! C02: the call over the stream (`Model/C02Stream.lean`) refines the call over its list view.

Every stream-level function is compared with its list-level twin by an equation: mapping the
stream that is left to its list view (`Res.map`) gives the list-level outcome. The loops read
only through `Stream.next`, so `next_cases` (and `back_flat`, where a token is put back) is all they
need to know about streams. -/
namespace C02

/-- `expansions.pop()` takes the head of what the source will deliver. -/
theorem toks_of_getLast? {s : Source} {t : Tok} (h : s.expansions.getLast? = some t) :
    s.toks = t :: Source.toks { s with expansions := s.expansions.dropLast } := by
  obtain ⟨init, hinit⟩ := List.getLast?_eq_some_iff.mp h
  simp [Source.toks, hinit]

theorem nextFrom_spec (cur : Source) (outer : List Source) :
    match nextFrom cur outer with
    | (none, st') => Stream.flat ⟨cur, outer⟩ = [] ∧ st'.flat = []
    | (some t, st') => Stream.flat ⟨cur, outer⟩ = t :: st'.flat := by
  fun_induction nextFrom cur outer with
  | case1 cur outer t h => simp only [Stream.flat, toks_of_getLast? h, List.cons_append]
  | case2 cur outer he t ts hl =>
    simp only [Stream.flat, Source.toks, List.getLast?_eq_none_iff.mp he, hl, List.reverse_nil,
      List.nil_append, List.cons_append]
  | case3 cur he hl =>
    simp only [Stream.flat, Source.toks, List.getLast?_eq_none_iff.mp he, hl, List.reverse_nil,
      List.nil_append, List.map_nil, List.flatten_nil, and_self]
  | case4 cur he hl s ss ih =>
    -- the current source is exhausted: `pop_source`, and the answer is that of `s`
    have e : Stream.flat ⟨cur, s :: ss⟩ = Stream.flat ⟨s, ss⟩ := by
      simp only [Stream.flat, Source.toks, List.getLast?_eq_none_iff.mp he, hl, List.reverse_nil,
        List.nil_append, List.map_cons, List.flatten_cons]
    rw [e]
    exact ih

theorem next_cases (st : Stream) :
    (∃ st', st.next = (none, st') ∧ st.flat = [] ∧ st'.flat = []) ∨
    (∃ t st', st.next = (some t, st') ∧ st.flat = t :: st'.flat) := by
  have h := nextFrom_spec st.cur st.outer
  unfold Stream.next
  cases hn : nextFrom st.cur st.outer with
  | mk o st' =>
    rw [hn] at h
    cases o with
    | none => exact .inl ⟨st', rfl, h⟩
    | some t => exact .inr ⟨t, st', rfl, h⟩

theorem back_flat (st : Stream) (t : Tok) : (st.back t).flat = t :: st.flat := by
  simp [Stream.back, Stream.flat, Source.toks]

theorem pushStack_flat (st : Stream) (stack : List Tok) :
    (st.pushStack stack).flat = stack.reverse ++ st.flat := by
  simp [Stream.pushStack, Stream.flat, Source.toks]

theorem readAll_flat : ∀ (fuel : Nat) (st : Stream), st.flat.length ≤ fuel → readAll fuel st = st.flat := by
  intro fuel
  induction fuel with
  | zero => intro st h; exact (List.eq_nil_of_length_eq_zero (Nat.le_zero.mp h)).symm
  | succ f ih =>
    intro st h
    rcases next_cases st with ⟨st', hn, hf, _⟩ | ⟨t, st', hn, hf⟩
    · simp only [readAll, hn, hf]
    · rw [hf] at h
      simp only [readAll, hn, hf, ih st' (Nat.le_of_succ_le_succ h)]

theorem removePrefix_len : ∀ (p inp : List Tok) {rest : List Tok},
    removePrefix p inp = .ok rest → rest.length ≤ inp.length := by
  intro p inp rest h
  fun_induction removePrefix p inp with
  | case1 inp => cases h; exact Nat.le_refl _
  | case2 | case4 => cases h
  | case3 ps t ts ih => exact Nat.le_succ_of_le (ih h)

theorem delimLoop_len (m : Matcher) (c : Int) (n q : Nat) (d : Int) (inp : List Tok) {a rest : List Tok}
    (h : delimLoop m c n q d inp = .ok (a, rest)) : rest.length ≤ inp.length := by
  fun_induction delimLoop m c n q d inp generalizing a with
  | case1 | case2 | case5 | case6 => cases h
  | case3 => cases h; exact Nat.le_succ _
  | case4 q d t ts d' q' matched _ _ a' rest' hrec =>
    rename_i ih
    cases h
    exact Nat.le_succ_of_le (ih hrec)

theorem finishBalanced_len (d : Int) (inp : List Tok) {a rest : List Tok}
    (h : finishBalanced d inp = .ok (a, rest)) : rest.length ≤ inp.length := by
  fun_induction finishBalanced d inp generalizing a with
  | case1 | case4 | case5 => cases h
  | case2 => cases h; exact Nat.le_succ _
  | case3 d t ts _ a' rest' hrec =>
    rename_i ih
    cases h
    exact Nat.le_succ_of_le (ih hrec)

theorem skipSpaces_len (inp : List Tok) : (skipSpaces inp).length ≤ inp.length := by
  fun_induction skipSpaces inp with
  | case1 ts ih => exact Nat.le_succ_of_le ih
  | case2 => exact Nat.le_refl _

theorem parseArg_len (trim : List Tok → Bool) (n : Nat) (p : Param) (inp : List Tok) {a rest : List Tok}
    (h : parseArg trim n p inp = .ok (a, rest)) : rest.length ≤ inp.length := by
  cases p with
  | undelim =>
    have hs := skipSpaces_len inp
    simp only [parseArg, parseUndelimited] at h
    split at h
    · cases h
    · next ts hk => rw [hk] at hs; exact Nat.le_trans (finishBalanced_len 0 ts h) (Nat.le_of_succ_le hs)
    · next t ts _ hk => cases h; rw [hk] at hs; exact Nat.le_of_succ_le hs
  | delim m =>
    simp only [parseArg, parseDelimited] at h
    split at h
    · next consumed rest' hr =>
      have := delimLoop_len m _ n 0 0 inp hr
      split at h <;> cases h <;> exact this
    · cases h
    · cases h

def Res.map {α β : Type} (f : α → β) : Res α → Res β
  | .ok a => .ok (f a)
  | .err e => .err e
  | .panic => .panic

theorem removePrefixS_flat : ∀ (p : List Tok) (st : Stream),
    (removePrefixS p st).map Stream.flat = removePrefix p st.flat := by
  intro p
  induction p with
  | nil => intro st; rfl
  | cons x xs ih =>
    intro st
    rcases next_cases st with ⟨st', hn, hf, _⟩ | ⟨t, st', hn, hf⟩
    · simp only [removePrefixS, hn, hf]; rfl
    · simp only [removePrefixS, hn, hf, removePrefix]
      split
      · exact ih st'
      · rfl

theorem delimLoopS_flat (m : Matcher) (c : Int) (n : Nat) : ∀ (fuel q : Nat) (d : Int) (st : Stream),
    st.flat.length < fuel →
    (delimLoopS m c n fuel q d st).map (Prod.map id Stream.flat) = delimLoop m c n q d st.flat := by
  intro fuel
  induction fuel with
  | zero => intro q d st h; exact absurd h (Nat.not_lt_zero _)
  | succ f ih =>
    intro q d st h
    rcases next_cases st with ⟨st', hn, hf, _⟩ | ⟨t, st', hn, hf⟩
    · simp only [delimLoopS, hn, hf]; rfl
    · rw [hf] at h
      simp only [delimLoopS, hn, hf, delimLoop]
      cases m.next q t with
      | none => rfl
      | some r =>
        obtain ⟨q', matched⟩ := r
        dsimp only
        split
        · rfl
        · rw [← ih q' (depthStep d t) st' (Nat.lt_of_succ_lt_succ h)]
          cases delimLoopS m c n f q' (depthStep d t) st' <;> rfl

theorem finishBalancedS_flat : ∀ (fuel : Nat) (d : Int) (st : Stream), st.flat.length < fuel →
    (finishBalancedS fuel d st).map (Prod.map id Stream.flat) = finishBalanced d st.flat := by
  intro fuel
  induction fuel with
  | zero => intro d st h; exact absurd h (Nat.not_lt_zero _)
  | succ f ih =>
    intro d st h
    rcases next_cases st with ⟨st', hn, hf, _⟩ | ⟨t, st', hn, hf⟩
    · simp only [finishBalancedS, hn, hf]; rfl
    · rw [hf] at h
      simp only [finishBalancedS, hn, hf, finishBalanced]
      split
      · rfl
      · rw [← ih (depthStep d t) st' (Nat.lt_of_succ_lt_succ h)]
        cases finishBalancedS f (depthStep d t) st' <;> rfl

theorem skipSpacesS_spec : ∀ (fuel : Nat) (st : Stream), st.flat.length < fuel →
    ∃ st', skipSpacesS fuel st = some st' ∧ st'.flat = skipSpaces st.flat := by
  intro fuel
  induction fuel with
  | zero => intro st h; exact absurd h (Nat.not_lt_zero _)
  | succ f ih =>
    intro st h
    rcases next_cases st with ⟨st', hn, hf, hf'⟩ | ⟨t, st', hn, hf⟩
    · exact ⟨st', by simp only [skipSpacesS, hn], by rw [hf, hf']; rfl⟩
    · rw [hf] at h ⊢
      cases t with
      | sp =>
        simp only [skipSpacesS, hn, skipSpaces]
        exact ih st' (Nat.lt_of_succ_lt_succ h)
      | _ => exact ⟨_, by simp only [skipSpacesS, hn], back_flat st' _⟩

/-- `Parameter::parse_argument` on the stream. -/
def parseArgS (trim : List Tok → Bool) (n fuel : Nat) : Param → Stream → Res (List Tok × Stream)
  | .undelim, st => parseUndelimitedS n fuel st
  | .delim m, st => parseDelimitedS trim m n fuel st

theorem parseArgsS_cons (trim : List Tok → Bool) (fuel i : Nat) (p : Param) (ps : List Param) (st : Stream) :
    parseArgsS trim fuel i (p :: ps) st =
      match parseArgS trim (i + 1) fuel p st with
      | .ok (a, st') =>
        match parseArgsS trim fuel (i + 1) ps st' with
        | .ok (as, st'') => .ok (a :: as, st'')
        | .err e => .err e
        | .panic => .panic
      | .err e => .err e
      | .panic => .panic := by
  cases p <;> rfl

theorem parseArgS_flat (trim : List Tok → Bool) (n fuel : Nat) (p : Param) (st : Stream)
    (h : st.flat.length < fuel) :
    (parseArgS trim n fuel p st).map (Prod.map id Stream.flat) = parseArg trim n p st.flat := by
  cases p with
  | undelim =>
    obtain ⟨st1, h1, h2⟩ := skipSpacesS_spec fuel st h
    have hl := skipSpaces_len st.flat
    simp only [parseArgS, parseArg, parseUndelimitedS, parseUndelimited, h1]
    rw [← h2] at hl ⊢
    rcases next_cases st1 with ⟨st2, hn, hf, _⟩ | ⟨t, st2, hn, hf⟩
    · simp only [hn, hf]; rfl
    · rw [hf] at hl
      simp only [hn, hf]
      cases t with
      | bg => exact finishBalancedS_flat fuel 0 st2 (Nat.lt_of_le_of_lt (Nat.le_of_succ_le hl) h)
      | _ => rfl
  | delim m =>
    simp only [parseArgS, parseArg, parseDelimitedS, parseDelimited]
    rw [← delimLoopS_flat m (closingDepth m) n fuel 0 0 st h]
    cases delimLoopS m (closingDepth m) n fuel 0 0 st with
    | ok r => obtain ⟨consumed, st'⟩ := r; exact apply_ite (Res.map _) _ _ _
    | err e => rfl
    | panic => rfl

theorem parseArgsS_flat (trim : List Tok → Bool) (fuel : Nat) : ∀ (ps : List Param) (i : Nat) (st : Stream),
    st.flat.length < fuel →
    (parseArgsS trim fuel i ps st).map (Prod.map id Stream.flat) = parseArgs trim i ps st.flat := by
  intro ps
  induction ps with
  | nil => intro i st _; rfl
  | cons p ps ih =>
    intro i st h
    have hp := parseArgS_flat trim (i + 1) fuel p st h
    rw [parseArgs_cons, parseArgsS_cons, ← hp]
    cases hr : parseArgS trim (i + 1) fuel p st with
    | ok r =>
      obtain ⟨a, st'⟩ := r
      rw [hr] at hp
      -- what is left is no longer than before, so the same fuel still suffices
      have hlen : st'.flat.length < fuel := Nat.lt_of_le_of_lt (parseArg_len trim _ p _ hp.symm) h
      dsimp only [Res.map, Prod.map, id]
      rw [← ih (i + 1) st' hlen]
      cases parseArgsS trim fuel (i + 1) ps st' <;> rfl
    | err e => rfl
    | panic => rfl

theorem callWithS_flat (trim : List Tok → Bool) (m : Macro) (st : Stream) :
    (callWithS trim m st).map Stream.flat = callWith trim m st.flat := by
  have hp := removePrefixS_flat m.pre st
  rw [callWithS, callWith, ← hp]
  cases h1 : removePrefixS m.pre st with
  | ok st1 =>
    rw [h1] at hp
    have hlen : st1.flat.length < st.flat.length + 1 :=
      Nat.lt_succ_of_le (removePrefix_len m.pre st.flat hp.symm)
    dsimp only [Res.map]
    rw [← parseArgsS_flat trim _ m.params 0 st1 hlen]
    cases parseArgsS trim (st.flat.length + 1) 0 m.params st1 with
    | ok r =>
      obtain ⟨args, st2⟩ := r
      dsimp only [Res.map, Prod.map, id]
      cases performReplacement args m.repl with
      | none => rfl
      | some stack => exact congrArg Res.ok (pushStack_flat st2 stack)
    | err e => rfl
    | panic => rfl
  | err e => rfl
  | panic => rfl

end C02
