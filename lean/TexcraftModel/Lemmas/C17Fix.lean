import TexcraftModel.Model.C17
/-! The fraction of a fix_word (C17): the TFtoPL digit loop `fracDigits` against the PLtoTF reader
`fracValue`, by a loop invariant. With `R = fracAcc (remaining digits)`, `a` the loop
variable `fp` and `δ` the loop variable `delta`: `2a − 2δ ≤ R < 2a`. -/
namespace C17

theorem fracAcc_replicate (k : Nat) : fracAcc (List.replicate k 0) = 0 := by
  induction k with
  | zero => rfl
  | succ k ih => simp [List.replicate_succ, fracAcc, ih]

theorem fracAcc_append_zeros (ds : List Int) (k : Nat) :
    fracAcc (ds ++ List.replicate k 0) = fracAcc ds := by
  induction ds with
  | nil => simp [fracAcc, fracAcc_replicate]
  | cons d t ih => simp [fracAcc, ih]

/-- One iteration of the digit loop, `fp1 ≥ 0` being `fp` after the rounding adjustment: there the
truncating `/` and `%` of the Rust code are `/` and `%`. -/
theorem fracDigits_succ (n : Nat) (fp δ fp1 : Int)
    (h1 : (if δ > 1048576 then fp + 524288 - Int.tdiv δ 2 else fp) = fp1) (h0 : 0 ≤ fp1) :
    fracDigits (n + 1) fp δ =
      if 10 * (fp1 % 1048576) ≤ δ * 10 then [fp1 / 1048576]
      else fp1 / 1048576 :: fracDigits n (10 * (fp1 % 1048576)) (δ * 10) := by
  rw [fracDigits]
  simp only [h1, Int.tdiv_eq_ediv_of_nonneg h0, Int.tmod_eq_emod_of_nonneg h0]

/-- From the loop state `(a, δ)` the loop prints the same digits `t` for every fuel `≥ k`:
at most `k` decimal digits, whose value for the reader satisfies the invariant. -/
def Good (a δ : Int) (k : Nat) : Prop :=
  ∃ t, (∀ n, fracDigits (n + k) a δ = t) ∧ (∀ d ∈ t, 0 ≤ d ∧ d ≤ 9) ∧ t.length ≤ k ∧
    2 * a - 2 * δ ≤ fracAcc t ∧ fracAcc t < 2 * a

theorem good_step (k : Nat) (a δ : Int) (hδ : δ ≤ 1048576) (hδ0 : 0 ≤ δ)
    (ha0 : 0 ≤ a) (ha : a < 10485760) (hnz : 10 * (a % 1048576) ≠ 0)
    (ih : δ * 10 < 10 * (a % 1048576) → Good (10 * (a % 1048576)) (δ * 10) k) :
    Good a δ (k + 1) := by
  have step : ∀ n, fracDigits (n + (k + 1)) a δ = _ := fun n =>
    fracDigits_succ (n + k) a δ a (if_neg (Int.not_lt.2 hδ)) ha0
  -- `a = 2^20·d + r`: from here on only linear facts about the digit `d` and the rest `r`
  have hdr : 1048576 * (a / 1048576) + a % 1048576 = a := Int.mul_ediv_add_emod a 1048576
  have hr0 : 0 ≤ a % 1048576 := Int.emod_nonneg _ (by decide)
  have hr1 : a % 1048576 < 1048576 := Int.emod_lt_of_pos _ (by decide)
  generalize a / 1048576 = d at *
  generalize a % 1048576 = r at *
  have hd : 0 ≤ d ∧ d ≤ 9 := by omega
  by_cases hstop : 10 * r ≤ δ * 10
  · refine ⟨[d], fun n => by rw [step, if_pos hstop], ?_, Nat.le_add_left 1 k, ?_⟩
    · intro x hx
      rw [List.mem_singleton.1 hx]; exact hd
    · show 2 * a - 2 * δ ≤ 2097152 * d + 0 ∧ 2097152 * d + 0 < 2 * a
      omega
  · obtain ⟨t, g0, g1, g2, g3, g4⟩ := ih (by omega)
    have hR0 : 0 ≤ fracAcc t := by omega
    refine ⟨d :: t, fun n => by rw [step, if_neg hstop, g0], ?_, Nat.succ_le_succ g2, ?_⟩
    · intro x hx
      rcases List.mem_cons.1 hx with hx | hx
      · rw [hx]; exact hd
      · exact g1 x hx
    · simp only [fracAcc, Int.tdiv_eq_ediv_of_nonneg hR0]
      omega

/-- The seventh iteration (`delta = 10^7 > 2^20`: rounding adjustment) always stops. -/
theorem good7 (a : Int) (h1 : 10000000 < a) (h2 : a < 10485760) : Good a 10000000 1 := by
  have h0 : 0 ≤ a + 524288 - 5000000 := by omega
  have hs : 10 * ((a + 524288 - 5000000) % 1048576) ≤ 10000000 * 10 := by omega
  refine ⟨[(a + 524288 - 5000000) / 1048576], fun n => ?_, ?_, Nat.le_refl 1, ?_⟩
  · rw [fracDigits_succ n a 10000000 (a + 524288 - 5000000) (if_pos (by decide)) h0, if_pos hs]
  · intro d hd
    rw [List.mem_singleton.1 hd]
    omega
  · show 2 * a - 2 * 10000000 ≤ 2097152 * ((a + 524288 - 5000000) / 1048576) + 0
      ∧ 2097152 * ((a + 524288 - 5000000) / 1048576) + 0 < 2 * a
    omega

theorem next_bounds (a : Int) : 0 ≤ 10 * (a % 1048576) ∧ 10 * (a % 1048576) < 10485760 := by
  omega

/-! Iteration `j` (`delta = 10^j`) starts with `fp ≡ 2^(j-1) (mod 2^j)`: `fp` is odd at first and
every step multiplies by `10 = 2·5`. So `fp mod 2^20` is never `0`: no exact tie. -/

theorem stage_next (a m : Int) (hm : 0 < m) (hd : 2 * m ∣ 1048576) (h : a % (2 * m) = m) :
    10 * (a % 1048576) % (4 * m) = 2 * m := by
  have hx : a % 1048576 % (2 * m) = m := (Int.emod_emod_of_dvd a hd).trans h
  have hq := Int.emod_add_mul_ediv (a % 1048576) (2 * m)
  rw [hx] at hq
  generalize a % 1048576 = x at hq
  generalize x / (2 * m) = q at hq
  -- `x = m + 2m·q`, so `10x = 2m + 4m·(5q + 2)`
  have e : 10 * x = 2 * m + 4 * m * (5 * q + 2) := by
    rw [Int.mul_assoc 2 m q] at hq
    rw [Int.mul_assoc 4 m, Int.mul_add m, Int.mul_left_comm m 5 q]
    omega
  rw [e, Int.add_mul_emod_self_left]
  exact Int.emod_eq_of_lt (by omega) (by omega)

theorem good_stage (k : Nat) (a δ m : Int) (hδ : 0 ≤ δ ∧ δ ≤ 1048576)
    (hm : 0 < m ∧ 2 * m ∣ 1048576) (hb : 0 ≤ a ∧ a < 10485760) (hp : a % (2 * m) = m)
    (next : ∀ a', 0 ≤ a' ∧ a' < 10485760 → a' % (4 * m) = 2 * m → δ * 10 < a' → Good a' (δ * 10) k) :
    Good a δ (k + 1) := by
  have h := stage_next a m hm.1 hm.2 hp
  refine good_step k a δ hδ.2 hδ.1 hb.1 hb.2 (fun h0 => ?_) (fun hlt => next _ (next_bounds a) h hlt)
  rw [h0, Int.zero_emod] at h
  omega

/-- The six iterations before the rounding one; a row holds the iterations left after it,
`delta = 10^j` and `2^(j-1)`. -/
theorem good1 (a : Int) (hb : 0 ≤ a ∧ a < 10485760) (hp : a % 2 = 1) : Good a 10 7 :=
  good_stage 6 a 10 1 (by decide) (by decide) hb hp fun a hb hp _ =>
  good_stage 5 a 100 2 (by decide) (by decide) hb hp fun a hb hp _ =>
  good_stage 4 a 1000 4 (by decide) (by decide) hb hp fun a hb hp _ =>
  good_stage 3 a 10000 8 (by decide) (by decide) hb hp fun a hb hp _ =>
  good_stage 2 a 100000 16 (by decide) (by decide) hb hp fun a hb hp _ =>
  good_stage 1 a 1000000 32 (by decide) (by decide) hb hp fun a hb _ hlt => good7 a hlt hb.2

theorem frac_round_trip (f : Int) (h0 : 0 ≤ f) (h1 : f < 1048576) :
    ∃ t, (∀ n, fracDigits (n + 7) (10 * f + 5) 10 = t) ∧ (∀ d ∈ t, 0 ≤ d ∧ d ≤ 9) ∧
      t.length ≤ 7 ∧ fracValue t = f := by
  obtain ⟨t, g0, g1, g2, g3, g4⟩ := good1 (10 * f + 5) (by omega) (by omega)
  refine ⟨t, g0, g1, g2, ?_⟩
  simp only [fracValue, fracAcc_append_zeros]
  rw [Int.tdiv_eq_ediv_of_nonneg (by omega)]
  omega

end C17
