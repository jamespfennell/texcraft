import TexcraftModel.Lemmas.C17Text
/-! The PL decimal reader `parseFix` (C17) as the composition of its loops. On arbitrary text it is
total with every accumulator far inside `i32` (which is why the model has no panic outcome for the
`checked_*().unwrap()` of the Rust code) and the result is an `i32` in `(−2^31, 2^31)` or one of
the documented replacements; on a printed sign and magnitude it returns them (`parse_printed`). -/
namespace C17

theorem digVal_range (c : Char) (h : isDig c = true) : 0 ≤ digVal c ∧ digVal c ≤ 9 := by
  simp only [isDig, Bool.and_eq_true, decide_eq_true_eq] at h
  have h0 : '0'.toNat = 48 := rfl
  have h9 : '9'.toNat = 57 := rfl
  simp only [digVal]
  omega

theorem readInt_range (s : List Char) (acc : Int) (h0 : 0 ≤ acc) (h1 : acc ≤ 2048) :
    0 ≤ (readInt s acc).1 ∧ (readInt s acc).1 ≤ 2048 := by
  fun_induction readInt s acc with
  | case1 c t acc hd acc1 ih =>
    obtain ⟨d0, d9⟩ := digVal_range c hd
    exact ih (by split <;> omega) (by split <;> omega)
  | case2 => exact ⟨h0, h1⟩
  | case3 => exact ⟨h0, h1⟩

theorem readFracDigits_range (n : Nat) (s : List Char) :
    ∀ d ∈ (readFracDigits n s).1, 0 ≤ d ∧ d ≤ 9 := by
  fun_induction readFracDigits n s with
  | case1 => nofun
  | case2 n c t hd ds r e ih =>
    intro d hm
    rcases List.mem_cons.1 hm with rfl | hm
    · exact digVal_range c hd
    · exact ih d (e ▸ hm)
  | case3 => nofun
  | case4 => nofun

/-- `20971519 = 10·2^21 − 1` is the bound that a step `2^21·d + acc div 10`, `d ≤ 9`, reproduces. -/
theorem fracAcc_bound (ds : List Int) (h : ∀ d ∈ ds, 0 ≤ d ∧ d ≤ 9) :
    0 ≤ fracAcc ds ∧ fracAcc ds ≤ 20971519 := by
  induction ds with
  | nil => simp [fracAcc]
  | cons d t ih =>
    obtain ⟨h0, h1⟩ := ih (fun x hx => h x (List.mem_cons_of_mem _ hx))
    obtain ⟨d0, d9⟩ := h d (by simp)
    simp only [fracAcc, Int.tdiv_eq_ediv_of_nonneg h0]
    omega

theorem fracValue_range (ds : List Int) (h : ∀ d ∈ ds, 0 ≤ d ∧ d ≤ 9) :
    0 ≤ fracValue ds ∧ fracValue ds ≤ 1048576 := by
  obtain ⟨h0, h1⟩ := fracAcc_bound ds h
  rw [fracValue, fracAcc_append_zeros, Int.tdiv_eq_ediv_of_nonneg (by omega)]
  omega

/-- The last step of the reader (PLtoTF §62): range check and composition of the value. -/
def assemble (neg : Bool) (ip fp : Int) : Parsed :=
  if ip ≥ 2048 ∨ (fp ≥ 1048576 ∧ ip = 2047) then ⟨if ip = 2047 then 1048576 else 0, .tooBig⟩
  else ⟨if neg then -(ip * 1048576 + fp) else ip * 1048576 + fp, .none⟩

/-- The fraction the reader takes from what follows the integer part. -/
def fracPart : List Char → Int
  | '.' :: s => fracValue (readFracDigits 7 s).1
  | _ => 0

theorem parseFix_eq {s t s2 s3 : List Char} {c : Char} {neg : Bool} {ip : Int}
    (h1 : skipSpaces s = c :: t) (hc : c = 'D' ∨ c = 'd' ∨ c = 'R' ∨ c = 'r')
    (h2 : readSigns (skipSpaces t) false = (neg, s2)) (h3 : readInt s2 0 = (ip, s3)) :
    parseFix s = assemble neg ip (fracPart s3) := by
  simp only [parseFix, h1, hc, if_true, h2, h3]
  rfl

theorem assemble_divmod (neg : Bool) (n : Nat) (h : n < 2147483648) :
    assemble neg ((n / 1048576 : Nat) : Int) ((n % 1048576 : Nat) : Int)
      = ⟨if neg then -(n : Int) else n, .none⟩ := by
  have e : ((n / 1048576 : Nat) : Int) * 1048576 + ((n % 1048576 : Nat) : Int) = n := by omega
  rw [assemble, if_neg (by omega), e]

/-- Print, then read, on a sign and a magnitude (TFtoPL §40–43 against PLtoTF §62–66): every
magnitude below `2^31` with either sign, so `-0.0` as well. -/
theorem parse_printed (neg : Bool) (n : Nat) (h : n < 2147483648) :
    parseFix ('R' :: ' ' :: ((if neg then ['-'] else []) ++ printMag n))
      = ⟨if neg then -(n : Int) else n, .none⟩ := by
  obtain ⟨c, t, hc, hp⟩ := printMag_shape n
  obtain ⟨s, h3, h4⟩ := printMag_read n h
  have hsp : skipSpaces (' ' :: ((if neg then ['-'] else []) ++ printMag n))
      = (if neg then ['-'] else []) ++ c :: t := by
    rw [skipSpaces, if_pos (.inl rfl), hp]
    cases neg
    · exact skipSpaces_digit c t hc
    · rfl
  rw [parseFix_eq (t := ' ' :: _) rfl (.inr (.inr (.inl rfl)))
    (hsp ▸ readSigns_printed neg c t hc) (hp ▸ h3)]
  rw [fracPart, h4]
  exact assemble_divmod neg n h

theorem fracPart_range (s : List Char) : 0 ≤ fracPart s ∧ fracPart s ≤ 1048576 := by
  unfold fracPart
  split
  · exact fracValue_range _ (readFracDigits_range 7 _)
  · exact ⟨Int.le_refl 0, by decide⟩

/-- What the reader promises of its result on any text. -/
def Parsed.InRange (r : Parsed) : Prop :=
  (r.warn = .none → -2147483648 < r.value ∧ r.value < 2147483648) ∧
  (r.warn = .tooBig → r.value = 0 ∨ r.value = 1048576) ∧
  (r.warn = .invalidPrefix → r.value = 0)

theorem assemble_range (neg : Bool) (ip fp : Int) (hi : 0 ≤ ip ∧ ip ≤ 2048)
    (hf : 0 ≤ fp ∧ fp ≤ 1048576) : (assemble neg ip fp).InRange := by
  unfold assemble
  split
  · refine ⟨nofun, fun _ => ?_, nofun⟩
    simp only
    split
    · exact .inr rfl
    · exact .inl rfl
  · refine ⟨fun _ => ?_, nofun, nofun⟩
    simp only
    cases neg <;> simp only [Bool.false_eq_true, if_false, if_true] <;> omega

end C17
