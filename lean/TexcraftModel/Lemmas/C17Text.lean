import TexcraftModel.Lemmas.C17Fix
/-! Lemmas for `fix_print_parse` (C17): the character level — the reader's loops on the
printed text. The integer part is `Nat.toDigits`, whose digits the reader folds back with
`Nat.ofDigitChars` as long as the saturation at 2048 is not reached. The sign is split off by
`printFix_eq` and put back by `natAbs_signed`; every other statement is about a magnitude. -/
namespace C17

theorem isDig_eq_isDigit (c : Char) : isDig c = c.isDigit := by
  have h0 : '0'.toNat = 48 := rfl
  have h9 : '9'.toNat = 57 := rfl
  have hv : c.toNat = c.val.toNat := rfl
  simp only [isDig, Char.isDigit, h0, h9, hv, ge_iff_le, UInt32.le_iff_toNat_le]
  rfl

theorem le_ofDigitChars (ds : List Char) (acc : Nat) : acc ≤ Nat.ofDigitChars 10 ds acc := by
  rw [Nat.ofDigitChars_eq_ofDigitChars_zero]
  have : 1 * acc ≤ 10 ^ ds.length * acc := Nat.mul_le_mul_right _ (Nat.pow_pos (by decide))
  omega

theorem readInt_digits (ds : List Char) (c : Char) (rest : List Char) (acc : Nat)
    (hds : ∀ x ∈ ds, isDig x = true) (hc : isDig c = false)
    (h : Nat.ofDigitChars 10 ds acc < 2048) :
    readInt (ds ++ c :: rest) acc = (((Nat.ofDigitChars 10 ds acc : Nat) : Int), c :: rest) := by
  induction ds generalizing acc with
  | nil => simp [readInt, hc]
  | cons d t ih =>
    rw [Nat.ofDigitChars_cons] at h ⊢
    -- every intermediate value is at most the final one, so the saturation never fires
    have hle := le_ofDigitChars t (10 * acc + (d.toNat - '0'.toNat))
    have e : (acc : Int) * 10 + digVal d = ((10 * acc + (d.toNat - '0'.toNat) : Nat) : Int) := by
      have : '0'.toNat = 48 := rfl
      simp only [digVal, this]; omega
    have hns : ¬ (((10 * acc + (d.toNat - '0'.toNat) : Nat) : Int) ≥ 2048) := by omega
    simp only [List.cons_append, readInt, hds d (by simp), if_true, e, hns, if_false]
    exact ih _ (fun x hx => hds x (by simp [hx])) h

theorem digit_facts : ∀ k : Fin 10,
    showInt (k.val : Int) = [Nat.digitChar k.val] ∧ isDig (Nat.digitChar k.val) = true ∧
      digVal (Nat.digitChar k.val) = (k.val : Int) := by
  decide

theorem digit_char (d : Int) (h0 : 0 ≤ d) (h9 : d ≤ 9) :
    ∃ c, showInt d = [c] ∧ isDig c = true ∧ digVal c = d := by
  obtain ⟨k, rfl⟩ := Int.eq_ofNat_of_zero_le h0
  exact ⟨_, digit_facts ⟨k, by omega⟩⟩

theorem readFracDigits_printed (t : List Int) (n : Nat) (hl : t.length ≤ n)
    (hd : ∀ d ∈ t, 0 ≤ d ∧ d ≤ 9) :
    readFracDigits n ((t.map showInt).flatten) = (t, []) := by
  induction t generalizing n with
  | nil => cases n <;> simp [readFracDigits]
  | cons d t ih =>
    obtain ⟨c, e1, e2, e3⟩ := digit_char d (hd d (by simp)).1 (hd d (by simp)).2
    cases n with
    | zero => simp at hl
    | succ n =>
      have := ih n (by simpa using hl) (fun x hx => hd x (by simp [hx]))
      simp [readFracDigits, e1, e2, e3, this]

theorem isDig_not_sign (c : Char) (h : isDig c = true) :
    c ≠ ' ' ∧ c ≠ '\n' ∧ c ≠ '+' ∧ c ≠ '-' := by
  refine ⟨?_, ?_, ?_, ?_⟩ <;> (intro e; subst e; revert h; decide)

theorem skipSpaces_digit (c : Char) (t : List Char) (h : isDig c = true) :
    skipSpaces (c :: t) = c :: t := by
  obtain ⟨h1, h2, _⟩ := isDig_not_sign c h
  simp [skipSpaces, h1, h2]

theorem readSigns_printed (neg : Bool) (c : Char) (t : List Char) (hc : isDig c = true) :
    readSigns ((if neg then ['-'] else []) ++ c :: t) false = (neg, c :: t) := by
  obtain ⟨h1, _, h2, h3⟩ := isDig_not_sign c hc
  cases neg <;> simp [readSigns, h1, h2, h3]

theorem showInt_nat (n : Nat) : showInt (n : Int) = Nat.toDigits 10 n := by
  have : ¬ ((n : Int) < 0) := by omega
  simp [showInt, this]

/-- What `Display` prints after the sign for a fix_word of magnitude `n`. -/
def printMag (n : Nat) : List Char :=
  Nat.toDigits 10 (n / 1048576) ++
    '.' :: ((fracDigits FRAC_FUEL (10 * ((n % 1048576 : Nat) : Int) + 5) 10).map showInt).flatten

theorem printFix_eq (v : Int) :
    printFix v = (if v < 0 then ['-'] else []) ++ printMag v.natAbs := by
  have e1 : (Int.tdiv v 1048576).natAbs = v.natAbs / 1048576 := by
    rw [Int.natAbs_tdiv]; rfl
  have e2 : (Int.tmod v 1048576).natAbs = v.natAbs % 1048576 := by
    rw [Int.natAbs_tmod]; rfl
  simp only [printFix, printMag, e1, e2, showInt_nat, List.append_assoc, List.singleton_append]

theorem natAbs_signed (v : Int) : (if v < 0 then -(v.natAbs : Int) else v.natAbs) = v := by
  split <;> omega

theorem toDigits_digits (n : Nat) :
    ∃ c t, Nat.toDigits 10 n = c :: t ∧ ∀ x ∈ c :: t, isDig x = true := by
  cases hds : Nat.toDigits 10 n with
  | nil => exact absurd hds Nat.toDigits_ne_nil
  | cons c t =>
    refine ⟨c, t, rfl, fun x hx => ?_⟩
    rw [isDig_eq_isDigit]
    exact Nat.isDigit_of_mem_toDigits (by decide) (by decide) (hds ▸ hx)

theorem printMag_shape (n : Nat) : ∃ c t, isDig c = true ∧ printMag n = c :: t := by
  obtain ⟨c, t, hds, hall⟩ := toDigits_digits (n / 1048576)
  exact ⟨c, _, hall c List.mem_cons_self, by rw [printMag, hds]; rfl⟩

theorem printMag_read (n : Nat) (h : n < 2147483648) :
    ∃ s, readInt (printMag n) 0 = (((n / 1048576 : Nat) : Int), '.' :: s) ∧
      fracValue (readFracDigits 7 s).1 = ((n % 1048576 : Nat) : Int) := by
  obtain ⟨ds, g0, g1, g2, g3⟩ := frac_round_trip ((n % 1048576 : Nat) : Int) (by omega) (by omega)
  obtain ⟨c, t, hds, hall⟩ := toDigits_digits (n / 1048576)
  refine ⟨(ds.map showInt).flatten, ?_, ?_⟩
  · have hval : Nat.ofDigitChars 10 (c :: t) 0 = n / 1048576 := by
      rw [← hds, Nat.ofDigitChars_ten_toDigits]
    rw [printMag, show FRAC_FUEL = 5 + 7 from rfl, g0 5, hds, ← hval]
    exact readInt_digits (c :: t) '.' _ 0 hall (by decide) (by omega)
  · rw [readFracDigits_printed _ 7 g2 g1]
    exact g3

end C17
