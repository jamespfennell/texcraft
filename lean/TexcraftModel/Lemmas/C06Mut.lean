import TexcraftModel.Model.C06Core
/-!
C06 — two variants of the digit loop of `display_no_units` (mutants/C06/README.md) and why they
print the same: `delta > ONE` → `delta >= ONE` and `f <= delta` → `f < delta` never change a
digit. (`delta` runs through 10, 100, … and is never `2^16`; before the `j`-th digit `f` is
divisible by `2^(j-1)` and not by `2^j` while `delta = 10^j` is divisible by `2^j`, so `f = delta`
never happens.) The equivalence on the whole domain — all 65 536 fractions — is `printFracV_eq` in
`Lemmas/C06Frac.lean` (`print_loop_mutants_equivalent` in `Props/C06.lean`); `mutOK_all` is its
Boolean form.
-/
namespace C06

/-- The digit loop with the two comparisons switchable (`false false` is `printFracLoop`). -/
def printFracLoopV (ge lt : Bool) : Nat → Int → Int → Option (List Nat)
  | 0, _, _ => none
  | fuel + 1, f, delta =>
    let f1 := if (if ge then delta ≥ 65536 else delta > 65536) then f + (32768 - 50000) else f
    let d := Int.tdiv f1 65536
    if d < 0 ∨ d ≥ 10 then none
    else
      let f2 := Int.tmod f1 65536 * 10
      let delta2 := delta * 10
      if (if lt then f2 < delta2 else f2 ≤ delta2) then some [d.toNat]
      else (printFracLoopV ge lt fuel f2 delta2).map (d.toNat :: ·)

def printFracV (ge lt : Bool) (fr : Int) : Option (List Nat) := printFracLoopV ge lt 8 (fr * 10 + 5) 10

def mutOK (fr : Nat) : Bool :=
  printFracV false false fr == printFrac fr && printFracV true false fr == printFrac fr &&
  printFracV false true fr == printFrac fr && printFracV true true fr == printFrac fr

end C06
