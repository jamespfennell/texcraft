import TexcraftModel.Lemmas.C17Cover
import TexcraftModel.Lemmas.C17Scaled
/-! Lemmas for `compress_spec` (C17): the candidate pass, the binary search and the final loop
of the model `compress` against `CompressSpec`. -/
namespace C17

/-- A class: non-empty, every member within `δ` of the first. -/
def ClsOK (δ : Int) (cls : List Int) : Prop := ∃ f t, cls = f :: t ∧ ∀ v ∈ cls, v - f ≤ δ

theorem ClsOK.mono {δ δ' : Int} {cls : List Int} (h : ClsOK δ cls) (hd : δ ≤ δ') : ClsOK δ' cls := by
  obtain ⟨f, t, e, hv⟩ := h
  exact ⟨f, t, e, fun v hm => Int.le_trans (hv v hm) hd⟩

/-- A solution for tolerance `δ`: consecutive non-empty classes of diameter ≤ `δ`, at most `maxSize`. -/
def ValidSol (vals : List Int) (maxSize : Nat) (sol : List (List Int)) (δ : Int) : Prop :=
  sol.flatten = vals ∧ sol.length ≤ maxSize ∧ ∀ cls ∈ sol, ClsOK δ cls

/-- `delta < x` is never a solution. -/
def Below (vals : List Int) (maxSize : Nat) (x : Int) : Prop :=
  ∀ δ', 0 ≤ δ' → δ' < x → greedyCount δ' vals > maxSize

/-! `delta_upper` and `delta_lower` are a running minimum and maximum, written in the model as
`if a < b then a else b`; hence these four facts instead of those about `min` and `max`. -/

theorem minI_le (a b : Int) : (if a < b then a else b) ≤ a ∧ (if a < b then a else b) ≤ b := by
  split
  · exact ⟨Int.le_refl _, Int.le_of_lt ‹_›⟩
  · exact ⟨Int.not_lt.1 ‹_›, Int.le_refl _⟩

theorem lt_minI {c a b : Int} (h1 : c < a) (h2 : c < b) : c < (if a < b then a else b) := by
  split <;> assumption

theorem le_maxI (a b : Int) : a ≤ (if a > b then a else b) ∧ b ≤ (if a > b then a else b) := by
  split
  · exact ⟨Int.le_refl _, Int.le_of_lt ‹_›⟩
  · exact ⟨Int.not_lt.1 ‹_›, Int.le_refl _⟩

theorem maxI_le {a b c : Int} (h1 : a ≤ c) (h2 : b ≤ c) : (if a > b then a else b) ≤ c := by
  split <;> assumption

theorem clsOK_snoc {δ start : Int} {cur : List Int} {done : List (List Int)}
    (hd : ∀ c ∈ done, ClsOK δ c) (hh : cur.head? = some start) (hc : ∀ v ∈ cur, v - start ≤ δ) :
    ∀ c ∈ done ++ [cur], ClsOK δ c := by
  intro c hc'
  rcases List.mem_append.1 hc' with h | h
  · exact hd c h
  · rw [List.mem_singleton.1 h]
    cases cur with
    | nil => cases hh
    | cons a t => cases hh; exact ⟨_, _, rfl, hc⟩

theorem pass_sol (δ : Int) (maxSize : Nat) (l : List Int) (start dlo dhi : Int) (cur : List Int)
    (done cls : List (List Int)) (dlo' : Int)
    (h : passLoop δ maxSize l start dlo dhi cur done = .sol cls dlo')
    (h0 : 0 ≤ dlo) (h1 : dlo ≤ δ) (hh : cur.head? = some start) (hc : ∀ v ∈ cur, v - start ≤ dlo)
    (hd : ∀ c ∈ done, ClsOK dlo c) :
    ValidSol (done.flatten ++ cur ++ l) maxSize cls dlo' ∧ 0 ≤ dlo' ∧ dlo' ≤ δ := by
  fun_induction passLoop δ maxSize l start dlo dhi cur done generalizing cls dlo' with
  | case1 start dlo dhi cur done hlen =>
    cases h
    exact ⟨⟨by rw [List.flatten_append, List.flatten_singleton, List.append_nil],
      by rw [List.length_append]; exact hlen, clsOK_snoc hd hh hc⟩, h0, h1⟩
  | case2 => cases h
  | case3 => cases h
  | case4 v t start dlo dhi cur done gap hgap m done' _ ih =>
    obtain ⟨⟨a, b⟩, c⟩ := ih cls dlo' h h0 h1 rfl
      (fun x hx => by rw [List.mem_singleton.1 hx, Int.sub_self]; exact h0) (clsOK_snoc hd hh hc)
    exact ⟨⟨by simpa [done'] using a, b⟩, c⟩
  | case5 v t start dlo dhi cur done gap hgap ih =>
    have hm := le_maxI gap dlo
    obtain ⟨⟨a, b⟩, c⟩ := ih cls dlo' h (Int.le_trans h0 hm.2) (maxI_le (Int.not_lt.1 hgap) h1)
      (by cases cur with
        | nil => cases hh
        | cons a t => exact hh)
      (fun x hx => (List.mem_append.1 hx).elim (fun hx => Int.le_trans (hc x hx) hm.2)
        (fun hx => by rw [List.mem_singleton.1 hx]; exact hm.1))
      (fun c hc' => (hd c hc').mono hm.2)
    exact ⟨⟨by simpa using a, b⟩, c⟩

/-- A failed pass is a verdict on every tolerance up to the returned `delta_upper`, not only on
the candidate: no gap that opened an interval is below `dhi'`, so for `δ ≤ δ' < dhi'` the greedy
pass opens the same intervals. -/
theorem pass_fail (δ : Int) (maxSize : Nat) (l : List Int) (start dlo dhi : Int) (cur : List Int)
    (done : List (List Int)) (dhi' : Int)
    (h : passLoop δ maxSize l start dlo dhi cur done = .fail dhi') :
    dhi' ≤ dhi ∧ (δ < dhi → δ < dhi') ∧ ∀ δ', δ ≤ δ' → δ' < dhi' →
      done.length + 1 + (greedyStarts δ' (start + δ') l).length > maxSize := by
  fun_induction passLoop δ maxSize l start dlo dhi cur done generalizing dhi' with
  | case1 => cases h
  | case2 _ _ _ _ _ hlen => cases h; exact ⟨Int.le_refl _, id, fun _ _ _ => Nat.not_le.1 hlen⟩
  | case3 v t start dlo dhi cur done gap hgap m done' hb =>
    cases h
    have hm := minI_le gap dhi
    refine ⟨hm.2, fun hd => lt_minI hgap hd, fun δ' _ h2 => ?_⟩
    rw [greedyStarts, if_pos (by omega), List.length_cons]
    rw [List.length_append] at hb
    exact Nat.lt_of_le_of_lt hb (Nat.lt_add_of_pos_right (Nat.succ_pos _))
  | case4 v t start dlo dhi cur done gap hgap m done' _ ih =>
    obtain ⟨a, b, c⟩ := ih dhi' h
    have hm := minI_le gap dhi
    refine ⟨Int.le_trans a hm.2, fun hd => b (lt_minI hgap hd), fun δ' h1 h2 => ?_⟩
    have := c δ' h1 h2
    rw [List.length_append, List.length_singleton] at this
    rw [greedyStarts, if_pos (by omega), List.length_cons]
    omega
  | case5 v t start dlo dhi cur done gap hgap ih =>
    obtain ⟨a, b, c⟩ := ih dhi' h
    refine ⟨a, b, fun δ' h1 h2 => ?_⟩
    rw [greedyStarts, if_neg (by omega)]
    exact c δ' h1 h2

theorem pass_top (δ : Int) (hδ : 0 ≤ δ) (maxSize : Nat) (first : Int) (t : List Int) (maxDelta : Int) :
    passLoop δ maxSize (first :: t) first 0 maxDelta [] [] =
      passLoop δ maxSize t first 0 maxDelta [first] [] := by
  rw [passLoop]
  simp only [Int.sub_self, if_neg (Int.not_lt.2 hδ), ite_self, List.nil_append]

theorem top_sol (δ : Int) (hδ : 0 ≤ δ) (maxSize : Nat) (first : Int) (t : List Int) (maxDelta : Int)
    (cls : List (List Int)) (dlo' : Int)
    (h : passLoop δ maxSize (first :: t) first 0 maxDelta [] [] = .sol cls dlo') :
    ValidSol (first :: t) maxSize cls dlo' ∧ 0 ≤ dlo' ∧ dlo' ≤ δ := by
  rw [pass_top δ hδ] at h
  exact pass_sol δ maxSize t first 0 maxDelta [first] [] cls dlo' h (Int.le_refl 0) hδ rfl
    (fun v hv => by rw [List.mem_singleton.1 hv, Int.sub_self]; exact Int.le_refl 0) nofun

theorem top_fail (δ : Int) (hδ : 0 ≤ δ) (maxSize : Nat) (first : Int) (t : List Int)
    (hs : (first :: t).Pairwise (· ≤ ·)) (maxDelta : Int) (hmd : δ < maxDelta) (dhi' : Int)
    (h : passLoop δ maxSize (first :: t) first 0 maxDelta [] [] = .fail dhi') :
    δ < dhi' ∧ Below (first :: t) maxSize dhi' := by
  rw [pass_top δ hδ] at h
  obtain ⟨_, b, c⟩ := pass_fail δ maxSize t first 0 maxDelta [first] [] dhi' h
  have hc : ∀ δ', δ ≤ δ' → δ' < dhi' → greedyCount δ' (first :: t) > maxSize := c
  refine ⟨b hmd, fun δ' d0 d1 => ?_⟩
  by_cases hle : δ' ≤ δ
  · exact Nat.lt_of_lt_of_le (hc δ (Int.le_refl _) (b hmd)) (greedyCount_mono δ' δ d0 hle (first :: t) hs)
  · exact hc δ' (Int.le_of_lt (Int.not_le.1 hle)) d1

theorem mid_bounds {lower upper mid : Int} {n : Nat} (hlt : lower < upper)
    (hw : upper - lower < 2 ^ (n + 1)) (hm : mid = lower + Int.tdiv (upper - lower) 2) :
    lower ≤ mid ∧ mid < upper ∧ mid - lower < 2 ^ n ∧ upper - mid ≤ 2 ^ n := by
  rw [Int.pow_succ] at hw
  rw [Int.tdiv_eq_ediv_of_nonneg (Int.sub_nonneg_of_le (Int.le_of_lt hlt))] at hm
  omega

theorem search_spec (first : Int) (t : List Int) (hs : (first :: t).Pairwise (· ≤ ·)) (maxDelta : Int)
    (maxSize : Nat) : ∀ (n : Nat) (lower upper : Int) (sol : List (List Int)),
    0 ≤ lower → 0 ≤ upper → upper ≤ maxDelta → Below (first :: t) maxSize lower →
    ValidSol (first :: t) maxSize sol upper → upper - lower < 2 ^ n →
    ∃ δ, 0 ≤ δ ∧ ValidSol (first :: t) maxSize
      (searchLoop (first :: t) first maxDelta maxSize n lower upper sol) δ ∧
      Below (first :: t) maxSize δ := by
  intro n lower upper sol h0 h1 h2 hB hV hw
  fun_induction searchLoop (first :: t) first maxDelta maxSize n lower upper sol with
  | case1 lower upper sol =>
    exact ⟨upper, h1, hV, fun δ' a b => hB δ' a (by rw [Int.pow_zero] at hw; omega)⟩
  | case2 n lower upper sol hlt mid cls dlo hpass ih =>
    obtain ⟨m0, m1, m2, _⟩ := mid_bounds hlt hw (mid := mid) rfl
    obtain ⟨a, b, c⟩ := top_sol mid (Int.le_trans h0 m0) maxSize first t maxDelta cls dlo hpass
    exact ih h0 b (Int.le_trans c (Int.le_trans (Int.le_of_lt m1) h2)) hB a
      (Int.lt_of_le_of_lt (Int.sub_le_sub_right c lower) m2)
  | case3 n lower upper sol hlt mid dhi hpass ih =>
    obtain ⟨m0, m1, _, m3⟩ := mid_bounds hlt hw (mid := mid) rfl
    obtain ⟨a, b⟩ := top_fail mid (Int.le_trans h0 m0) maxSize first t hs maxDelta
      (Int.lt_of_lt_of_le m1 h2) dhi hpass
    exact ih (Int.le_trans (Int.le_trans h0 m0) (Int.le_of_lt a)) h1 h2 b hV
      (Int.lt_of_lt_of_le (Int.sub_lt_sub_left a upper) m3)
  | case4 n lower upper sol hlt =>
    exact ⟨upper, h1, hV, fun δ' a b => hB δ' a (Int.lt_of_lt_of_le b (Int.not_lt.1 hlt))⟩

theorem lookupIdx_class (cls : List Int) (idx : Nat) (m : List (Int × Nat)) (v : Int) :
    lookupIdx (cls.map (fun w => (w, idx)) ++ m) v = if v ∈ cls then some idx else lookupIdx m v := by
  induction cls with
  | nil => rfl
  | cons a t ih =>
    rw [List.map_cons, List.cons_append, lookupIdx, ih]
    by_cases h : a = v
    · rw [if_pos h, if_pos (h ▸ List.mem_cons_self)]
    · rw [if_neg h]
      by_cases hv : v ∈ t
      · rw [if_pos hv, if_pos (List.mem_cons_of_mem _ hv)]
      · rw [if_neg hv, if_neg (fun hm => (List.mem_cons.1 hm).elim (fun e => h e.symm) hv)]

theorem exists_getLast {f : Int} {t : List Int} (hs : (f :: t).Pairwise (· ≤ ·)) :
    ∃ l, (f :: t).getLast? = some l ∧ l ∈ f :: t ∧ ∀ v ∈ f :: t, v ≤ l := by
  have hl := List.getLast?_eq_some_getLast (List.cons_ne_nil f t)
  refine ⟨_, hl, List.getLast_mem _, fun v hv => ?_⟩
  obtain ⟨ys, e⟩ := List.getLast?_eq_some_iff.1 hl
  rw [e] at hs hv
  rcases List.mem_append.1 hv with h | h
  · exact (List.pairwise_append.1 hs).2.2 v h _ (List.mem_singleton_self _)
  · rw [List.mem_singleton.1 h]; exact Int.le_refl _

-- Here and in `tdiv2_mid` one `omega` per direction and conjunct: on an `↔` or a conjunction as the goal
-- it goes through `Classical.choice`.
theorem absI_le (x c : Int) : absI x ≤ c ↔ -c ≤ x ∧ x ≤ c := by
  simp only [absI]; split <;> exact ⟨fun h => ⟨by omega, by omega⟩, fun h => by omega⟩

theorem le_absI (x : Int) : x ≤ absI x ∧ -x ≤ absI x :=
  have h := (absI_le x (absI x)).1 (Int.le_refl _)
  ⟨h.2, Int.neg_le_of_neg_le h.1⟩

theorem tdiv2_mid (s : Int) : s - 1 ≤ 2 * Int.tdiv s 2 ∧ 2 * Int.tdiv s 2 ≤ s + 1 := by
  have e := Int.mul_tdiv_add_tmod s 2
  have h1 := Int.tmod_lt_of_pos s (by decide : (0 : Int) < 2)
  have h2 := Int.lt_tmod_of_pos s (by decide : (0 : Int) < 2)
  exact ⟨by omega, by omega⟩

theorem tdiv2_near (f l v δ : Int) (h1 : f ≤ v) (h2 : v ≤ l) (h3 : l - f ≤ δ) :
    2 * absI (v - Int.tdiv (l + f) 2) ≤ δ + δ % 2 := by
  obtain ⟨m1, m2⟩ := tdiv2_mid (l + f)
  unfold absI
  split <;> omega

theorem tdiv2_between (f l : Int) (h : f ≤ l) : f ≤ Int.tdiv (l + f) 2 ∧ Int.tdiv (l + f) 2 ≤ l := by
  obtain ⟨m1, m2⟩ := tdiv2_mid (l + f)
  omega

theorem emit_classes (δ : Int) : ∀ (sol : List (List Int)) (idx : Nat), sol.flatten.Pairwise (· < ·) →
    (∀ v ∈ sol.flatten, -2147483648 ≤ v ∧ v ≤ 2147483647) → (∀ cls ∈ sol, ClsOK δ cls) →
    ∃ reps m, emit sol idx = some (reps, m) ∧ reps.length = sol.length ∧
      (∀ v, v ∉ sol.flatten → lookupIdx m v = none) ∧
      ∀ cls ∈ sol, ∃ k rep, reps[k]? = some rep ∧
        ∀ v ∈ cls, lookupIdx m v = some (idx + k) ∧ 2 * absI (v - rep) ≤ δ + δ % 2 := by
  intro sol
  induction sol with
  | nil => intro idx _ _ _; exact ⟨[], [], rfl, rfl, fun _ _ => rfl, nofun⟩
  | cons c0 rest ih =>
    intro idx hsl hb h
    rw [List.flatten_cons] at hsl hb
    obtain ⟨hs0, hs2, hlt⟩ := List.pairwise_append.1 hsl
    obtain ⟨f, t, rfl, hdiam⟩ := h _ List.mem_cons_self
    have hsorted := hs0.imp Int.le_of_lt
    obtain ⟨reps', m', e1, e2, e3, e4⟩ := ih (idx + 1) hs2
      (fun v hv => hb v (List.mem_append_right _ hv)) (fun c hc => h c (List.mem_cons_of_mem _ hc))
    obtain ⟨l, hl, hlmem, hle⟩ := exists_getLast hsorted
    have hbt := tdiv2_between f l (head_le hsorted l hlmem)
    have hchk : chk (Int.tdiv (l + f) 2) = some (Int.tdiv (l + f) 2) :=
      chk_ok _ (Int.le_trans (hb f (List.mem_append_left _ List.mem_cons_self)).1 hbt.1)
        (Int.le_trans hbt.2 (hb l (List.mem_append_left _ hlmem)).2)
    refine ⟨Int.tdiv (l + f) 2 :: reps', (f :: t).map (fun v => (v, idx)) ++ m', ?_,
      congrArg (· + 1) e2, ?_, ?_⟩
    · simp only [emit, List.head?_cons, hl, hchk, e1]
    · intro v hv
      rw [List.flatten_cons, List.mem_append, not_or] at hv
      rw [lookupIdx_class, if_neg hv.1]
      exact e3 v hv.2
    · intro cls hc
      rcases List.mem_cons.1 hc with rfl | hc
      · refine ⟨0, _, rfl, fun v hv => ⟨by rw [lookupIdx_class, if_pos hv]; rfl, ?_⟩⟩
        exact tdiv2_near f l v δ (head_le hsorted v hv) (hle v hv) (hdiam l hlmem)
      · obtain ⟨k, rep, a, b⟩ := e4 cls hc
        refine ⟨k + 1, rep, a, fun v hv => ?_⟩
        have hv0 : v ∉ f :: t := fun h0 =>
          Int.lt_irrefl v (hlt v h0 v (List.mem_flatten.2 ⟨cls, hc, hv⟩))
        rw [lookupIdx_class, if_neg hv0, Nat.add_comm k 1, ← Nat.add_assoc]
        exact b v hv

theorem emit_singletons : ∀ (vals : List Int) (k : Nat),
    (∀ v ∈ vals, -2147483648 ≤ v ∧ v ≤ 2147483647) →
    emit (vals.map fun v => [v]) k = some (vals, idxFrom k vals) := by
  intro vals
  induction vals with
  | nil => intro _ _; rfl
  | cons a t ih =>
    intro k h
    have e : Int.tdiv (a + a) 2 = a := by
      rw [← Int.two_mul]; exact Int.mul_tdiv_cancel_left a (by decide)
    have hc := chk_ok a (h a List.mem_cons_self).1 (h a List.mem_cons_self).2
    simp only [List.map_cons, emit, List.head?_cons, List.getLast?_singleton, e, hc,
      ih (k + 1) (fun v hv => h v (List.mem_cons_of_mem _ hv)), idxFrom, List.map_nil,
      List.singleton_append]

theorem validSol_singletons (vals : List Int) (maxSize : Nat) (h : vals.length ≤ maxSize) :
    ValidSol vals maxSize (vals.map fun v => [v]) 0 := by
  refine ⟨by rw [← List.flatMap_def, List.flatMap_singleton'], by rw [List.length_map]; exact h,
    fun cls hc => ?_⟩
  obtain ⟨a, _, rfl⟩ := List.mem_map.1 hc
  exact ⟨a, [], rfl, fun v hv => by rw [List.mem_singleton.1 hv, Int.sub_self]; exact Int.le_refl 0⟩

theorem tol_attained (vals : List Int) (maxSize : Nat) (sol : List (List Int)) (δ : Int)
    (hs : vals.Pairwise (· ≤ ·)) (hV : ValidSol vals maxSize sol δ) (hB : Below vals maxSize δ)
    (hδ : 0 < δ) : ∃ cls ∈ sol, ∃ f ∈ cls, ∃ w ∈ cls, w - f = δ := by
  apply Classical.byContradiction
  intro hno
  obtain ⟨f1, f2, f3⟩ := hV
  -- otherwise the first members of the classes cover `vals` with the tolerance `δ - 1`
  have hcov : Covers (δ - 1) (sol.map (fun c => c.headD 0)) vals := by
    intro v hv
    obtain ⟨cls, hc, hvc⟩ := List.mem_flatten.1 (f1 ▸ hv)
    obtain ⟨f, t, rfl, hd⟩ := f3 cls hc
    have hsorted := List.Pairwise.sublist (List.sublist_flatten_of_mem hc) (f1 ▸ hs)
    have hlt : v - f < δ := Int.lt_iff_le_and_ne.2
      ⟨hd v hvc, fun e => hno ⟨_, hc, f, List.mem_cons_self, v, hvc, e⟩⟩
    exact ⟨f, List.mem_map.2 ⟨_, hc, rfl⟩, head_le hsorted v hvc,
      Int.le_add_of_sub_left_le (Int.le_sub_one_of_lt hlt)⟩
  have h1 := greedyCount_le_cover (δ - 1) vals _ hcov
  rw [List.length_map] at h1
  exact Nat.not_lt.2 (Nat.le_trans h1 f2)
    (hB (δ - 1) (Int.le_sub_one_of_lt hδ) (Int.sub_one_lt_of_le (Int.le_refl δ)))

/-- What `compress` returns for an input `values` with sorted distinct members `vals` (the clauses
speak of the input only through membership), from *any* solution `sol` whose tolerance `δ` nothing
smaller beats: the early exit (singletons, `δ = 0`) and the result of the search are the two
instances. -/
theorem sol_meets_spec (values vals : List Int) (hmem : ∀ v, v ∈ vals ↔ v ∈ values) (maxSize : Nat)
    (sol : List (List Int)) (δ : Int)
    (hsl : vals.Pairwise (· < ·)) (hb : ∀ v ∈ vals, -2147483648 ≤ v ∧ v ≤ 2147483647)
    (hV : ValidSol vals maxSize sol δ) (hB : Below vals maxSize δ) (hδ : 0 ≤ δ) :
    ∃ reps m, emit sol 1 = some (reps, m) ∧ CompressSpecAt values maxSize (0 :: reps) m δ ∧
      Attained values m δ ∧ ∀ v, v ∉ values → lookupIdx m v = none := by
  have hs : vals.Pairwise (· ≤ ·) := hsl.imp Int.le_of_lt
  have ⟨f1, f2, f3⟩ := hV
  have hsub : ∀ cls ∈ sol, ∀ x ∈ cls, x ∈ vals := fun cls hc x hx =>
    f1 ▸ List.mem_flatten.2 ⟨cls, hc, hx⟩
  obtain ⟨reps, m, e1, e2, e3, e4⟩ := emit_classes δ sol 1 (f1 ▸ hsl) (f1 ▸ hb) f3
  refine ⟨reps, m, e1, ⟨⟨rfl, by rw [List.length_cons, e2]; exact f2⟩, ?_, ?_⟩, ?_,
    fun v hv => e3 v (f1 ▸ fun hv' => hv ((hmem v).1 hv'))⟩
  · intro v hv
    obtain ⟨cls, hc, hvc⟩ := List.mem_flatten.1 (f1 ▸ (hmem v).2 hv)
    obtain ⟨k, rep, a, b⟩ := e4 cls hc
    exact ⟨1 + k, rep, (b v hvc).1, Nat.le_add_right 1 k, by rw [Nat.add_comm]; exact a, (b v hvc).2⟩
  · intro δ' C h0 h1 hC hcov
    exact Nat.not_lt.2 (Nat.le_trans (greedyCount_le_cover δ' _ C fun v hv => hcov v ((hmem v).1 hv)) hC)
      (hB δ' h0 h1)
  · by_cases hδ0 : δ = 0
    · exact .inl hδ0
    · obtain ⟨cls, hc, f, hfm, w, hw, hwf⟩ := tol_attained vals maxSize sol δ hs hV hB
        (Int.lt_iff_le_and_ne.2 ⟨hδ, Ne.symm hδ0⟩)
      obtain ⟨k, _, _, b⟩ := e4 cls hc
      exact .inr ⟨f, (hmem f).1 (hsub cls hc f hfm), w, (hmem w).1 (hsub cls hc w hw), hwf,
        by rw [(b f hfm).1, (b w hw).1]⟩

theorem compress_meets_spec_strong (values : List Int) (maxSize : Nat) (hmax : 1 ≤ maxSize)
    (hr : ∀ v ∈ values, -2147483648 ≤ v ∧ v ≤ 2147483647) :
    ∃ table m δ, compress values maxSize = .ok (table, m) ∧ 0 ≤ δ ∧
      CompressSpecAt values maxSize table m δ ∧ Attained values m δ ∧
      (∀ v, v ∉ values → lookupIdx m v = none) := by
  have hmem : ∀ v, v ∈ dedupSort values ↔ v ∈ values := fun v => mem_dedupSort v values
  have hsl := dedupSort_sorted values
  unfold compress
  generalize dedupSort values = vals at hmem hsl
  dsimp only
  have hb : ∀ v ∈ vals, -2147483648 ≤ v ∧ v ≤ 2147483647 := fun v hv => hr v ((hmem v).1 hv)
  by_cases hlen : vals.length ≤ maxSize
  · obtain ⟨reps, m, e, hspec⟩ := sol_meets_spec values vals hmem maxSize _ 0 hsl hb
      (validSol_singletons vals maxSize hlen) (fun δ' a b => absurd b (Int.not_lt.2 a)) (Int.le_refl 0)
    rw [emit_singletons vals 1 hb] at e
    cases e
    exact ⟨_, _, 0, if_pos hlen, Int.le_refl 0, hspec⟩
  · rw [if_neg hlen]
    have hs : vals.Pairwise (· ≤ ·) := hsl.imp Int.le_of_lt
    cases vals with
    | nil => exact absurd (Nat.zero_le _) hlen
    | cons first t =>
      obtain ⟨last, hl, hlmem, hle⟩ := exists_getLast hs
      have hV0 : ValidSol (first :: t) maxSize [first :: t] (last - first) :=
        ⟨List.append_nil _, hmax, fun c hc => by
          rw [List.mem_singleton.1 hc]
          exact ⟨first, t, rfl, fun v hv => Int.sub_le_sub_right (hle v hv) first⟩⟩
      obtain ⟨δ, d0, hV, hB⟩ := search_spec first t hs (last - first) maxSize 64 0
        (last - first) [first :: t] (Int.le_refl 0) (Int.sub_nonneg_of_le (head_le hs last hlmem))
        (Int.le_refl _) (fun δ' a b => absurd b (Int.not_lt.2 a)) hV0
        (by have := hb last hlmem; have := hb first List.mem_cons_self; omega)
      obtain ⟨reps, m, e, hspec⟩ := sol_meets_spec values _ hmem maxSize _ δ hsl hb hV hB d0
      exact ⟨0 :: reps, m, δ, by simp only [List.head?_cons, hl, e], d0, hspec⟩

end C17
