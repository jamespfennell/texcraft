import TexcraftModel.Lemmas.C17Compress
/-! Sweep mutant 23 (`mutants/C17/23-compress-break-late.diff`): the early `break` of the candidate
pass of `compress` taken later (`buffer.len() > max_size + 1`). The pass then answers the same
question: the same solution when there is one, "not a solution" exactly when the real pass says so,
with a `delta_upper` that is at most the real one (a minimum over more gaps). -/
namespace C17

/-- The candidate pass with the break threshold raised by `extra` intervals. -/
def passLoopL (extra : Nat) (delta : Int) (maxSize : Nat) :
    List Int → Int → Int → Int → List Int → List (List Int) → PassRes
  | [], _, dlo, dhi, cur, done =>
    if done.length + 1 ≤ maxSize then .sol (done ++ [cur]) dlo else .fail dhi
  | v :: t, start, dlo, dhi, cur, done =>
    let gap := v - start
    if gap > delta then
      let dhi' := if gap < dhi then gap else dhi
      let done' := done ++ [cur]
      if done'.length ≥ maxSize + extra then .fail dhi'
      else passLoopL extra delta maxSize t v dlo dhi' [v] done'
    else passLoopL extra delta maxSize t start (if gap > dlo then gap else dlo) dhi (cur ++ [v]) done

theorem passLoopL_zero (delta : Int) (maxSize : Nat) : ∀ (l : List Int) (start dlo dhi : Int)
    (cur : List Int) (done : List (List Int)),
    passLoopL 0 delta maxSize l start dlo dhi cur done = passLoop delta maxSize l start dlo dhi cur done := by
  intro l
  induction l with
  | nil => intro start dlo dhi cur done; rfl
  | cons v t ih =>
    intro start dlo dhi cur done
    simp only [passLoopL, passLoop, Nat.add_zero, ih]

theorem passLoopL_full (extra : Nat) (delta : Int) (maxSize : Nat) (l : List Int)
    (start dlo dhi : Int) (cur : List Int) (done : List (List Int)) (h : maxSize ≤ done.length) :
    ∃ d, passLoopL extra delta maxSize l start dlo dhi cur done = .fail d ∧ d ≤ dhi := by
  fun_induction passLoopL extra delta maxSize l start dlo dhi cur done with
  | case1 _ _ _ _ _ hlen => exact absurd (Nat.le_trans hlen h) (Nat.not_succ_le_self _)
  | case2 _ _ dhi => exact ⟨dhi, rfl, Int.le_refl _⟩
  | case3 v t start dlo dhi cur done gap hgap m => exact ⟨m, rfl, (minI_le gap dhi).2⟩
  | case4 v t start dlo dhi cur done gap hgap m done' _ ih =>
    obtain ⟨d, h1, h2⟩ := ih (by
      rw [List.length_append]; exact Nat.le_trans h (Nat.le_add_right _ _))
    exact ⟨d, h1, Int.le_trans h2 (minI_le gap dhi).2⟩
  | case5 _ _ _ _ _ _ _ _ _ ih => exact ih h

/-- `r'` answers the binary search like `r`: the same solution, or "not a solution" with a
`delta_upper` that is not larger. -/
def PassRes.Later : PassRes → PassRes → Prop
  | .sol cls d, r' => r' = .sol cls d
  | .fail d, r' => ∃ d', r' = .fail d' ∧ d' ≤ d

/-- Why mutant 23 is equivalent: the real pass is `e = 0` (`passLoopL_zero`), the mutant `e' = 2`.
The later pass's `delta_upper` is a minimum over more gaps that open an interval, so still a
tolerance below which nothing changes. -/
theorem passLoopL_mono {e e' : Nat} (he : e ≤ e') (delta : Int) (maxSize : Nat) (l : List Int)
    (start dlo dhi : Int) (cur : List Int) (done : List (List Int)) :
    (passLoopL e delta maxSize l start dlo dhi cur done).Later
      (passLoopL e' delta maxSize l start dlo dhi cur done) := by
  fun_induction passLoopL e delta maxSize l start dlo dhi cur done with
  | case1 _ _ _ _ _ hlen => exact (passLoopL.eq_1 ..).trans (if_pos hlen)
  | case2 _ _ dhi _ _ hlen => exact ⟨dhi, (passLoopL.eq_1 ..).trans (if_neg hlen), Int.le_refl _⟩
  | case3 v t start dlo dhi cur done gap hgap m done' hb =>
    rw [passLoopL]
    by_cases hx : (done ++ [cur]).length ≥ maxSize + e'
    · exact ⟨m, (if_pos hgap).trans (if_pos hx), Int.le_refl _⟩
    · -- the earlier pass has broken off; the later one goes on with `maxSize` intervals closed
      obtain ⟨d', h1, h2⟩ := passLoopL_full e' delta maxSize t v dlo m [v] (done ++ [cur])
        (Nat.le_trans (Nat.le_add_right _ _) hb)
      exact ⟨d', ((if_pos hgap).trans (if_neg hx)).trans h1, h2⟩
  | case4 v t start dlo dhi cur done gap hgap m done' hb ih =>
    rw [passLoopL, if_pos hgap,
      if_neg fun h' => hb (Nat.le_trans (Nat.add_le_add_left he _) h')]
    exact ih
  | case5 v t start dlo dhi cur done gap hgap ih =>
    rw [passLoopL, if_neg hgap]
    exact ih

end C17
