import TexcraftModel.Lemmas.C18Lex

/-! C18: `lex` on each kind of token the printer writes and on what it skips (blanks, a comment
line), followed by arbitrary text. -/
namespace C18

theorem isAlpha_range {c : Char} (h : isAlpha c = true) :
    (97 ≤ c.toNat ∧ c.toNat ≤ 122) ∨ (65 ≤ c.toNat ∧ c.toNat ≤ 90) := by
  unfold isAlpha at h
  have e1 : 'a'.toNat = 97 := rfl
  have e2 : 'z'.toNat = 122 := rfl
  have e3 : 'A'.toNat = 65 := rfl
  have e4 : 'Z'.toNat = 90 := rfl
  simp only [Bool.or_eq_true, Bool.and_eq_true, decide_eq_true_eq, e1, e2, e3, e4] at h
  exact h

theorem isWs_of_isAlpha {c : Char} (h : isAlpha c = true) : isWs c = false := by
  have := isAlpha_range h
  -- from `isWs c = true` to `False`: on a goal with `∧`, `∨` `omega` argues classically
  refine Bool.eq_false_iff.mpr fun hw => ?_
  unfold isWs at hw
  simp only [Bool.or_eq_true, Bool.and_eq_true, decide_eq_true_eq] at hw
  omega

/-- The characters that are tokens of their own or begin a comment, a string or a negative
number. -/
abbrev special : List Char := ['#', '(', ')', '[', ']', ',', '=', '"', '-']

theorem not_special_of_isAlpha {c : Char} (h : isAlpha c = true) : c ∉ special := fun hm => by
  have : ∀ d ∈ special, isAlpha d = false := by decide
  rw [this c hm] at h; cases h

theorem not_special_digitChar (d : Nat) : digitChar d ∉ special := fun hm => by
  have : ∀ c ∈ special, digitVal c = none := by decide
  exact digitChar_ne d _ (this _ hm) rfl

theorem lexStep_other {c : Char} (h : c ∉ special) (hw : isWs c = false) (r : List Char) :
    lexStep c r =
      if (digitVal c).isSome then Step.ofRes (lexNumber (c :: r) false (c :: r))
      else if isAlpha c then .tok (.kw (c :: (scanWord r).1)) (scanWord r).2
      else .err (.invalidCharacter (c :: r, r)) := by
  simp only [special, List.mem_cons, List.not_mem_nil, or_false, not_or] at h
  obtain ⟨h1, h2, h3, h4, h5, h6, h7, h8, h9⟩ := h
  unfold lexStep
  rw [if_neg h1, if_neg (by rw [hw]; simp), if_neg h2, if_neg h3, if_neg h4, if_neg h5, if_neg h6,
    if_neg h7, if_neg h8, if_neg h9]

theorem lexStep_alpha {c : Char} (h : isAlpha c = true) (r : List Char) :
    lexStep c r = .tok (.kw (c :: (scanWord r).1)) (scanWord r).2 := by
  rw [lexStep_other (not_special_of_isAlpha h) (isWs_of_isAlpha h), if_neg (by rw [digitVal_of_isAlpha h]; simp),
    if_pos h]

theorem isWs_digitChar (d : Nat) : isWs (digitChar d) = false := by
  unfold digitChar; split <;> decide

theorem lexStep_digit (d : Nat) (r : List Char) :
    lexStep (digitChar d) r = Step.ofRes (lexNumber (digitChar d :: r) false (digitChar d :: r)) := by
  rw [lexStep_other (not_special_digitChar d) (isWs_digitChar d), if_pos (digitChar_isSome d)]

theorem lex_space (s : List Char) : lex (' ' :: s) = lex s := by
  rw [lex_cons]; rfl
theorem lex_newline (s : List Char) : lex ('\n' :: s) = lex s := by
  rw [lex_cons]; rfl
theorem lex_indent : ∀ (d : Nat) (s : List Char), lex (List.replicate d ' ' ++ s) = lex s := by
  intro d
  induction d with
  | zero => intro s; rfl
  | succ d ih => intro s; simp only [List.replicate_succ, List.cons_append]; rw [lex_space, ih]

theorem lex_lparen (s : List Char) : lex ('(' :: s) = (lex s).cons .lparen := by rw [lex_cons]; rfl
theorem lex_rparen (s : List Char) : lex (')' :: s) = (lex s).cons .rparen := by rw [lex_cons]; rfl
theorem lex_lbrack (s : List Char) : lex ('[' :: s) = (lex s).cons .lbrack := by rw [lex_cons]; rfl
theorem lex_rbrack (s : List Char) : lex (']' :: s) = (lex s).cons .rbrack := by rw [lex_cons]; rfl
theorem lex_comma (s : List Char) : lex (',' :: s) = (lex s).cons .comma := by rw [lex_cons]; rfl
theorem lex_eq (s : List Char) : lex ('=' :: s) = (lex s).cons .eq := by rw [lex_cons]; rfl

theorem lex_kw (w s : List Char) (hw : isWord w = true) (hs : WordEnd s) :
    lex (w ++ s) = (lex s).cons (.kw w) := by
  cases w with
  | nil => simp [isWord] at hw
  | cons c t =>
    simp only [isWord, Bool.and_eq_true] at hw
    simp only [List.cons_append]
    rw [lex_cons, lexStep_alpha hw.1, scanWord_tail t s hw.2 hs]

theorem lex_str (raw : Char → Bool) (str : Str) (s : List Char) :
    lex (printStr raw str ++ s) = (lex s).cons (.str str) := by
  unfold printStr
  simp only [List.cons_append, List.append_assoc]
  rw [lex_cons]
  have : ∀ r, lexStep '"' r = Step.ofRes ((scanStr .norm r).map (fun p => (BTok.str p.1, p.2))) :=
    fun _ => rfl
  rw [this, List.nil_append, scanStr_escapeStr]
  rfl

theorem lexStep_minus (r : List Char) : lexStep '-' r = Step.ofRes (lexNumber ('-' :: r) true r) :=
  rfl

theorem lex_number_nonneg (n : Nat) (tail : List Char) (t : BTok) (rest : List Char)
    (h : ∀ st, lexNumber st false (natChars n ++ tail) = .ok (t, rest)) :
    lex (natChars n ++ tail) = (lex rest).cons t := by
  obtain ⟨d, ds, hd⟩ := natChars_cons n
  rw [hd] at h ⊢
  simp only [List.cons_append] at h ⊢
  rw [lex_cons, lexStep_digit, h]
  rfl

theorem lex_number_neg (txt : List Char) (t : BTok) (rest : List Char)
    (h : ∀ st, lexNumber st true txt = .ok (t, rest)) :
    lex ('-' :: txt) = (lex rest).cons t := by
  rw [lex_cons, lexStep_minus, h]
  rfl

/-- A number text is an optional `-` and digits: the step at the sign or at the first digit is
`lexNumber`, which reads the same text for either sign. -/
theorem lex_signed (s : Int) (m : Nat) (tail rest : List Char) (mk : Int → BTok)
    (h : ∀ neg st, lexNumber st neg (natChars m ++ tail) =
      .ok (mk ((if neg then -1 else 1) * (s.natAbs : Int)), rest)) :
    lex ((if s < 0 then ['-'] else []) ++ (natChars m ++ tail)) = (lex rest).cons (mk s) := by
  by_cases hneg : s < 0
  · rw [if_pos hneg, List.cons_append, List.nil_append, lex_number_neg _ _ _ (h true)]
    congr 2
    simp; omega
  · rw [if_neg hneg, List.nil_append, lex_number_nonneg _ _ _ _ (h false)]
    congr 2
    simp; omega

theorem lex_int (n : Int) (s : List Char) (hn : -2147483647 ≤ n ∧ n ≤ 2147483647) (hs : Terminated s) :
    lex (printInt n ++ s) = (lex s).cons (.int n) := by
  have e : printInt n ++ s = (if n < 0 then ['-'] else []) ++ (natChars n.natAbs ++ s) := by
    unfold printInt; split <;> rfl
  rw [e]
  exact lex_signed n _ s s .int (fun neg st => lexNumber_int st neg n.natAbs (by omega) s hs)

theorem lex_printNoUnits (H : ScaledRoundTrip) (s : Int) (u rest : List Char) (mk : Int → BTok)
    (hu : ∀ c ∈ u, isAlpha c = true) (hne : u ≠ [])
    (h : ∀ st neg, lexUnit st neg (s.natAbs / 65536) (fracDigits (s.natAbs % 65536)) (u ++ rest) =
      .ok (mk ((if neg then -1 else 1) * (s.natAbs : Int)), rest)) :
    lex (printNoUnits s ++ (u ++ rest)) = (lex rest).cons (mk s) := by
  have e : printNoUnits s ++ (u ++ rest) = (if s < 0 then ['-'] else []) ++
      (natChars (s.natAbs / 65536) ++ ('.' :: (fracDigits (s.natAbs % 65536)).map digitChar ++ (u ++ rest))) := by
    simp only [printNoUnits, List.append_assoc, List.cons_append, List.nil_append]
  rw [e]
  refine lex_signed s _ _ rest mk (fun neg st => ?_)
  rw [← List.append_assoc, ← printNoUnits_nonneg, lexNumber_scaled H st neg s.natAbs u rest hu hne]
  exact h st neg

theorem lex_dim (H : ScaledRoundTrip) (s : Int) (rest : List Char)
    (hs : -1073741823 ≤ s ∧ s ≤ 1073741823) (hr : WordEnd rest) :
    lex (printScaled s ++ rest) = (lex rest).cons (.dim s) := by
  rw [printScaled, List.append_assoc]
  exact lex_printNoUnits H s ['p', 't'] rest .dim (by decide) (by simp)
    (fun st neg => lexUnit_pt H st neg s.natAbs (by omega) rest hr)

theorem lex_inf (H : ScaledRoundTrip) (s : Int) (o : InfOrder) (rest : List Char)
    (hs : -2147483647 ≤ s ∧ s ≤ 2147483647) (hr : WordEnd rest) :
    lex (printNoUnits s ++ (o.unit ++ rest)) = (lex rest).cons (.inf s o) :=
  lex_printNoUnits H s o.unit rest (.inf · o) (by cases o <;> decide) (by cases o <;> simp [InfOrder.unit])
    (fun st neg => lexUnit_inf H st neg s.natAbs (by omega) o rest hr)

theorem dropLine_comment : ∀ (cmt s : List Char), (∀ x ∈ cmt, x ≠ '\n') →
    dropLine (cmt ++ '\n' :: s) = s := by
  intro cmt
  induction cmt with
  | nil => intro s _; simp [dropLine]
  | cons c cmt ih =>
    intro s h
    simp only [List.cons_append, dropLine, h c (by simp), if_false]
    exact ih s (fun x hx => h x (by simp [hx]))

theorem lex_comment (cmt s : List Char) (h : ∀ x ∈ cmt, x ≠ '\n') :
    lex ('#' :: (cmt ++ '\n' :: s)) = lex s := by
  rw [lex_cons]
  have : lexStep '#' (cmt ++ '\n' :: s) = .skip s := by
    unfold lexStep
    rw [if_pos rfl, dropLine_comment cmt s h]
  rw [this]

end C18
