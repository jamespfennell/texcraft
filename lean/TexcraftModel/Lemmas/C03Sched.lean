import TexcraftModel.Lemmas.C03Source

/-! C03 — the refinement for a configuration that changes between calls: one call of `Lexer::next`
against one `Spec.step` under any configuration (`next_rel`), then call after call in lock step. The
run under one configuration is a second induction over the same `next_rel`; that no call panics, runs
out of budget or hands out a key beyond the source is read off the same simulation (`Nx1`). -/
namespace C03

/-- A result after which lexing goes on. -/
def Res.goesOn {P : Type} : Res P → Bool
  | .token _ _ => true
  | .invalid _ _ => true
  | .endOfLine => true
  | _ => false

theorem Res.goesOn_ne {P : Type} {r : Res P} (h : r.goesOn = true) : r ≠ .panic ∧ r ≠ .fuel := by
  cases r <;> simp [Res.goesOn] at h ⊢

/-- One emitting call of `Lexer::next` inside a line, against one item of `Spec.scan`. -/
structure LineStep (N : Nat) (cfg : Cfg) (L : Lexer) (item : Res Nat) (more : List (Res Nat))
    (L' : Lexer) : Prop where
  more_eq : ∃ fs', L'.raw.line.length < fs' ∧ more = Spec.scan cfg fs' L'.st L'.raw.line L'.raw.key
  inv : L'.raw.Inv N
  dec : L'.mu < L.mu
  rest : L'.raw.rest = L.raw.rest
  trimmed : L'.raw.trimmed = L.raw.trimmed
  started : L'.started = L.started
  keysum : L'.raw.key + L'.raw.line.length = L.raw.key + L.raw.line.length
  keymono : L.raw.key ≤ L'.raw.key
  itemKey : ∀ p, item.pos? = some p → L.raw.key ≤ p ∧ p < L.raw.key + L.raw.line.length
  goes : item.goesOn = true

/-- One emitting call of `Lexer::next` inside a line, against `Spec.scan1`. -/
structure LineStep1 (N : Nat) (L : Lexer) (item : Res Nat) (st' : St) (l' : List Char) (k' : Nat)
    (L' : Lexer) : Prop where
  st_eq : L'.st = st'
  line_eq : L'.raw.line = l'
  key_eq : L'.raw.key = k'
  inv : L'.raw.Inv N
  dec : L'.mu < L.mu
  rest : L'.raw.rest = L.raw.rest
  trimmed : L'.raw.trimmed = L.raw.trimmed
  started : L'.started = L.started
  keysum : L'.raw.key + L'.raw.line.length = L.raw.key + L.raw.line.length
  keymono : L.raw.key ≤ L'.raw.key
  itemKey : ∀ p, item.pos? = some p → L.raw.key ≤ p ∧ p < L.raw.key + L.raw.line.length
  goes : item.goesOn = true

theorem LineStep1.toLineStep {N : Nat} {cfg : Cfg} {L : Lexer} {item : Res Nat} {st' : St}
    {l' : List Char} {k' : Nat} {L' : Lexer} (h : LineStep1 N L item st' l' k' L') :
    LineStep N cfg L item (Spec.scan cfg (l'.length + 1) st' l' k') L' :=
  ⟨⟨l'.length + 1, by rw [h.line_eq]; omega, by rw [h.st_eq, h.line_eq, h.key_eq]⟩, h.inv, h.dec,
    h.rest, h.trimmed, h.started, h.keysum, h.keymono, h.itemKey, h.goes⟩

theorem LineStep1.of_moved {N : Nat} {L : Lexer} {item : Res Nat} {st' : St} {l' : List Char}
    {base col col' p : Nat} (h : L.raw.Inv N) (hk : L.raw.key = base + col)
    (hlen : l'.length < L.raw.line.length) (hsum : col' + l'.length = col + L.raw.line.length)
    (hp : item.pos? = some p) (hlo : col ≤ p) (hhi : p < col + L.raw.line.length) :
    LineStep1 N L (item.map (base + ·)) st' l' (base + col') (L.moved st' l' (base + col')) :=
  have hsum' : base + col' + l'.length = L.raw.key + L.raw.line.length := by omega
  ⟨rfl, rfl, rfl, h.of_sum rfl hsum' rfl rfl, Lexer.mu_moved_lt hlen, rfl, rfl,
    rfl, hsum', by show L.raw.key ≤ base + col'; omega,
    fun q hq => by rw [Res.pos?_map, hp] at hq; cases hq; show _ ≤ base + p ∧ base + p < _; omega,
    by cases item <;> simp [Res.pos?] at hp <;> rfl⟩

theorem Lexer.nextF_cons {N : Nat} (cfg : Cfg) (rep : Bool) (f : Nat) {L : Lexer} {c : Char}
    {l : List Char} (h : L.raw.Inv N) (hl : L.raw.line = c :: l) :
    L.nextF cfg rep (f + 1) = match Spec.head cfg L.st c l with
      | .emit item st' l' d => (item.map fun _ => L.raw.key, L.moved st' l' (L.raw.key + d))
      | .skip l' d => Lexer.nextF cfg rep f (L.moved L.st l' (L.raw.key + d)) := by
  obtain ⟨hn, -, hinv⟩ := Raw.next_cons h hl
  unfold Spec.head Lexer.moved
  cases hc : cfg.cat c
  case escape =>
    have he := readCS_eq cfg (l.length + 1) _ hinv
    obtain ⟨name, st', t', d, -, hcs⟩ := csName_spec cfg (l.length + 1) l (Nat.lt_succ_self _)
    simp only [hcs] at he ⊢
    simp [Lexer.nextF, hn, hc, he, Res.map, Nat.add_assoc]
  case endOfLine =>
    cases hst : L.st <;> simp [Lexer.nextF, hn, hc, hst, Raw.endLine, Res.map, Nat.add_assoc]
  case space => cases hst : L.st <;> simp [Lexer.nextF, hn, hc, hst, Res.map]
  case superscript =>
    simp only [Lexer.nextF, hn, hc, Raw.caret_next hl, Raw.caret_peeked h hl]
    cases Spec.expanded c l with
    | none => simp [Res.map]
    | some x => simp
  case comment => simp [Lexer.nextF, hn, hc, Raw.endLine, Nat.add_assoc]
  all_goals simp [Lexer.nextF, hn, hc, Res.map]

/-- `Spec.scan1` counts columns from the start of the line, the lexer hands out keys: `base` is the key of
column 0. -/
theorem line_step1 {N : Nat} (cfg : Cfg) (rep : Bool) (base : Nat) : ∀ (f : Nat) (L : Lexer)
    (fs col : Nat), L.raw.Inv N → L.mu < f → L.raw.line.length < fs → L.raw.key = base + col →
    match Spec.scan1 cfg fs L.st L.raw.line col with
    | some (item, st', l', col') =>
      L.nextF cfg rep f = (item.map (base + ·), L.moved st' l' (base + col'))
    | none => ∃ f', L.endLine.mu < f' ∧ L.nextF cfg rep f = L.endLine.nextF cfg rep f' := by
  intro f
  induction f with
  | zero => intros; omega
  | succ f ih =>
    intro L fs col h hf hfs hk
    obtain ⟨fs, rfl⟩ : ∃ g, fs = g + 1 := ⟨fs - 1, by omega⟩
    cases hl : L.raw.line with
    | nil => exact ⟨f + 1, by rwa [Lexer.endLine_of_nil hl], by rw [Lexer.endLine_of_nil hl]⟩
    | cons c l =>
      have hlen : L.raw.line.length = l.length + 1 := by rw [hl]; rfl
      rw [Lexer.nextF_cons cfg rep f h hl, scan1_cons cfg fs _ c l _ (by omega)]
      have hs := head_spec cfg L.st c l
      generalize Spec.head cfg L.st c l = a at hs ⊢
      cases a with
      | emit item st' l' d =>
        show (_, _) = (_, _)
        rw [hk, Nat.add_assoc]
        congr 1
        cases item <;> rfl
      | skip l' d =>
        have hsum : L.raw.key + d + l'.length = L.raw.key + L.raw.line.length := by omega
        have := ih (L.moved L.st l' (L.raw.key + d)) fs (col + d) (h.of_sum rfl hsum rfl rfl)
          (Nat.lt_of_lt_of_le (Lexer.mu_moved_lt (by omega)) (Nat.le_of_lt_succ hf)) (show l'.length < fs by omega)
          (show L.raw.key + d = base + (col + d) by omega)
        rwa [Lexer.moved_endLine hsum] at this

/-- The lexer `L` and the specification state `s` are at the same point: inside the same line, or both
at the end of the line last read (`done` counts it). -/
inductive Rel (src : List Char) (rep : Bool) (L : Lexer) (s : Spec.SState) : Prop
  | inLine (done : List (List Char)) (nl : Bool) (hA : StA src rep L done s.text nl)
      (hn : s.n = done.length + 1) (hst : L.st = s.st) (hbuf : L.raw.line = s.buf)
      (hkey : L.raw.key = (joined done).length + s.col)
      (hrest : s.rest = Spec.splitLines L.raw.rest)
  | between (done : List (List Char)) (hB : StB src rep L done) (hn : s.n = done.length)
      (hbuf : s.buf = []) (hrest : s.rest = Spec.splitLines L.raw.rest)

/-- `b` is the `started` flag the call goes on with: `Lexer::next` sets it in one branch and leaves it as it
is in the others. -/
theorem StB.startNewLine {src : List Char} {rep : Bool} {L : Lexer} {done : List (List Char)}
    (cfg : Cfg) (hB : StB src rep L done) (hr : L.raw.rest ≠ []) :
    ∃ ln raw1, L.raw.startNewLine cfg = (true, raw1) ∧
      Spec.splitLines L.raw.rest = ln :: Spec.splitLines raw1.rest ∧
      ∀ b : Bool, (rep = true → b = true) →
        Rel src rep ⟨raw1, .newLine, b⟩
          ⟨done.length + 1, ln, .newLine, Spec.buffer cfg ln, 0, Spec.splitLines raw1.rest⟩ ∧
        (Lexer.mk raw1 .newLine b).mu < L.mu := by
  obtain ⟨ln, rest', nl, tr, hs, hdec, hnl, hln, lo, hi, hsplit⟩ := startNewLine_eq cfg L.raw hr
  obtain ⟨hsrc, hkey⟩ := hB.body.resolve_left hr
  obtain ⟨hinv1, hmu1⟩ := Raw.startNewLine_spec hB.inv hr hs
  have hl0 : L.raw.line.length = 0 := by rw [hB.line_nil]; rfl
  refine ⟨ln, _, hs, hsplit, fun b hb => ⟨.inLine done nl ?_ rfl rfl rfl (by dsimp only; omega) rfl, ?_⟩⟩
  · refine ⟨by rw [hsrc, hdec], hnl, hB.done_ok, hln, ?_, ?_, ?_, hb, hinv1⟩
    · dsimp only; omega
    · dsimp only; omega
    · rintro rfl; simp only [Bool.toNat_true] at lo; dsimp only; omega
  · simp only [Lexer.mu, hl0] at hmu1 ⊢; omega

/-- One call of `Lexer::next` against one `Spec.step`. -/
structure Nx1 (src : List Char) (rep : Bool) (L : Lexer) (p : Res Nat × Lexer)
    (q : Res Pos × Spec.SState) : Prop where
  item_eq : q.1 = p.1.map (trace src)
  noPanic : p.1 ≠ .panic
  noFuel : p.1 ≠ .fuel
  key : ∀ k, p.1.pos? = some k → k ≤ src.length
  rel : p.1.goesOn = true → Rel src rep p.2 q.2
  dec : p.1.goesOn = true → p.2.mu < L.mu

theorem Nx1.mono {src rep L0 L p q} (h : Nx1 src rep L p q)
    (hm : L.mu ≤ L0.mu) : Nx1 src rep L0 p q :=
  ⟨h.item_eq, h.noPanic, h.noFuel, h.key, h.rel, fun g => Nat.lt_of_lt_of_le (h.dec g) hm⟩

/-- What `nextF_rel` proves, for lexers with `mu` below `m`; the induction is on `m`: loading a line lowers
`mu`, reaching the end of a line does not raise it. -/
def NextRel (src : List Char) (cfg : Cfg) (rep : Bool) (m : Nat) : Prop :=
  ∀ (L : Lexer) (s : Spec.SState) (f : Nat), Rel src rep L s → L.mu < m → L.mu < f →
    Nx1 src rep L (L.nextF cfg rep f) (s.step cfg rep)

/-- `StB.startNewLine` puts lexer and specification at the start of the same line; the rest of the call is a
call inside that line, which `ih` covers because loading has lowered `mu`. -/
theorem nx_between {src : List Char} {cfg : Cfg} {rep : Bool} {L : Lexer} (ih : NextRel src cfg rep L.mu)
    {s : Spec.SState} (done : List (List Char)) (hB : StB src rep L done)
    (hn : s.n = done.length) (hbuf : Spec.scan1 cfg (s.buf.length + 1) s.st s.buf s.col = none)
    (hrest : s.rest = Spec.splitLines L.raw.rest) {f : Nat} (hf : L.mu < f) :
    Nx1 src rep L (L.nextF cfg rep f) (s.step cfg rep) := by
  obtain ⟨f, rfl⟩ : ∃ g, f = g + 1 := ⟨f - 1, by omega⟩
  have hnx : L.raw.next = .eol := Raw.next_nil hB.line_nil
  simp only [Lexer.nextF, hnx, Spec.SState.step, step_of_none hbuf, hrest, hn]
  cases hr : L.raw.rest with
  | nil =>
    simp only [Raw.startNewLine, hr, Spec.splitLines, Spec.splitLinesAux, if_true, Bool.not_false]
    exact ⟨rfl, by simp, by simp, (fun _ h => nomatch h), by simp [Res.goesOn], by simp [Res.goesOn]⟩
  | cons c t =>
    obtain ⟨ln, raw1, hs', hsplit, hnew⟩ := hB.startNewLine cfg (by rw [hr]; exact List.cons_ne_nil c t)
    rw [← hr, hs', hsplit]
    have go : ∀ b : Bool, (rep = true → b = true) →
        Nx1 src rep L (Lexer.nextF cfg rep f ⟨raw1, .newLine, b⟩)
          (Spec.step cfg rep (Spec.splitLines raw1.rest) (done.length + 1) ln .newLine (Spec.buffer cfg ln) 0) :=
      fun b hb => by
        obtain ⟨hrel, hmu⟩ := hnew b hb
        exact (ih _ _ f hrel hmu (by omega)).mono (Nat.le_of_lt hmu)
    simp only [Bool.not_true, Bool.false_eq_true, if_false]
    cases rep with
    | false =>
      simp only [Bool.false_eq_true, if_false, false_and]
      exact go L.started (by intro h; cases h)
    | true =>
      simp only [if_true, true_and]
      -- the model reports the end of a line once a first line has been started, the specification from
      -- the second line on
      have hst : L.started = true ↔ 0 < done.length := (hB.started rfl).trans List.length_pos_iff.symm
      cases hstarted : L.started with
      | true =>
        simp only [if_true, hst.1 hstarted]
        exact ⟨rfl, by simp, by simp, (fun _ h => nomatch h), fun _ => (hnew true fun _ => rfl).1,
          fun _ => (hnew true fun _ => rfl).2⟩
      | false =>
        have hd : ¬ 0 < done.length := fun h => by rw [hst.2 h] at hstarted; cases hstarted
        simp only [Bool.false_eq_true, if_false, hd]
        exact go true (fun _ => rfl)

/-- Inside a line `line_step1` decides: at the silent end of the line the lexer is between lines
(`StA.endLine`) and `nx_between` takes over; after an item both have moved to the same resumption
point (`StA.moved`) and the key traces to the item's column (`StA.key_pos`). -/
theorem nextF_rel {src : List Char} {cfg : Cfg} {rep : Bool} : ∀ m : Nat, NextRel src cfg rep m := by
  intro m
  induction m using Nat.strongRecOn with
  | ind m ih =>
  intro L s f hrel hm hf
  cases hrel with
  | between done hB hn hbuf hrest => exact nx_between (ih _ hm) done hB hn (by rw [hbuf]; rfl) hrest hf
  | inLine done nl hA hn hst hbuf hkey hrest =>
  have hstep := line_step1 cfg rep _ f L (s.buf.length + 1) s.col hA.inv hf (by rw [hbuf]; omega) hkey
  rw [hst, hbuf] at hstep
  cases h : Spec.scan1 cfg (s.buf.length + 1) s.st s.buf s.col with
  | none =>
    rw [h] at hstep
    obtain ⟨f', hmu', hnx⟩ := hstep
    have hmu := L.mu_endLine_le
    rw [hnx]
    exact (nx_between (ih _ (by omega)) (done ++ [s.text]) hA.endLine (by simp [hn]) h hrest hmu').mono hmu
  | some x =>
    obtain ⟨item0, st0, l0, c0⟩ := x
    simp only [h] at hstep
    obtain ⟨hlen, hsum, p, hp, hlo, hhi⟩ := scan1_spec cfg _ s.st s.buf s.col (Nat.lt_succ_self _) h
    rw [← hbuf] at hlen hsum hhi
    have stp := LineStep1.of_moved (st' := st0) hA.inv hkey hlen hsum hp hlo hhi
    obtain ⟨htr, hle⟩ := hA.key_pos (c := p) (by rw [hkey]; omega)
    rw [hstep, Spec.SState.step, step_of_some h]
    refine ⟨?_, (Res.goesOn_ne stp.goes).1, (Res.goesOn_ne stp.goes).2, ?_, fun _ => ?_, fun _ => stp.dec⟩
    · cases item0 <;> cases hp <;> simp only [Res.map, htr, hn]
    · intro k hk; rw [Res.pos?_map, hp] at hk; cases hk; exact hle
    · exact .inLine done nl (hA.moved _ (Nat.le_of_lt hlen) stp.keysum) hn rfl rfl rfl hrest

theorem next_rel {src : List Char} (cfg : Cfg) {rep : Bool} {L : Lexer} {s : Spec.SState}
    (h : Rel src rep L s) :
    Nx1 src rep L (L.next cfg rep) (s.step cfg rep) :=
  nextF_rel (L.mu + 1) L s _ h (Nat.lt_succ_self _) (Nat.lt_succ_self _)

theorem Rel.init (src : List Char) (rep : Bool) :
    Rel src rep (Lexer.init src) (Spec.SState.init src) :=
  .between [] ⟨rfl, Or.inr ⟨by simp [joined, Lexer.init], by simp [joined, Lexer.init]⟩,
    by simp, by intro _; simp [Lexer.init], Raw.Inv.init src⟩ rfl rfl rfl

def RunOk {P : Type} (good : Res P → Prop) (l : List (Res P)) : Prop :=
  (∀ r ∈ l, r ≠ .panic ∧ r ≠ .fuel ∧ good r) ∧ l.getLast? = some .endOfInput

theorem RunOk.cons {P : Type} {good : Res P → Prop} {r : Res P} {l : List (Res P)}
    (hr : r ≠ .panic ∧ r ≠ .fuel ∧ good r) (h : RunOk good l) : RunOk good (r :: l) := by
  exact ⟨List.forall_mem_cons.2 ⟨hr, h.1⟩, by rw [List.getLast?_cons, h.2]; rfl⟩

theorem RunOk.total {P : Type} {good : Res P → Prop} {l : List (Res P)} (h : RunOk good l) :
    Res.panic ∉ l ∧ Res.fuel ∉ l ∧ l.getLast? = some .endOfInput :=
  ⟨fun hm => (h.1 _ hm).1 rfl, fun hm => (h.1 _ hm).2.1 rfl, h.2⟩

theorem lexAllFSched_run {src : List Char} (sched : List (Res Pos) → Cfg) {rep : Bool} : ∀ (F : Nat)
    (hist : List (Res Pos)) (L : Lexer) (s : Spec.SState), Rel src rep L s → L.mu + 1 < F →
    lexAllFSched sched rep src F hist L = Spec.runSched sched rep F hist s ∧
      RunOk (fun _ => True) (lexAllFSched sched rep src F hist L) := by
  intro F
  induction F with
  | zero => intro hist L s _ hf; omega
  | succ F ih =>
    intro hist L s hrel hf
    have ok := next_rel (sched hist) hrel
    simp only [lexAllFSched, Spec.runSched]
    generalize L.next (sched hist) rep = p at ok
    generalize Spec.SState.step (sched hist) rep s = q at ok
    obtain ⟨res, L'⟩ := p
    obtain ⟨item, s'⟩ := q
    obtain rfl : item = res.map (trace src) := ok.item_eq
    have tail := fun g => ih (hist ++ [res.map (trace src)]) L' s' (ok.rel g) (by have : L'.mu < L.mu := ok.dec g; omega)
    cases res
    case endOfInput => exact ⟨rfl, by simp, by simp⟩
    case panic => exact absurd rfl ok.noPanic
    case fuel => exact absurd rfl ok.noFuel
    all_goals
      obtain ⟨e, r⟩ := tail rfl
      exact ⟨congrArg (_ :: ·) e, .cons ⟨by simp [Res.map], by simp [Res.map], trivial⟩ r⟩

theorem lexTracedSched_run (sched : List (Res Pos) → Cfg) (rep : Bool) (src : List Char) :
    lexTracedSched sched rep src = Spec.specSched sched rep src ∧
      RunOk (fun _ => True) (lexTracedSched sched rep src) :=
  lexAllFSched_run sched _ _ _ _ (Rel.init src rep) (by rw [Lexer.mu_init]; omega)

theorem lexAllFSched_const (cfg : Cfg) (rep : Bool) (src : List Char) : ∀ (F : Nat)
    (hist : List (Res Pos)) (L : Lexer),
    lexAllFSched (fun _ => cfg) rep src F hist L = (lexAllF cfg rep F L).map (Res.map (trace src)) := by
  intro F
  induction F with
  | zero => intros; rfl
  | succ F ih =>
    intro hist L
    simp only [lexAllFSched, lexAllF]
    generalize L.next cfg rep = p
    obtain ⟨res, L'⟩ := p
    cases res <;> simp [Res.map, ih]

theorem lexAllF_run {src : List Char} {cfg : Cfg} {rep : Bool} : ∀ (F : Nat) (L : Lexer)
    (s : Spec.SState), Rel src rep L s → L.mu + 1 < F →
    (lexAllF cfg rep F L).map (Res.map (trace src)) = s.out cfg rep ∧
      RunOk (fun r => ∀ k, r.pos? = some k → k ≤ src.length) (lexAllF cfg rep F L) := by
  intro F
  induction F with
  | zero => intro L s _ hf; omega
  | succ F ih =>
    intro L s hrel hf
    have ok := next_rel cfg hrel
    rw [out_step]
    simp only [lexAllF]
    generalize L.next cfg rep = p at ok
    generalize Spec.SState.step cfg rep s = q at ok
    obtain ⟨res, L'⟩ := p
    obtain ⟨item, s'⟩ := q
    obtain rfl : item = res.map (trace src) := ok.item_eq
    have tail := fun g => ih L' s' (ok.rel g) (by have : L'.mu < L.mu := ok.dec g; omega)
    cases res
    case endOfInput => exact ⟨rfl, by simp [Res.pos?], by simp⟩
    case panic => exact absurd rfl ok.noPanic
    case fuel => exact absurd rfl ok.noFuel
    all_goals
      obtain ⟨e, r⟩ := tail rfl
      exact ⟨congrArg (_ :: ·) e, .cons ⟨by simp, by simp, ok.key⟩ r⟩

theorem lexAll_run (cfg : Cfg) (rep : Bool) (src : List Char) :
    lexTraced cfg rep src = Spec.specAll cfg rep src ∧
      RunOk (fun r => ∀ k, r.pos? = some k → k ≤ src.length) (lexAll cfg rep src) :=
  lexAllF_run _ _ _ (Rel.init src rep) (by omega)

end C03
