import TexcraftModel.Lemmas.C14

/-! Word discovery. `seek`, `gather` and `terminatorOk` are said with `takeWhile skippable`, `longestAdmissible` and
`forbids` (`seek_spec`, `gather_eq`, `terminatorOk_spec`); one round of `scan` and the clause `specAt` of its glue node
are then the same function of `search` (`scan_succ`, `specAt_cons`), and `scan` is `specFrom`: one declarative clause
per glue node (`scan_eq_specFrom`). -/
namespace C14

theorem classify_eq (x : Item) :
    classify x = if skippable x then .cont else match startFont x with | some f => .start f | none => .abort := by
  cases x with
  | char c f => cases h : isLetter c <;> simp [classify, skippable, startFont, h]
  | lig c f o lb rb =>
    cases o with
    | nil => rfl
    | cons a o => cases h : isLetter a <;> simp [classify, skippable, startFont, h]
  | kern k w => by_cases h : k = 0 <;> simp [classify, skippable, startFont, h]
  | other k p => cases k <;> rfl
  | disc a b c => rfl

theorem seek_spec (xs : List Item) (n : Nat) :
    seek false xs n = (n + (xs.takeWhile skippable).length, (xs.dropWhile skippable).head? >>= startFont) := by
  induction xs generalizing n with
  | nil => simp [seek]
  | cons x xs ih =>
    simp only [seek, classify_eq, List.takeWhile_cons, List.dropWhile_cons]
    cases skippable x with
    | true => simp [ih]; omega
    | false => cases h : startFont x <;> simp [h]

theorem not_glue_of_skippable {x : Item} (h : skippable x = true) : x.isGlue = false := by
  cases x with
  | other k p => cases k <;> simp_all [skippable, Item.isGlue]
  | _ => rfl

theorem not_glue_of_wordNode {f : Nat} {x : Item} (h : wordNode f x = true) : x.isGlue = false := by
  cases x with
  | other k p => simp [wordNode] at h
  | _ => rfl

theorem terminatorOk_spec (l : List Item) :
    terminatorOk l = !(((l.dropWhile charLigKern).head?.map forbids).getD false) := by
  induction l with
  | nil => rfl
  | cons x xs ih =>
    cases x with
    | char c f =>
      have h : charLigKern (.char c f) = true := rfl
      simp [terminatorOk, h, ih]
    | lig c f o lb rb =>
      have h : charLigKern (.lig c f o lb rb) = true := rfl
      simp [terminatorOk, h, ih]
    | kern k w =>
      by_cases hk : k = 0
      · simp [terminatorOk, charLigKern, hk, ih]
      · simp [terminatorOk, charLigKern, hk, forbids]
    | other k p => cases k <;> simp [terminatorOk, charLigKern, forbids]
    | disc a b c => simp [terminatorOk, charLigKern, forbids]

/-- Admissibility with `s` letters already collected. -/
def adm (f s : Nat) (p : List Item) : Bool := p.all (wordNode f) && decide (s + (lettersL p).length ≤ 63)

theorem adm_nil (f s : Nat) : adm f s [] = decide (s ≤ 63) := by simp [adm, lettersL]

theorem adm_cons (f s : Nat) (x : Item) (p : List Item) :
    adm f s (x :: p) = (wordNode f x && adm f (s + (lettersI x).length) p) := by
  simp only [adm, List.all_cons, lettersL, List.map_cons, List.flatten_cons, List.length_append,
    Bool.and_assoc, Nat.add_assoc]

theorem admissible_eq (f : Nat) (p : List Item) : admissible f p = adm f 0 p := by simp [admissible, adm]

theorem adm_of_lt {f s : Nat} (p : List Item) (h : 63 < s) : adm f s p = false := by
  simp only [adm, Bool.and_eq_false_iff, decide_eq_false_iff_not]
  right; omega

theorem gather_cons (f : Nat) (x : Item) (xs : List Item) (s : List Nat) (n : Nat) (hs : s.length ≤ 63) :
    gather f (x :: xs) s n =
      if wordNode f x && decide (s.length + (lettersI x).length ≤ 63) then gather f xs (s ++ lettersI x) (n + 1)
      else (s, n) := by
  cases x with
  | char c g =>
    by_cases hg : g = f
    · by_cases hl : isLetter c = true
      · by_cases hcap : s.length + 1 ≤ 63
        · have h64 : ¬ s.length + 1 ≥ 64 := by omega
          simp [gather, wordNode, lettersI, hg, hl, hcap, h64]
        · have h64 : s.length + 1 ≥ 64 := by omega
          simp [gather, wordNode, lettersI, hg, hl, hcap, h64]
      · simp [gather, wordNode, hg, hl]
    · simp [gather, wordNode, hg]
  | lig c g orig lb rb =>
    by_cases hg : g = f
    · by_cases hl : orig.all isLetter = true
      · by_cases hcap : s.length + orig.length ≤ 63
        · have h64 : ¬ s.length + orig.length ≥ 64 := by omega
          simp [gather, wordNode, lettersI, hg, hl, hcap, h64]
        · have h64 : s.length + orig.length ≥ 64 := by omega
          simp [gather, wordNode, lettersI, hg, hl, hcap, h64]
      · simp [gather, wordNode, hg, hl]
    · simp [gather, wordNode, hg]
  | kern k w =>
    by_cases hk : k = 0
    · simp [gather, wordNode, lettersI, hk, hs]
    · simp [gather, wordNode, hk]
  | other k p => rfl
  | disc a b c => rfl

theorem gather_spec (f : Nat) :
    ∀ (xs : List Item) (s : List Nat) (n0 : Nat), s.length ≤ 63 →
      ∃ m, m ≤ xs.length ∧ gather f xs s n0 = (s ++ lettersL (xs.take m), n0 + m) ∧
        adm f s.length (xs.take m) = true ∧
        ∀ m', m < m' → m' ≤ xs.length → adm f s.length (xs.take m') = false := by
  intro xs
  induction xs with
  | nil =>
    intro s n0 hs
    exact ⟨0, Nat.le_refl _, by rw [gather, List.take_nil, lettersL_nil, List.append_nil]; rfl,
      by rw [List.take_nil, adm_nil]; exact decide_eq_true hs, fun m' h1 h2 => absurd (Nat.lt_of_lt_of_le h1 h2) (Nat.lt_irrefl 0)⟩
  | cons x xs ih =>
    intro s n0 hs
    rw [gather_cons f x xs s n0 hs]
    split
    · -- `x` is taken: one more than what `gather` takes of `xs`
      rename_i hc
      simp only [Bool.and_eq_true, decide_eq_true_eq] at hc
      obtain ⟨m, hm, hgm, hadm, hmax⟩ := ih (s ++ lettersI x) (n0 + 1) (by rw [List.length_append]; exact hc.2)
      rw [List.length_append] at hadm hmax
      refine ⟨m + 1, Nat.succ_le_succ hm, ?_, ?_, ?_⟩
      · rw [hgm, List.take_succ_cons, lettersL_cons, List.append_assoc, Nat.add_assoc, Nat.add_comm 1 m]
      · rw [List.take_succ_cons, adm_cons, hc.1, Bool.true_and]; exact hadm
      · intro m' h1 h2
        cases m' with
        | zero => exact absurd h1 (Nat.not_lt_zero _)
        | succ k =>
          rw [List.take_succ_cons, adm_cons, hc.1, Bool.true_and]
          exact hmax k (Nat.lt_of_succ_lt_succ h1) (Nat.le_of_succ_le_succ h2)
    · -- `x` stops the word: no admissible prefix contains it
      rename_i hc
      refine ⟨0, Nat.zero_le _, by rw [List.take_zero, lettersL_nil, List.append_nil]; rfl,
        by rw [List.take_zero, adm_nil]; exact decide_eq_true hs, ?_⟩
      intro m' h1 _
      cases m' with
      | zero => exact absurd h1 (Nat.lt_irrefl 0)
      | succ k =>
        rw [List.take_succ_cons, adm_cons]
        cases hw : wordNode f x with
        | false => rfl
        | true =>
          simp only [hw, Bool.true_and, decide_eq_true_eq] at hc
          exact adm_of_lt _ (Nat.not_le.mp hc)

theorem longestAdmissible_eq {f : Nat} {l : List Item} {m : Nat} (hm : m ≤ l.length)
    (hadm : adm f 0 (l.take m) = true)
    (hmax : ∀ m', m < m' → m' ≤ l.length → adm f 0 (l.take m') = false) :
    longestAdmissible f l = m := by
  have h : ((List.range (l.length + 1)).filter (fun n => admissible f (l.take n))).max? = some m := by
    rw [List.max?_eq_some_iff]
    simp only [List.mem_filter, List.mem_range, admissible_eq]
    refine ⟨⟨by omega, hadm⟩, fun k hk => ?_⟩
    by_cases hkm : k ≤ m
    · exact hkm
    · have := hmax k (by omega) (by omega)
      simp [this] at hk
  rw [longestAdmissible, List.foldl_max, h]
  exact Nat.max_eq_right (Nat.zero_le m)

theorem gather_eq (f : Nat) (rest : List Item) :
    gather f rest [] 0 = (lettersL (rest.take (longestAdmissible f rest)), longestAdmissible f rest) ∧
      longestAdmissible f rest ≤ rest.length ∧
      (rest.take (longestAdmissible f rest)).all (wordNode f) = true := by
  obtain ⟨m, hm, hg, hadm, hmax⟩ := gather_spec f rest [] 0 (by simp)
  have := longestAdmissible_eq hm (by simpa using hadm) (by simpa using hmax)
  rw [this]
  refine ⟨by simpa using hg, hm, ?_⟩
  simp only [adm, Bool.and_eq_true] at hadm
  exact hadm.1

/-- What the search started by a glue node followed by `xs` finds: the number of nodes it steps over and, if a word
starts there, its font, letters and number of nodes. The loops `scan`, `hyphListG` and `expectedG` all branch on this. -/
def search (xs : List Item) : Nat × Option (Nat × List Nat × Nat) :=
  ((seek false xs 0).1,
    match (seek false xs 0).2 with
    | none => none
    | some f =>
      let g := gather f (xs.drop (seek false xs 0).1) [] 0
      if g.1.isEmpty then none
      else if !terminatorOk ((xs.drop (seek false xs 0).1).drop g.2) then none
      else some (f, g.1, g.2))

theorem scan_succ (fuel i : Nat) (x : Item) (xs : List Item) :
    scan false (fuel + 1) i (x :: xs) =
      if !x.isGlue then scan false fuel (i + 1) xs
      else
        match search xs with
        | (k, none) => scan false fuel (i + 1 + k) (xs.drop k)
        | (k, some (f, s, n)) => ⟨i + 1 + k, n, f, s⟩ :: scan false fuel (i + 1 + k + n) ((xs.drop k).drop n) := by
  simp only [scan, search]
  generalize scan false fuel = F
  generalize seek false xs 0 = r
  cases x.isGlue with
  | false => rfl
  | true =>
    cases r.2 with
    | none => rfl
    | some f =>
      simp only
      generalize gather f (xs.drop r.1) [] 0 = g
      cases g.1.isEmpty with
      | true => rfl
      | false => cases terminatorOk ((xs.drop r.1).drop g.2) <;> rfl

theorem search_some {xs : List Item} {k f n : Nat} {s : List Nat} (h : search xs = (k, some (f, s, n))) :
    s = lettersL ((xs.drop k).take n) ∧ n ≤ (xs.drop k).length ∧ ((xs.drop k).take n).all (wordNode f) = true := by
  obtain ⟨rfl, hw⟩ := Prod.mk.inj h
  split at hw
  · cases hw
  · rename_i f' _
    obtain ⟨hg, hn, hall⟩ := gather_eq f' (xs.drop (seek false xs 0).1)
    rw [hg] at hw
    simp only at hw
    split at hw
    · cases hw
    · split at hw
      · cases hw
      · cases hw; exact ⟨rfl, hn, hall⟩

/-- The specification restricted to the glue nodes from index `i` on (`suf` = the list from there). -/
def specFrom (i : Nat) (suf : List Item) : List Word :=
  (List.range suf.length).filterMap (fun d => specAt (i + d) (suf.drop d))

theorem specFrom_nil (i : Nat) : specFrom i [] = [] := rfl

theorem specWords_eq (l : List Item) : specWords l = specFrom 0 l := by simp [specWords, specFrom]

theorem specFrom_cons (i : Nat) (x : Item) (xs : List Item) :
    specFrom i (x :: xs) = (specAt i (x :: xs)).toList ++ specFrom (i + 1) xs := by
  simp only [specFrom, List.length_cons, List.range_succ_eq_map, List.filterMap_cons, List.filterMap_map]
  have : ((fun d => specAt (i + d) (List.drop d (x :: xs))) ∘ Nat.succ) = (fun d => specAt (i + 1 + d) (List.drop d xs)) := by
    funext d
    simp only [Function.comp, Nat.succ_eq_add_one, List.drop_succ_cons]
    congr 1; omega
  rw [this, Nat.add_zero, List.drop_zero]
  cases specAt i (x :: xs) <;> rfl

theorem specAt_not_glue (i : Nat) (x : Item) (xs : List Item) (h : x.isGlue = false) :
    specAt i (x :: xs) = none := by simp [specAt, h]

theorem specFrom_skip (k : Nat) : ∀ (i : Nat) (xs : List Item),
    (∀ x ∈ xs.take k, x.isGlue = false) → specFrom i xs = specFrom (i + k) (xs.drop k) := by
  induction k with
  | zero => intro i xs _; simp
  | succ k ih =>
    intro i xs hall
    cases xs with
    | nil => rw [List.drop_nil, specFrom_nil, specFrom_nil]
    | cons x xs =>
      rw [List.take_succ_cons] at hall
      rw [specFrom_cons, specAt_not_glue i x xs (hall x List.mem_cons_self), List.drop_succ_cons]
      simp only [Option.toList_none, List.nil_append]
      rw [ih (i + 1) xs (fun y hy => hall y (List.mem_cons_of_mem _ hy))]
      congr 1; omega

theorem takeWhile_drop (p : Item → Bool) (xs : List Item) :
    xs.drop (xs.takeWhile p).length = xs.dropWhile p ∧ xs.take (xs.takeWhile p).length = xs.takeWhile p := by
  induction xs with
  | nil => simp
  | cons x xs ih =>
    cases h : p x <;> simp [h, ih]

theorem specAt_cons (i : Nat) (x : Item) (xs : List Item) :
    specAt i (x :: xs) =
      if !x.isGlue then none else (search xs).2.map (fun q => ⟨i + 1 + (search xs).1, q.2.2, q.1, q.2.1⟩) := by
  simp only [specAt, search, seek_spec, Nat.zero_add, (takeWhile_drop skippable xs).1]
  generalize xs.dropWhile skippable = rest
  cases x.isGlue with
  | false => rfl
  | true =>
    cases rest.head? >>= startFont with
    | none => rfl
    | some f =>
      simp only [(gather_eq f rest).1, terminatorOk_spec, Bool.not_not]
      cases (lettersL (rest.take (longestAdmissible f rest))).isEmpty with
      | true => rfl
      | false =>
        cases (((rest.drop (longestAdmissible f rest)).dropWhile charLigKern).head?.map forbids).getD false <;> rfl

theorem length_drop_lt {α : Type} {xs : List α} {fuel : Nat} (h : xs.length < fuel) (k : Nat) :
    (xs.drop k).length < fuel :=
  Nat.lt_of_le_of_lt (by rw [List.length_drop]; exact Nat.sub_le _ _) h

/-- The nodes the search after a glue steps over are skippable, so none is a glue: their clauses of the
specification are empty. -/
theorem specFrom_seek (i : Nat) {xs : List Item} {k : Nat} {o : Option (Nat × List Nat × Nat)}
    (h : search xs = (k, o)) : specFrom i xs = specFrom (i + k) (xs.drop k) := by
  obtain rfl : (xs.takeWhile skippable).length = k := by
    rw [← (Prod.mk.inj h).1, seek_spec, Nat.zero_add]
  refine specFrom_skip _ i xs fun x hx => not_glue_of_skippable ?_
  rw [(takeWhile_drop skippable xs).2] at hx
  exact List.all_eq_true.mp List.all_takeWhile x hx

/-- The loop of the fixed code finds exactly the word of every glue node. -/
theorem scan_eq_specFrom : ∀ (fuel i : Nat) (suf : List Item), suf.length < fuel →
    scan false fuel i suf = specFrom i suf := by
  intro fuel
  induction fuel with
  | zero => intro i suf h; omega
  | succ fuel ih =>
    intro i suf hlen
    cases suf with
    | nil => rfl
    | cons x xs =>
      have hxs : xs.length < fuel := Nat.lt_of_succ_lt_succ hlen
      rw [specFrom_cons, scan_succ, specAt_cons]
      cases hg : x.isGlue with
      | false => exact ih (i + 1) xs hxs
      | true =>
        simp only [Bool.not_true, Bool.false_eq_true, if_false]
        cases hw : search xs with
        | mk k o =>
          rw [specFrom_seek (i + 1) hw]
          cases o with
          | none => exact ih _ _ (length_drop_lt hxs k)
          | some q =>
            -- none of the `n` word nodes is a glue either: `scan` resumes after them, the specification has no clause for them
            obtain ⟨f, s, n⟩ := q
            obtain ⟨-, -, hall⟩ := search_some hw
            rw [specFrom_skip n _ _ (fun x hx => not_glue_of_wordNode (List.all_eq_true.mp hall x hx))]
            exact congrArg _ (ih _ _ (length_drop_lt (length_drop_lt hxs k) n))

end C14
