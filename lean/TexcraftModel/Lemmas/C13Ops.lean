import TexcraftModel.Model.C13

/-! C13: the op stream. One stream run against the score vector raises it, position by position, to
the digits it decodes to (`applyOps_spec`). For `scan`, `written` is what it has passed in each
state; inductions over the loop bound its length for every pattern (`scan_bound`) and give it
exactly for a well-formed one (`scan_sem`); the terminator is dealt with in `written_finish`.
`patOps_stream` holds what the other files use of a pattern's stream. -/
namespace C13

/-- What `ds` at `pos` says about position `i`. -/
def digitAt (ds : List Nat) (pos i : Nat) : Nat := if pos ≤ i then ds.getD (i - pos) 0 else 0

theorem digitAt_nil (pos i : Nat) : digitAt [] pos i = 0 := by simp [digitAt]

theorem digitAt_zero (ds : List Nat) (i : Nat) : digitAt ds 0 i = ds.getD i 0 := by simp [digitAt]

theorem digitAt_le (ds : List Nat) (b : Nat) (h : ∀ d ∈ ds, d ≤ b) (pos i : Nat) :
    digitAt ds pos i ≤ b := by
  unfold digitAt
  split
  · rw [List.getD_eq_getElem?_getD]
    cases hj : ds[i - pos]? with
    | none => simp
    | some d => simp; exact h d (List.mem_of_getElem? hj)
  · exact Nat.zero_le _

theorem getD_replicate_zero (n i : Nat) : (List.replicate n 0).getD i 0 = 0 := by
  simp only [List.getD_eq_getElem?_getD, List.getElem?_replicate]
  split <;> rfl

theorem getD_append_zeros (a b : List Nat) (hb : ∀ d ∈ b, d = 0) (j : Nat) :
    (a ++ b).getD j 0 = a.getD j 0 := by
  simp only [List.getD_eq_getElem?_getD]
  by_cases h : j < a.length
  · rw [List.getElem?_append_left h]
  · have ha : a[j]? = none := List.getElem?_eq_none (by omega)
    rw [List.getElem?_append_right (by omega), ha]
    cases hj : b[j - a.length]? with
    | none => rfl
    | some d => exact hb d (List.mem_of_getElem? hj)

theorem getD_raise (s : List Nat) (p d i : Nat) (hp : p < s.length) :
    (if s.getD p 0 < d then s.set p d else s).getD i 0
      = max (s.getD i 0) (if i = p then d else 0) := by
  by_cases hi : i = p
  · subst hi
    rw [if_pos rfl]
    split
    next hlt =>
      rw [List.getD_eq_getElem?_getD, List.getElem?_set_self hp]
      exact (Nat.max_eq_right (Nat.le_of_lt hlt)).symm
    next hge => exact (Nat.max_eq_left (Nat.le_of_not_lt hge)).symm
  · rw [if_neg hi, Nat.max_zero]
    split
    · simp [List.getD_eq_getElem?_getD, Ne.symm hi]
    · rfl

theorem digitAt_zeros_cons (z d : Nat) (ds : List Nat) (pos i : Nat) :
    digitAt (List.replicate z 0 ++ d :: ds) pos i
      = max (if i = pos + z then d else 0) (digitAt ds (pos + z + 1) i) := by
  unfold digitAt
  by_cases h1 : pos ≤ i
  · rw [if_pos h1, List.getD_eq_getElem?_getD]
    by_cases h2 : i - pos < z
    · rw [List.getElem?_append_left (by rw [List.length_replicate]; exact h2), if_neg (by omega),
        if_neg (by omega), List.getElem?_replicate, if_pos h2]
      rfl
    · rw [List.getElem?_append_right (by rw [List.length_replicate]; omega),
        List.length_replicate]
      by_cases h3 : i = pos + z
      · rw [if_pos h3, if_neg (by omega), h3, Nat.add_sub_cancel_left, Nat.sub_self,
          Nat.max_zero]
        rfl
      · have : i - pos - z = (i - (pos + z + 1)) + 1 := by omega
        rw [if_neg h3, if_pos (by omega), this, List.getElem?_cons_succ, List.getD_eq_getElem?_getD,
          Nat.zero_max]
  · rw [if_neg h1, if_neg (by omega), if_neg (by omega)]; rfl

theorem applyOps_spec (bs : List Nat) (pos : Nat) (s : List Nat)
    (h : pos + (decodeOps bs).length ≤ s.length) :
    ∃ s', applyOps bs pos s = some s' ∧ s'.length = s.length ∧
      ∀ i, s'.getD i 0 = max (s.getD i 0) (digitAt (decodeOps bs) pos i) := by
  induction bs generalizing pos s with
  | nil => exact ⟨s, rfl, rfl, fun i => by simp [decodeOps, digitAt_nil]⟩
  | cons b bs ih =>
    by_cases ht : b % 16 = 10 ∨ b % 16 = 11
    · exact ⟨s, by simp [applyOps, ht], rfl, fun i => by simp [decodeOps, ht, digitAt_nil]⟩
    · simp only [decodeOps, ht, if_false, List.length_append, List.length_replicate,
        List.length_cons] at h
      have hp : pos + b / 16 < s.length := by omega
      generalize hs1 :
        (if s.getD (pos + b / 16) 0 < b % 16 then s.set (pos + b / 16) (b % 16) else s) = s1
      have hl : s1.length = s.length := by rw [← hs1]; split <;> simp
      obtain ⟨s', h1, h2, h3⟩ := ih (pos + b / 16 + 1) s1 (by omega)
      refine ⟨s', by simp only [applyOps, ht, if_false, hp, if_true, hs1, h1], h2.trans hl,
        fun i => ?_⟩
      -- the byte raises its own position, the rest of the stream the later ones
      rw [h3, ← hs1, getD_raise s _ _ i hp, decodeOps, if_neg ht, digitAt_zeros_cons,
        Nat.max_assoc]

/-- Bytes of a pattern before its terminator: the op in the low nibble is a digit 0..9
(10/11 terminate a stream, 12/13 are the exception scores). -/
def ScoreBytes (ops : List Nat) : Prop := ∀ b ∈ ops, b % 16 ≤ 9

/-- No byte of `ops` ends the stream (ops 10 and 11 do). -/
def NonTerm (ops : List Nat) : Prop := ∀ b ∈ ops, ¬ (b % 16 = 10 ∨ b % 16 = 11)

theorem scoreBytes_nil : ScoreBytes [] := fun _ h => by cases h

theorem ScoreBytes.nonTerm {ops : List Nat} (h : ScoreBytes ops) : NonTerm ops := by
  intro b hb; have := h b hb; omega

theorem decodeOps_append (a b : List Nat) (h : NonTerm a) :
    decodeOps (a ++ b) = decodeOps a ++ decodeOps b := by
  induction a with
  | nil => simp [decodeOps]
  | cons x a ih =>
    have hn : ¬ (x % 16 = 10 ∨ x % 16 = 11) := h x (by simp)
    have ha : NonTerm a := fun b hb => h b (by simp [hb])
    simp [decodeOps, hn, ih ha]

theorem mem_decodeOps (a : List Nat) (d : Nat) (h : d ∈ decodeOps a) :
    d = 0 ∨ ∃ b ∈ a, ¬ (b % 16 = 10 ∨ b % 16 = 11) ∧ d = b % 16 := by
  fun_induction decodeOps a with
  | case1 => cases h
  | case2 => cases h
  | case3 b bs ht ih =>
    simp only [List.mem_append, List.mem_replicate, List.mem_cons] at h
    rcases h with ⟨_, rfl⟩ | rfl | h
    · exact Or.inl rfl
    · exact Or.inr ⟨b, by simp, ht, rfl⟩
    · exact (ih h).imp id (fun ⟨x, hx, h1, h2⟩ => ⟨x, by simp [hx], h1, h2⟩)

theorem decodeOps_240 (k : Nat) (rest : List Nat) :
    decodeOps (List.replicate k 240 ++ rest) = List.replicate (16 * k) 0 ++ decodeOps rest := by
  induction k with
  | zero => simp
  | succ k ih =>
    simp only [List.replicate_succ, List.cons_append, decodeOps, ih]
    have : 16 * (k + 1) = 15 + (1 + 16 * k) := by omega
    rw [this, ← List.replicate_append_replicate, ← List.replicate_append_replicate]
    simp

theorem decodeOps_zerosThen_score (n op : Nat) (hop : op ≤ 9) :
    decodeOps (zerosThen n op) = List.replicate n 0 ++ [op] := by
  unfold zerosThen
  rw [decodeOps_240]
  have h1 : (op + n % 16 * 16) % 16 = op := by omega
  have h2 : (op + n % 16 * 16) / 16 = n % 16 := by omega
  have hn : ¬ (op = 10 ∨ op = 11) := by omega
  simp only [decodeOps, h1, h2, hn, if_false]
  have : n = 16 * (n / 16) + n % 16 := by omega
  rw [← List.append_assoc, List.replicate_append_replicate, ← this]

theorem decodeOps_zerosThen_term (n op : Nat) (hop : op = 10 ∨ op = 11) (rest : List Nat) :
    decodeOps (zerosThen n op ++ rest) = List.replicate (16 * (n / 16)) 0 := by
  unfold zerosThen
  rw [List.append_assoc, decodeOps_240]
  have h1 : (op + n % 16 * 16) % 16 = op := by omega
  simp [decodeOps, h1, hop]

theorem zerosThen_le (n op m : Nat) (hop : op ≤ m) : ∀ b ∈ zerosThen n op, b % 16 ≤ m := by
  intro b hb
  unfold zerosThen at hb
  simp only [List.mem_append, List.mem_replicate, List.mem_singleton] at hb
  rcases hb with ⟨_, rfl⟩ | rfl <;> omega

theorem scoreBytes_append {a b : List Nat} (ha : ScoreBytes a) (hb : ScoreBytes b) :
    ScoreBytes (a ++ b) :=
  fun x hx => (List.mem_append.1 hx).elim (ha x) (hb x)

theorem digVal_le (c : Char) (h : isDig c = true) : digVal c ≤ 9 := by
  simp [isDig] at h; unfold digVal; omega

def lettersOf (cs : List Char) : List Char := cs.filter (fun c => !isDig c && decide (c ≠ '.'))

theorem ne_dot_of_isDig {c : Char} (hd : isDig c = true) : c ≠ '.' := by
  rintro rfl; exact absurd hd (by decide)

theorem parsePat_letters (p : List Char) : (parsePat p).letters = lettersOf p := by
  simp [parsePat, lettersOf, List.filter_filter]

theorem lettersOf_digit (c : Char) (cs : List Char) (h : isDig c = true) :
    lettersOf (c :: cs) = lettersOf cs := by simp [lettersOf, h]
theorem lettersOf_dot (cs : List Char) : lettersOf ('.' :: cs) = lettersOf cs := by
  simp [lettersOf]
theorem lettersOf_letter (c : Char) (cs : List Char) (h : isDig c = false) (hdot : c ≠ '.') :
    lettersOf (c :: cs) = c :: lettersOf cs := by simp [lettersOf, h, hdot]

theorem scan_path (cs : List Char) (ops : List Nat) (path : List Edge) (st : St) :
    (scan cs ops path st).2.1 = path ++ (lettersOf cs).map Edge.ch := by
  fun_induction scan cs ops path st with
  | case1 => simp [lettersOf]
  | case2 c cs ops path hd n ih => rw [ih, lettersOf_digit c cs hd]
  | case3 c cs ops path hd ih => rw [ih, lettersOf_digit c cs hd]
  | case4 cs ops path st _ ih => rw [ih, lettersOf_dot]
  | case5 c cs ops path st hd hdot ih =>
    rw [ih, lettersOf_letter c cs (by simpa using hd) hdot]; simp

/-- The digits of the positions `scan` has passed, the open one (before the next letter) included:
in state `afterChar n` the last `n + 1` of them are zeros not yet written. -/
def written (ops : List Nat) : St → List Nat
  | .afterChar n => decodeOps ops ++ List.replicate (n + 1) 0
  | .afterScore => decodeOps ops

theorem decodeOps_single (d : Nat) (h : d ≤ 9) : decodeOps [d] = [d] := by
  simpa [zerosThen] using decodeOps_zerosThen_score 0 d h

theorem scoreBytes_dropLast {ops : List Nat} (h : ScoreBytes ops) : ScoreBytes ops.dropLast :=
  fun b hb => h b (List.dropLast_subset _ hb)

theorem decodeOps_pop_length (ops : List Nat) (d : Nat) (hs : ScoreBytes ops) (hne : ops ≠ [])
    (hd : d ≤ 9) : (decodeOps (ops.dropLast ++ [d])).length ≤ (decodeOps ops).length := by
  have hsplit : ops = ops.dropLast ++ [ops.getLast hne] := (List.dropLast_concat_getLast hne).symm
  have hl : ops.getLast hne % 16 ≤ 9 := hs _ (List.getLast_mem hne)
  have hn : ¬ (ops.getLast hne % 16 = 10 ∨ ops.getLast hne % 16 = 11) := by omega
  rw [decodeOps_append _ _ (scoreBytes_dropLast hs).nonTerm, decodeOps_single d hd]
  conv => rhs; rw [hsplit, decodeOps_append _ _ (scoreBytes_dropLast hs).nonTerm]
  simp [decodeOps, hn]

theorem scan_bound (cs : List Char) (ops : List Nat) (path : List Edge) (st : St)
    (hs : ScoreBytes ops) (hne : st = .afterScore → ops ≠ []) :
    ScoreBytes (scan cs ops path st).1 ∧
    ((scan cs ops path st).2.2 = .afterScore → (scan cs ops path st).1 ≠ []) ∧
    (written (scan cs ops path st).1 (scan cs ops path st).2.2).length
      ≤ (written ops st).length + (lettersOf cs).length := by
  fun_induction scan cs ops path st with
  | case1 => simp [lettersOf, hs]; exact hne
  | case2 c cs ops path hd n ih =>
    have hle := digVal_le c hd
    rw [lettersOf_digit c cs hd]
    obtain ⟨a, b, c'⟩ := ih (scoreBytes_append hs (zerosThen_le n _ 9 hle))
      (by intro _; simp [zerosThen])
    refine ⟨a, b, Nat.le_trans c' ?_⟩
    simp [written, decodeOps_append _ _ hs.nonTerm, decodeOps_zerosThen_score n _ hle]
  | case3 c cs ops path hd ih =>
    have hle := digVal_le c hd
    rw [lettersOf_digit c cs hd]
    have h1 : ScoreBytes (ops.dropLast ++ [digVal c]) :=
      scoreBytes_append (scoreBytes_dropLast hs) (by intro b hb; simp at hb; subst hb; omega)
    obtain ⟨a, b, c'⟩ := ih h1 (by intro _; simp)
    exact ⟨a, b, Nat.le_trans c'
      (Nat.add_le_add_right (decodeOps_pop_length ops _ hs (hne rfl) hle) _)⟩
  | case4 cs ops path st _ ih => rw [lettersOf_dot]; exact ih hs hne
  | case5 c cs ops path st hd hdot ih =>
    rw [lettersOf_letter c cs (by simpa using hd) hdot]
    obtain ⟨a, b, c'⟩ := ih hs (by cases st <;> (intro h; cases h))
    refine ⟨a, b, Nat.le_trans c' ?_⟩
    cases st <;> simp [written] <;> omega

def bodyOf (cs : List Char) : List Char := cs.filter (· ≠ '.')

def HeadNotDigit (l : List Char) : Prop := ∀ c, l.head? = some c → isDig c = false

theorem digitsOf_letter (c : Char) (cs : List Char) (h : isDig c = false) :
    digitsOf (c :: cs) = 0 :: digitsOf cs := by
  cases cs with
  | nil => simp [digitsOf, h]
  | cons c' rest => simp [digitsOf, h]

theorem digitsOf_digit (c : Char) (cs : List Char) (h : isDig c = true) (hn : HeadNotDigit cs) :
    digitsOf (c :: cs) = digVal c :: (digitsOf cs).tail := by
  cases cs with
  | nil => simp [digitsOf, h]
  | cons c' rest =>
    have h' : isDig c' = false := hn c' rfl
    rw [digitsOf_letter c' rest h']
    simp [digitsOf, h, h']

theorem noAdj_tail (c : Char) (cs : List Char) (h : noAdjDigits (c :: cs) = true) :
    noAdjDigits cs = true := by
  cases cs with
  | nil => simp [noAdjDigits]
  | cons c' rest => simp [noAdjDigits] at h; exact h.2

theorem noAdj_digit (c : Char) (cs : List Char) (h : noAdjDigits (c :: cs) = true)
    (hd : isDig c = true) : HeadNotDigit cs := by
  cases cs with
  | nil => intro c' h'; cases h'
  | cons c' rest =>
    simp [noAdjDigits, hd] at h
    intro c'' h''; simp at h''; subst h''; exact h.1

/-- The digits still to come for the rest `body` of a pattern: in state `afterChar n` the `n` pending
zeros first; in state `afterScore` the digit before the next letter is already written. -/
def expected : St → List Char → List Nat
  | .afterChar n, body => List.replicate n 0 ++ digitsOf body
  | .afterScore, body => (digitsOf body).tail

/-- The bytes a pattern has pushed when its terminator `term` has been written. -/
def finish (r : List Nat × List Edge × St) (term : Nat) : List Nat :=
  r.1 ++ (match r.2.2 with
    | .afterChar n => zerosThen n term
    | .afterScore => [term])

theorem finish_ne_nil (r : List Nat × List Edge × St) (term : Nat) : finish r term ≠ [] := by
  unfold finish
  split <;> simp [zerosThen]

theorem finish_le (r : List Nat × List Edge × St) (term : Nat) (hterm : term = 10 ∨ term = 11)
    (hs : ScoreBytes r.1) : ∀ b ∈ finish r term, b % 16 ≤ 11 := by
  intro b hb
  rw [finish, List.mem_append] at hb
  rcases hb with h | h
  · have := hs b h; omega
  · split at h
    · exact zerosThen_le _ term 11 (by omega) b h
    · rw [List.mem_singleton] at h; omega

theorem bodyOf_dot (cs : List Char) : bodyOf ('.' :: cs) = bodyOf cs := by simp [bodyOf]
theorem bodyOf_ne (c : Char) (cs : List Char) (h : c ≠ '.') : bodyOf (c :: cs) = c :: bodyOf cs := by
  simp [bodyOf, h]

theorem decodeOps_term (term : Nat) (rest : List Nat) (h : term = 10 ∨ term = 11) :
    decodeOps (term :: rest) = [] := by
  rcases h with rfl | rfl <;> simp [decodeOps]

/-- The terminator cuts off what follows and writes the pending zeros only in whole runs of 16:
up to trailing zeros the finished stream decodes to `written`, whatever comes after it. -/
theorem written_finish (r : List Nat × List Edge × St) (term : Nat)
    (hterm : term = 10 ∨ term = 11) (hs : ScoreBytes r.1) :
    ∃ k, ∀ rest,
      decodeOps (finish r term ++ rest) ++ List.replicate k 0 = written r.1 r.2.2 := by
  unfold finish
  cases r.2.2 with
  | afterChar n =>
    refine ⟨n + 1 - 16 * (n / 16), fun rest => ?_⟩
    rw [List.append_assoc, decodeOps_append _ _ hs.nonTerm,
      decodeOps_zerosThen_term n term hterm rest, written, List.append_assoc,
      List.replicate_append_replicate]
    congr 2; omega
  | afterScore =>
    refine ⟨0, fun rest => ?_⟩
    rw [List.append_assoc, decodeOps_append _ _ hs.nonTerm]
    simp [decodeOps_term term rest hterm, written]

theorem scan_sem (cs : List Char) (ops : List Nat) (path : List Edge) (st : St)
    (hs : ScoreBytes ops) (hwf : noAdjDigits (bodyOf cs) = true)
    (hst : st = .afterScore → HeadNotDigit (bodyOf cs)) :
    written (scan cs ops path st).1 (scan cs ops path st).2.2
      = decodeOps ops ++ expected st (bodyOf cs) := by
  fun_induction scan cs ops path st with
  | case1 ops path st =>
    cases st with
    | afterChar n => simp [written, bodyOf, expected, digitsOf, List.replicate_succ']
    | afterScore => simp [written, bodyOf, expected, digitsOf]
  | case2 c cs ops path hd n ih =>
    have hle := digVal_le c hd
    rw [bodyOf_ne c cs (ne_dot_of_isDig hd)] at hwf hst ⊢
    have hhead := noAdj_digit c _ hwf hd
    rw [ih (scoreBytes_append hs (zerosThen_le n _ 9 hle)) (noAdj_tail c _ hwf)
      (fun _ => hhead), decodeOps_append _ _ hs.nonTerm, decodeOps_zerosThen_score n _ hle]
    simp [expected, digitsOf_digit c _ hd hhead]
  | case3 c cs ops path hd ih =>
    rw [bodyOf_ne c cs (ne_dot_of_isDig hd)] at hst
    have := hst rfl c rfl
    rw [hd] at this; cases this
  | case4 cs ops path st _ ih =>
    rw [bodyOf_dot] at hwf hst ⊢
    exact ih hs hwf hst
  | case5 c cs ops path st hd hdot ih =>
    have hd' : isDig c = false := by simpa using hd
    rw [bodyOf_ne c cs hdot] at hwf hst ⊢
    rw [ih hs (noAdj_tail c _ hwf) (by cases st <;> (intro h; cases h))]
    cases st with
    | afterChar n => simp [expected, digitsOf_letter c _ hd', List.replicate_succ']
    | afterScore => simp [expected, digitsOf_letter c _ hd']

/-- The `path0` and `term` of `patOps` under names: `(patOps p).1` is
`finish (scan p [] (path0 p) (.afterChar 0)) (termOf p)`. -/
def path0 (p : List Char) : List Edge := if p.head? = some '.' then [.start] else []
def termOf (p : List Char) : Nat := if p.getLast? = some '.' then 11 else 10

theorem termOf_cases (p : List Char) : termOf p = 10 ∨ termOf p = 11 := by
  unfold termOf; split <;> simp

/-- All that is used of the bytes `ops` that `load_patterns` pushes for the pattern `p`. -/
structure PatStream (p : List Char) (ops : List Nat) : Prop where
  /-- no exception score (12/13) in front -/
  head : ∃ x rest, ops = x :: rest ∧ x % 16 < 12
  /-- what follows the stream in `Hyphenator.data` is never read -/
  term : ∀ rest, decodeOps (ops ++ rest) = decodeOps ops
  length : (decodeOps ops).length ≤ (parsePat p).letters.length + 1
  digits_le : ∀ d ∈ decodeOps ops, d ≤ 9
  /-- `k`: the stream omits trailing zeros -/
  roundtrip : wellFormed p = true →
    ∃ k, decodeOps ops ++ List.replicate k 0 = (parsePat p).digits

theorem patOps_stream (p : List Char) : PatStream p (patOps p).1 := by
  show PatStream p (finish (scan p [] (path0 p) (.afterChar 0)) (termOf p))
  have hterm := termOf_cases p
  obtain ⟨hs, _, hl⟩ := scan_bound p [] (path0 p) (.afterChar 0) scoreBytes_nil nofun
  have hle := finish_le _ _ hterm hs
  obtain ⟨k, hk⟩ := written_finish _ (termOf p) hterm hs
  have h0 := hk []
  rw [List.append_nil] at h0
  refine ⟨?_, fun rest => List.append_cancel_right ((hk rest).trans h0.symm), ?_, fun d hd => ?_,
    fun hwf => ⟨k, ?_⟩⟩
  · obtain ⟨x, rest, h⟩ := List.exists_cons_of_ne_nil
      (finish_ne_nil (scan p [] (path0 p) (.afterChar 0)) (termOf p))
    exact ⟨x, rest, h, by have := hle x (by simp [h]); omega⟩
  · rw [← h0] at hl
    simp [written, decodeOps] at hl
    rw [parsePat_letters]; omega
  · rcases mem_decodeOps _ d hd with rfl | ⟨b, hb, ht, rfl⟩
    · omega
    · have := hle b hb; omega
  · simp only [wellFormed, Bool.and_eq_true] at hwf
    rw [h0, scan_sem p [] (path0 p) (.afterChar 0) scoreBytes_nil hwf.1 nofun]
    simp [decodeOps, expected, parsePat, bodyOf]

end C13
