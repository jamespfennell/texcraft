import TexcraftModel.Lemmas.C18

/-! C18: CST ⇄ lists. `Args::build` inverts `lower_arg` for every function (`buildCall_mkCall`);
then every printing of a list (`Lowers`: the list printer with its merged runs of characters, the
element-wise printer) builds to `normList l`, by mutual structural recursion over nodes and lists. -/
namespace C18

theorem Fn.mem_all (f : Fn) : f ∈ Fn.all := by cases f <;> decide
theorem Field.mem_all (f : Field) : f ∈ Field.all := by cases f <;> decide

/-- The names in the tables of `functions!` (ast.rs) are distinct and are words for the lexer:
one statement for both facts, so that each table is evaluated once. -/
theorem Fn.table : ∀ f ∈ Fn.all, fnOfName f.name = some f ∧ isWord f.name = true := by
  decide
theorem Field.table : ∀ f ∈ Field.all, fieldOfName f.name = some f ∧ isWord f.name = true := by
  decide

theorem fnOfName_name (f : Fn) : fnOfName f.name = some f := (Fn.table f f.mem_all).1
theorem fieldOfName_name (f : Field) : fieldOfName f.name = some f := (Field.table f f.mem_all).1

theorem Fn.fields_nodup (fn : Fn) : fn.fields.Nodup := by cases fn <;> decide

theorem resolve_keywords (fields pos : List Field) : ∀ (fs : List Field) (vs : List Val) (seen : Bool),
    (∀ f ∈ fs, f ∈ fields) → resolve fields pos seen (mkArgs 0 fs vs) = some (fs.zip vs)
  | [], _, _, _ => by simp [mkArgs, resolve]
  | _ :: _, [], _, _ => by simp [mkArgs, resolve]
  | f :: fs, v :: vs, seen, h => by
    simp only [mkArgs, resolve, fieldOfName_name, h f (by simp), if_true,
      resolve_keywords fields pos fs vs true (fun g hg => h g (by simp [hg]))]
    rfl

theorem resolve_mkArgs (fields : List Field) : ∀ (n : Nat) (fs : List Field) (vs : List Val),
    (∀ f ∈ fs, f ∈ fields) → resolve fields fs false (mkArgs n fs vs) = some (fs.zip vs)
  | 0, fs, vs, h => resolve_keywords fields fs fs vs false h
  | _ + 1, [], _, _ => by simp [mkArgs, resolve]
  | _ + 1, _ :: _, [], _ => by simp [mkArgs, resolve]
  | n + 1, f :: fs, v :: vs, h => by
    simp only [mkArgs, resolve, resolve_mkArgs fields n fs vs (fun g hg => h g (by simp [hg]))]
    rfl

theorem nodupFields_zip : ∀ (fs : List Field) (vs : List Val), fs.Nodup → nodupFields (fs.zip vs) = true
  | [], _, _ => rfl
  | _ :: _, [], _ => rfl
  | f :: fs, v :: vs, h => by
    rw [List.nodup_cons] at h
    simp only [List.zip_cons_cons, nodupFields, nodupFields_zip fs vs h.2, Bool.and_true,
      Bool.not_eq_true', List.any_eq_false, decide_eq_true_eq]
    intro p hp hpf
    exact h.1 (hpf ▸ (List.of_mem_zip hp).1)

theorem buildCall_mkCall (f : Nat) (m : Mode) (fn : Fn) (vals : List Val) (hm : allowed m fn = true) :
    buildCall (f + 1) m (mkCall fn vals) = buildFn f fn (fn.fields.zip vals) := by
  simp [buildCall, mkCall, fnOfName_name, hm, resolve_mkArgs fn.fields fn.npos fn.fields vals (fun _ h => h),
    nodupFields_zip _ vals fn.fields_nodup]

theorem toU32_toI32 (n : Nat) (h : n < 4294967296) : toU32 (toI32 n) = n := by
  unfold toU32 toI32; split <;> omega
theorem toU8_cast (n : Nat) (h : n < 256) : toU8 (n : Int) = n := by
  unfold toU8; omega

theorem getStretch_stretchVal (r : List (Field × Val)) (f : Field) (s : Int) (o : Order)
    (h : getField r f = some (stretchVal s o)) : getStretch r f = some (s, o) := by
  unfold getStretch; rw [h]; cases o <;> rfl

theorem getRunning_runningVal (r : List (Field × Val)) (f : Field) (s : Int)
    (h : getField r f = some (runningVal s)) : getRunning r f = some s := by
  unfold getRunning; rw [h]; unfold runningVal
  by_cases hs : s = running <;> simp [hs]

theorem getBool_boolStr (r : List (Field × Val)) (f : Field) (b : Bool)
    (h : getField r f = some (.str (boolStr b))) : getBool r f = some b := by
  unfold getBool getStr; rw [h]; cases b <;> simp [boolStr]

theorem getOrder_keyword (r : List (Field × Val)) (f : Field) (o : Order)
    (h : getField r f = some (.str o.keyword)) : getOrder r f = some o := by
  unfold getOrder getStr; rw [h]; simp [Order.ofKeyword_keyword]

theorem splitDot_digits : ∀ (ds : List Nat) (r : List Char),
    splitDot (ds.map digitChar ++ '.' :: r) = (ds.map digitChar, some r) := by
  intro ds
  induction ds with
  | nil => intro r; simp [splitDot]
  | cons d ds ih =>
    intro r
    simp only [List.map_cons, List.cons_append, splitDot, digitChar_ne d '.' (by decide), if_false]
    rw [ih]

theorem parseI32_natChars (n : Nat) (hn : n ≤ 2147483647) : parseI32 (natChars n) = some (n : Int) := by
  have h := scanDigits_natChars n [] trivial
  obtain ⟨d, t, hd⟩ := natChars_cons n
  rw [List.append_nil, hd] at h
  simp only [hd, parseI32, digitChar_ne d '-' (by decide), digitChar_ne d '+' (by decide), or_self,
    if_false, h]
  simp
  omega

theorem parseRatio_print (H : ScaledRoundTrip) (g : Nat) (hg : g ≤ 2147483647) :
    parseRatio (printNoUnits (g : Int)) = some (g : Int) := by
  obtain ⟨h1, h2, -⟩ := H (g % 65536) (Nat.mod_lt _ (by omega))
  rw [fromDecimalDigits, fracDigits_take] at h1
  have hf := scanFrac_digits (fracDigits (g % 65536)) [] h2 trivial
  rw [List.append_nil] at hf
  have hi := parseI32_natChars (g / 65536) (by omega)
  have habs : parseRatioAbs (natChars (g / 65536) ++ '.' :: (fracDigits (g % 65536)).map digitChar) =
      some (g : Int) := by
    unfold parseRatioAbs
    rw [natChars, splitDot_digits, ← natChars]
    simp only [hi, Option.getD_some, hf, h1, div_mod_65536]
    rw [if_neg (by simp; omega)]
  -- the text begins with a digit, so there is no sign to take off
  obtain ⟨d, t, hd⟩ := natChars_cons (g / 65536)
  rw [printNoUnits_nonneg]
  rw [hd] at habs ⊢
  rw [List.cons_append] at habs ⊢
  rw [parseRatio, if_neg (digitChar_ne d '-' (by decide)), habs]

theorem getRatio_print (H : ScaledRoundTrip) (r : List (Field × Val)) (f : Field) (g : Int)
    (h0 : 0 ≤ g) (h1 : g ≤ 2147483647)
    (h : getField r f = some (.str (printNoUnits g))) : getRatio r f = some g := by
  unfold getRatio getStr; rw [h]
  have := parseRatio_print H g.toNat (by omega)
  rw [Int.toNat_of_nonneg h0] at this
  simpa using this

/-- The pending run of characters of `goH`, as nodes. -/
def curNodes : Option (Nat × Str) → List Node
  | none => []
  | some (f, buf) => buf.map (Node.char · f)

/-- The call `c` builds to `a` with any fuel above twice its size. -/
def BuildsCall (m : Mode) (c : Call) (a : List Node) : Prop :=
  ∀ f, 2 * callSize c < f + 2 → buildCall (f + 2) m c = some a

/-- The calls `cs` build to `l` with any fuel above twice their size: a call needs two units
(`buildCall`, `buildFn`) above what its list arguments need, a list one unit above what its calls
need, and `2 * size` covers both. -/
def Builds (m : Mode) (cs : List Call) (l : List Node) : Prop :=
  ∀ f, 2 * callsSize cs < f → buildCalls f m cs = some l

theorem Builds.build {m : Mode} {cs : List Call} {l : List Node} (h : Builds m cs l) :
    build m cs = some l := h _ (Nat.lt_succ_self _)

theorem Builds.nil (m : Mode) : Builds m [] [] := fun f hf => by
  obtain ⟨f, rfl⟩ := Nat.exists_eq_add_of_le' (show 1 ≤ f by omega)
  rfl

theorem Builds.cons {m : Mode} {c : Call} {r : List Call} {a b : List Node}
    (ha : BuildsCall m c a) (hb : Builds m r b) : Builds m (c :: r) (a ++ b) := fun f hf => by
  simp only [callsSize] at hf
  obtain ⟨f, rfl⟩ : ∃ g, f = g + 2 + 1 := ⟨f - 3, by omega⟩
  rw [buildCalls, ha f (by omega), hb (f + 2) (by omega)]

theorem build_chars (m : Mode) (hm : allowed m .chars = true) (buf : Str) (font : Nat)
    (hf : font < 4294967296) : BuildsCall m (charsCall buf font) (buf.map (Node.char · font)) := by
  intro f _
  rw [charsCall, buildCall_mkCall _ _ _ _ hm]
  simp [buildFn, Fn.fields, getStr, getInt, getField, toU32_toI32 _ hf]

theorem lowerV_eq_lowerEach : ∀ l : List Node, lowerV l = lowerEach l
  | [] => rfl
  | n :: r => by rw [lowerV, lowerEach, lowerV_eq_lowerEach r]
theorem lowerD_eq_lowerEach : ∀ l : List Node, lowerD l = lowerEach l
  | [] => rfl
  | n :: r => by rw [lowerD, lowerEach, lowerD_eq_lowerEach r]

theorem dimOk_le {s : Int} (h : dimOk s = true) : s ≤ 1073741823 := (dimOk_range h).2

theorem u32Ok_lt {n : Nat} (h : u32Ok n = true) : n < 4294967296 := by
  simp [u32Ok] at h; omega

theorem callSize_mkCall (fn : Fn) (vals : List Val) :
    callSize (mkCall fn vals) = argsSize (mkArgs fn.npos fn.fields vals) + 1 := rfl

/-- `cs` is a printing of `l`: every node lowered by `lowerNode`, where a `chars` call may also take
in the character in front of it, so that both list printers produce such a `cs` (`Lowers.goH`,
`Lowers.each`). -/
inductive Lowers : List Node → List Call → Prop
  | nil : Lowers [] []
  | node {n : Node} {r : List Node} {cs : List Call} : Lowers r cs → Lowers (n :: r) (lowerNode n :: cs)
  | join {c : Char} {font : Nat} {buf : Str} {r : List Node} {cs : List Call} :
      Lowers r (charsCall buf font :: cs) → Lowers (.char c font :: r) (charsCall (c :: buf) font :: cs)

theorem Lowers.each : ∀ l : List Node, Lowers l (lowerEach l)
  | [] => .nil
  | _ :: r => .node (Lowers.each r)

theorem Lowers.run {font : Nat} {r : List Node} {cs : List Call} (h : Lowers r cs) : ∀ (c : Char) (buf : Str),
    Lowers ((c :: buf).map (Node.char · font) ++ r) (charsCall (c :: buf) font :: cs)
  | _, [] => .node h
  | _, b :: buf => .join (Lowers.run h b buf)

/-- The pending run of `goH` is a run of characters in front of the list; an empty one never arises. -/
theorem Lowers.goH : ∀ (l : List Node) (cur : Option (Nat × Str)), (∀ f, cur ≠ some (f, [])) →
    Lowers (curNodes cur ++ l) (goH cur l)
  | _, some (f, []), hc => absurd rfl (hc f)
  | [], none, _ => .nil
  | [], some (_, b :: buf), _ => Lowers.nil.run b buf
  | n :: r, none, _ => by
    by_cases hch : ∃ c font, n = .char c font
    · obtain ⟨c, font, rfl⟩ := hch
      exact Lowers.goH r (some (font, [c])) (by simp)
    · rw [C18.goH]
      · exact .node (Lowers.goH r none (by simp))
      · exact fun c f h => hch ⟨c, f, h⟩
  | n :: r, some (ft, b :: buf), _ => by
    by_cases hch : ∃ c font, n = .char c font
    · obtain ⟨c, font, rfl⟩ := hch
      by_cases hft : font = ft
      · subst hft
        rw [C18.goH, if_pos rfl]
        simpa [curNodes] using Lowers.goH r (some (font, b :: buf ++ [c])) (by simp)
      · rw [C18.goH, if_neg hft]
        exact (Lowers.goH r (some (font, [c])) (by simp)).run b buf
    · rw [C18.goH]
      · exact (Lowers.node (Lowers.goH r none (by simp))).run b buf
      · exact fun c f h => hch ⟨c, f, h⟩

theorem Lowers.lower : ∀ (m : Mode) (l : List Node), Lowers l (C18.lower m l)
  | .H, l => Lowers.goH l none (by simp)
  | .V, l => by rw [C18.lower, lowerV_eq_lowerEach]; exact .each l
  | .D, l => by rw [C18.lower, lowerD_eq_lowerEach]; exact .each l

theorem Builds.join {m : Mode} {c : Char} {font : Nat} {buf : Str} {cs : List Call} {x : List Node}
    (hm : allowed m .chars = true) (hfont : font < 4294967296)
    (h : Builds m (charsCall buf font :: cs) x) :
    Builds m (charsCall (c :: buf) font :: cs) (.char c font :: x) := fun f hf => by
  have h := h f hf
  -- the size of a `chars` call does not depend on its string
  have e : callSize (charsCall (c :: buf) font) = callSize (charsCall buf font) := rfl
  simp only [callsSize, e] at hf
  obtain ⟨f, rfl⟩ : ∃ g, f = g + 2 + 1 := ⟨f - 3, by omega⟩
  rw [buildCalls, build_chars m hm _ font hfont f (by omega)] at h ⊢
  cases hb : buildCalls (f + 2) m cs with
  | none => rw [hb] at h; cases h
  | some b => rw [hb] at h; cases h; rfl

/- Every case of `build_node` but `char` (`build_chars`) goes in three steps: `lowerNode` writes
`mkCall fn vals`, so `buildCall_mkCall` turns the goal into `buildFn` on `fn.fields.zip vals`; the
readers that do more than match one constructor are rewritten by their lemma (`getStretch_stretchVal`,
`getRunning_runningVal`, `getBool_boolStr`, `getOrder_keyword`, `getRatio_print`); what is left
evaluates, by `rfl` or, where a counter is cast (`toU32_toI32`, `toU8_cast`) or the node contains
lists, by `simp` with the induction hypothesis on each list. -/
mutual
theorem build_node (H : ScaledRoundTrip) : ∀ (n : Node) (m : Mode),
    allowed m (kindFn n) = true → reprNode n = true → BuildsCall m (lowerNode n) [normNode n] := by
  intro n m hm he f hf
  cases n with
  | char c font =>
    simp only [reprNode, decide_eq_true_eq] at he
    exact build_chars m hm [c] font he f hf
  | glue kind w st sto sh sho =>
    rw [lowerNode, buildCall_mkCall _ _ .glue _ hm, buildFn,
      getStretch_stretchVal _ _ st sto rfl, getStretch_stretchVal _ _ sh sho rfl]
    rfl
  | kern kind w =>
    rw [lowerNode, buildCall_mkCall _ _ .kern _ hm]
    rfl
  | penalty p =>
    rw [lowerNode, buildCall_mkCall _ _ .penalty _ hm]
    rfl
  | rule h w d =>
    rw [lowerNode, buildCall_mkCall _ _ .rule _ hm, buildFn,
      getRunning_runningVal _ _ h rfl, getRunning_runningVal _ _ w rfl, getRunning_runningVal _ _ d rfl]
    rfl
  | lig c orig font l r =>
    simp only [reprNode, decide_eq_true_eq] at he
    rw [lowerNode, buildCall_mkCall _ _ .lig _ hm, buildFn,
      getBool_boolStr _ _ l rfl, getBool_boolStr _ _ r rfl]
    simp [Fn.fields, getChar, getStr, getInt, getField, toU32_toI32 _ he, normNode]
  | mark n =>
    rw [lowerNode, buildCall_mkCall _ _ .mark _ hm]
    rfl
  | math a =>
    rw [lowerNode, buildCall_mkCall _ _ .math _ hm]
    cases a <;> rfl
  | disc pre post rc =>
    have ih1 := build_lowers H .D pre _ (.each pre)
    have ih2 := build_lowers H .D post _ (.each post)
    simp only [reprNode, Bool.and_eq_true, decide_eq_true_eq] at he
    rw [lowerNode, lowerD_eq_lowerEach, lowerD_eq_lowerEach] at hf ⊢
    simp only [callSize_mkCall, argsSize, argSize, valSize, mkArgs, Fn.npos, Fn.fields] at hf
    rw [buildCall_mkCall _ _ .disc _ hm]
    simp [buildFn, Fn.fields, getInt, getList, getField, toU32_toI32 _ he.2, normNode,
      ih1 he.1.1 f (by omega), ih2 he.1.2 f (by omega)]
  | hbox h w d shift ratio order l =>
    have ih := build_lowers H .H l _ (Lowers.goH l none (by simp))
    simp only [reprNode, Bool.and_eq_true, decide_eq_true_eq] at he
    rw [lowerNode] at hf ⊢
    simp only [callSize_mkCall, argsSize, argSize, valSize, mkArgs, Fn.npos, Fn.fields] at hf
    rw [buildCall_mkCall _ _ .hbox _ hm, buildFn,
      getRatio_print H _ _ ratio he.1.1 he.1.2 rfl, getOrder_keyword _ _ order rfl]
    simp [Fn.fields, getDim, getList, getField, normNode, ih he.2 f (by omega)]
  | vbox h w d shift gset l =>
    have ih := build_lowers H .V l _ (.each l)
    rw [lowerNode, lowerV_eq_lowerEach] at hf ⊢
    simp only [callSize_mkCall, argsSize, argSize, valSize, mkArgs, Fn.npos, Fn.fields] at hf
    rw [buildCall_mkCall _ _ .vbox _ hm]
    simp [buildFn, Fn.fields, getDim, getList, getField, normNode, ih he f (by omega)]
  | adjust l =>
    have ih := build_lowers H .V l _ (.each l)
    rw [lowerNode, lowerV_eq_lowerEach] at hf ⊢
    simp only [callSize_mkCall, argsSize, argSize, valSize, mkArgs, Fn.npos, Fn.fields] at hf
    rw [buildCall_mkCall _ _ .adjust _ hm]
    simp [buildFn, Fn.fields, getList, getField, normNode, ih he f (by omega)]
  | ins box h md w st sto sh sho fp l =>
    have ih := build_lowers H .V l _ (.each l)
    simp only [reprNode, Bool.and_eq_true, decide_eq_true_eq] at he
    rw [lowerNode, lowerV_eq_lowerEach] at hf ⊢
    simp only [callSize_mkCall, argsSize, argSize, valSize, mkArgs, Fn.npos, Fn.fields] at hf
    rw [buildCall_mkCall _ _ .insertion _ hm, buildFn,
      getStretch_stretchVal _ _ st sto rfl, getStretch_stretchVal _ _ sh sho rfl]
    simp [Fn.fields, getInt, getDim, getList, getField, normNode, ih he.2 f (by omega),
      toU8_cast _ he.1.1, toU32_toI32 _ he.1.2]

/-- Every printing of a list builds to it, however its character runs are cut. -/
theorem build_lowers (H : ScaledRoundTrip) : ∀ (m : Mode) (l : List Node) (cs : List Call),
    Lowers l cs → reprList m l = true → Builds m cs (normList l)
  | m, [], _, .nil, _ => .nil m
  | m, n :: r, _, h, he => by
    have ihn := build_node H n m
    have ihr := build_lowers H m r
    simp only [reprList, Bool.and_eq_true] at he
    cases h with
    | node h' => exact .cons (ihn he.1.1 he.1.2) (ihr _ h' he.2)
    | join h' => exact .join he.1.1 (by simpa [reprNode] using he.1.2) (ihr _ h' he.2)
end

theorem build_lower (H : ScaledRoundTrip) (m : Mode) (l : List Node) (he : reprList m l = true) :
    build m (lower m l) = some (normList l) :=
  (build_lowers H m l _ (.lower m l) he).build

mutual
theorem repr_of_expr : ∀ (n : Node), exprNode n = true → reprNode n = true ∧ normNode n = n
  | .char _ font, he | .lig _ _ font _ _, he => by
    simp only [exprNode] at he
    simp [reprNode, normNode, u32Ok_lt he]
  | .glue kind w st sto sh sho, he => by
    simp only [exprNode, Bool.and_eq_true, decide_eq_true_eq] at he
    simp [reprNode, normNode, he.1.1.1]
  | .kern kind w, he => by
    simp only [exprNode, Bool.and_eq_true, decide_eq_true_eq] at he
    simp [reprNode, normNode, he.1]
  | .penalty _, _ | .rule _ _ _, _ | .math _, _ => by simp [reprNode, normNode]
  | .mark n, he => by
    simp only [exprNode, decide_eq_true_eq] at he
    simp [reprNode, normNode, he]
  | .disc pre post rc, he => by
    simp only [exprNode, Bool.and_eq_true] at he
    have h1 := repr_list_of_expr .D pre he.1.1
    have h2 := repr_list_of_expr .D post he.1.2
    simp [reprNode, normNode, h1.1, h1.2, h2.1, h2.2, u32Ok_lt he.2]
  | .hbox h w d s ratio o l, he => by
    simp only [exprNode, Bool.and_eq_true, decide_eq_true_eq] at he
    have h1 := repr_list_of_expr .H l he.2
    simp [reprNode, normNode, h1.1, h1.2, he.1.1.2, (intOk_range he.1.2).2]
  | .vbox h w d s g l, he => by
    simp only [exprNode, Bool.and_eq_true, Bool.not_eq_true'] at he
    have h1 := repr_list_of_expr .V l he.2
    simp [reprNode, normNode, h1.1, h1.2, he.1.2]
  | .adjust l, he => by
    simp only [exprNode] at he
    have h1 := repr_list_of_expr .V l he
    simp [reprNode, normNode, h1.1, h1.2]
  | .ins box h md w st sto sh sho fp l, he => by
    simp only [exprNode, Bool.and_eq_true, decide_eq_true_eq] at he
    have h1 := repr_list_of_expr .V l he.2
    simp [reprNode, normNode, h1.1, h1.2, he.1.1.1.1.1.1.1, u32Ok_lt he.1.2]
theorem repr_list_of_expr : ∀ (m : Mode) (l : List Node), exprList m l = true →
    reprList m l = true ∧ normList l = l
  | m, [], _ => by simp [reprList, normList]
  | m, n :: r, he => by
    simp only [exprList, Bool.and_eq_true] at he
    have h1 := repr_of_expr n he.1.2
    have h2 := repr_list_of_expr m r he.2
    simp [reprList, normList, he.1.1, h1.1, h1.2, h2.1, h2.2]
end

end C18
