import TexcraftModel.Model.C04

/-!
C04 — the reference optimiser computes least elements (`MinOf`): an entry of `row x L` is the
least cost of the runs of `L` lines that end in its state (`row_minOf`, by taking a run apart at
its last break), `dp x L` and `dpBest x` the least total of the feasible sequences (`dp_minOf`,
`dpBest_minOf`). Sparse rows compute the same values from the occupied cells alone.
-/
namespace C04

/-- `o` is the least element of the set `S` of integers, `none` when `S` is empty. -/
structure MinOf (S : Int → Prop) (o : Option Int) : Prop where
  mem : ∀ ⦃c⦄, o = some c → S c
  le : ∀ ⦃c⦄, S c → ∃ c', o = some c' ∧ c' ≤ c

theorem MinOf.none_iff {S : Int → Prop} {o : Option Int} (h : MinOf S o) : o = none ↔ ∀ c, ¬ S c := by
  constructor
  · intro hn c hc
    obtain ⟨c', h', _⟩ := h.le hc
    rw [hn] at h'; cases h'
  · intro hno
    cases ho : o with
    | none => rfl
    | some c => exact absurd (h.mem ho) (hno c)

theorem MinOf.eq_some {S : Int → Prop} {o : Option Int} (h : MinOf S o) {c : Int} (hc : S c)
    (hle : ∀ c', S c' → c ≤ c') : o = some c := by
  obtain ⟨c', ho, hle'⟩ := h.le hc
  rw [ho, Int.le_antisymm hle' (hle c' (h.mem ho))]

theorem MinOf.unique {S : Int → Prop} {o o' : Option Int} (h : MinOf S o) (h' : MinOf S o') :
    o' = o := by
  cases ho : o with
  | none => exact h'.none_iff.2 (h.none_iff.1 ho)
  | some c =>
    refine h'.eq_some (h.mem ho) fun c' hc' => ?_
    obtain ⟨c'', ho', hle⟩ := h.le hc'
    rw [ho] at ho'
    cases ho'
    exact hle

theorem MinOf.of_dominating {S S' : Int → Prop} {o : Option Int} (h : MinOf S o)
    (hsub : ∀ c, S' c → S c) (hdom : ∀ c, S c → ∃ c', S' c' ∧ c' ≤ c) : MinOf S' o := by
  refine ⟨fun c ho => ?_, fun c hc => h.le (hsub c hc)⟩
  obtain ⟨c', hc', hle⟩ := hdom c (h.mem ho)
  obtain ⟨c'', ho', hle'⟩ := h.le (hsub c' hc')
  rw [ho] at ho'
  cases ho'
  rwa [← Int.le_antisymm hle hle']

theorem MinOf.congr {S S' : Int → Prop} {o : Option Int} (h : MinOf S o) (hs : ∀ c, S c ↔ S' c) :
    MinOf S' o :=
  ⟨fun c hc => (hs c).1 (h.mem hc), fun c hc => h.le ((hs c).2 hc)⟩

/-- `optMin` is the least element of a union of two sets. -/
theorem optMin_minOf {S T : Int → Prop} {a b : Option Int} (ha : MinOf S a) (hb : MinOf T b) :
    MinOf (fun c => S c ∨ T c) (optMin a b) := by
  cases a with
  | none =>
    exact ⟨fun c h => Or.inr (hb.mem h), fun c h => h.elim (fun h => nomatch ha.le h) (hb.le ·)⟩
  | some a =>
    cases b with
    | none =>
      exact ⟨fun c h => Or.inl (ha.mem h), fun c h => h.elim (ha.le ·) (fun h => nomatch hb.le h)⟩
    | some b =>
      refine ⟨fun c h => ?_, fun c h => ⟨min a b, rfl, ?_⟩⟩
      · cases h
        rw [Int.min_def]
        split
        · exact Or.inl (ha.mem rfl)
        · exact Or.inr (hb.mem rfl)
      · rcases h with h | h
        · obtain ⟨_, ⟨⟩, hle⟩ := ha.le h
          exact Int.le_trans (Int.min_le_left _ _) hle
        · obtain ⟨_, ⟨⟩, hle⟩ := hb.le h
          exact Int.le_trans (Int.min_le_right _ _) hle

theorem MinOf.union {ι : Type} {S : ι → Int → Prop} {f : ι → Option Int} (l : List ι)
    (h : ∀ i, i ∈ l → MinOf (S i) (f i)) :
    MinOf (fun c => ∃ i, i ∈ l ∧ S i c) (minOpt (l.map f)) := by
  induction l with
  | nil => exact ⟨fun _ h => (nomatch h), fun _ ⟨_, hi, _⟩ => (nomatch hi)⟩
  | cons a t ih =>
    refine (optMin_minOf (h a List.mem_cons_self)
      (ih fun i hi => h i (List.mem_cons_of_mem _ hi))).congr fun c => ?_
    simp only [List.mem_cons, exists_eq_or_imp]

theorem minOpt_minOf (l : List (Option Int)) : MinOf (fun c => some c ∈ l) (minOpt l) := by
  have := MinOf.union (S := fun i c => i = some c) (f := id) l
    fun i _ => ⟨fun _ h => h, fun c h => ⟨c, h, Int.le_refl c⟩⟩
  rw [List.map_id] at this
  exact this.congr fun c => by simp only [exists_eq_right]

theorem minOpt_none {l : List (Option Int)} (h : minOpt l = none) : ∀ c, some c ∉ l :=
  (minOpt_minOf l).none_iff.1 h

theorem take_length_takeWhile {α : Type} (p : α → Bool) (l : List α) :
    l.take (l.takeWhile p).length = l.takeWhile p := by
  have := List.take_left (l₁ := l.takeWhile p) (l₂ := l.dropWhile p)
  rwa [List.takeWhile_append_dropWhile] at this

theorem drop_length_takeWhile {α : Type} (p : α → Bool) (l : List α) :
    l.drop (l.takeWhile p).length = l.dropWhile p := by
  have := List.drop_left (l₁ := l.takeWhile p) (l₂ := l.dropWhile p)
  rwa [List.takeWhile_append_dropWhile] at this

theorem foldl_prefix {α σ : Type} (f : σ → α → σ) (Inv : List α → σ → Prop)
    (hstep : ∀ P s a, Inv P s → Inv (P ++ [a]) (f s a)) (l : List α) :
    ∀ (P : List α) (s : σ), Inv P s → Inv (P ++ l) (l.foldl f s) := by
  induction l with
  | nil => intro P s h; rwa [List.append_nil]
  | cons a l ih =>
    intro P s h
    have := ih (P ++ [a]) _ (hstep P s a h)
    rwa [List.append_assoc] at this

theorem Fit.toNat_lt (f : Fit) : f.toNat < 4 := by cases f <;> decide
theorem Fit.ofIdx_toNat (f : Fit) : Fit.ofIdx f.toNat = f := by cases f <;> rfl
theorem Fit.mem_all (f : Fit) : f ∈ Fit.all := by cases f <;> simp [Fit.all]

theorem idx_div (pos : Option Nat) (f : Fit) : idx pos f / 4 = posIdx pos := by
  unfold idx
  rw [Nat.mul_comm, Nat.mul_add_div (by decide), Nat.div_eq_of_lt f.toNat_lt, Nat.add_zero]
theorem idx_mod (pos : Option Nat) (f : Fit) : idx pos f % 4 = f.toNat := by
  unfold idx
  rw [Nat.mul_comm, Nat.mul_add_mod, Nat.mod_eq_of_lt f.toNat_lt]
theorem idxPos_posIdx (pos : Option Nat) : idxPos (posIdx pos) = pos := by
  cases pos <;> rfl

theorem idx_lt (x : Inst) (pos : Option Nat) (f : Fit) (h : posIdx pos ≤ x.n + 1) :
    idx pos f < rowSize x := by
  unfold idx rowSize; have := f.toNat_lt; omega

theorem idx_inj {pos pos' : Option Nat} {f f' : Fit} (h : idx pos f = idx pos' f') :
    pos = pos' ∧ f = f' := by
  have h1 := congrArg (fun i => idxPos (i / 4)) h
  have h2 := congrArg (fun i => Fit.ofIdx (i % 4)) h
  simp only [idx_div, idx_mod, idxPos_posIdx, Fit.ofIdx_toNat] at h1 h2
  exact ⟨h1, h2⟩

theorem lookup_tabulate (x : Inst) (g : Nat → Option Int) (pos : Option Nat) (f : Fit) :
    lookup ((List.range (rowSize x)).map g).toArray pos f =
      if posIdx pos ≤ x.n + 1 then g (idx pos f) else none := by
  rw [lookup, List.getElem?_toArray, List.getElem?_map]
  split
  · rename_i h
    rw [List.getElem?_range (idx_lt x pos f h)]
    rfl
  · rename_i h
    rw [List.getElem?_eq_none (by unfold idx rowSize; simp only [List.length_range]; omega)]
    rfl

theorem lookup_row0_iff (x : Inst) (pos : Option Nat) (f : Fit) (c : Int) :
    lookup (row0 x) pos f = some c ↔ (pos, f, c) = (none, .decent, 0) := by
  rw [row0, lookup_tabulate]
  constructor
  · intro h
    split at h
    · split at h
      · rename_i heq
        cases h
        obtain ⟨rfl, rfl⟩ := idx_inj heq
        rfl
      · cases h
    · cases h
  · intro h
    cases h
    exact (if_pos (Nat.zero_le _)).trans (if_pos rfl)

theorem cell_idx (x : Inst) (r : Row) (L : Nat) (pos : Option Nat) (f : Fit) :
    cell x r L (idx pos f) =
      match pos with
      | none => none
      | some b =>
        if (breakInfo x b).isSome then
          minOpt ((preds b).flatMap fun prev => Fit.all.map fun f' => cand x r L prev f' b f)
        else none := by
  unfold cell
  rw [idx_div, idx_mod, idxPos_posIdx, Fit.ofIdx_toNat]
  cases pos with
  | none => rfl
  | some b =>
    dsimp only
    cases breakInfo x b <;> rfl

theorem cand_eq_some {x : Inst} {r : Row} {L : Nat} {prev : Option Nat} {f' : Fit} {b : Nat}
    {f : Fit} {c : Int} :
    cand x r L prev f' b f = some c ↔
      ∃ c0 bad, lookup r prev f' = some c0 ∧ lineEval x prev L b = some (bad, f) ∧
        c = c0 + demerits x prev f' b bad f := by
  unfold cand
  cases lookup r prev f' with
  | none => simp
  | some c0 =>
    cases lineEval x prev L b with
    | none => simp
    | some r =>
      obtain ⟨bad, fit⟩ := r
      simp only
      constructor
      · intro h
        split at h
        · rename_i hf
          subst hf
          exact ⟨c0, bad, rfl, rfl, (Option.some.inj h).symm⟩
        · cases h
      · rintro ⟨_, _, h1, h2, rfl⟩
        cases h1
        cases h2
        rw [if_pos rfl]

theorem lineEval_eq_some {x : Inst} {a : Option Nat} {L b : Nat} {r : Int × Fit} :
    lineEval x a L b = some r ↔
      (breakInfo x b).isSome ∧ lt? a b = true ∧ b ≤ x.n ∧ forcedBetween x a b = false ∧
        rate (lineTotals x a b) (lineWidth x.p.widths L) = r ∧ r.1 ≤ threshold x.p := by
  unfold lineEval
  cases breakInfo x b with
  | none => simp
  | some p =>
    simp only [Option.isSome_some, true_and, Bool.not_eq_true]
    split
    · rename_i hc
      simp only [hc, true_and]
      split
      · rename_i ht
        exact ⟨fun h => (Option.some.inj h) ▸ ⟨rfl, ht⟩, fun h => congrArg some h.1⟩
      · rename_i ht
        exact ⟨fun h => (nomatch h), fun h => absurd (h.1 ▸ h.2) ht⟩
    · rename_i hc
      exact ⟨fun h => (nomatch h), fun h => absurd ⟨h.1, h.2.1, h.2.2.1⟩ hc⟩

theorem posIdx_le_of_lt? {a : Option Nat} {b : Nat} (h : lt? a b = true) : posIdx a ≤ b := by
  cases a with
  | none => exact Nat.zero_le b
  | some a0 => exact of_decide_eq_true h

theorem mem_preds {a : Option Nat} {b : Nat} (h : lt? a b = true) : a ∈ preds b := by
  cases a with
  | none => simp [preds]
  | some a =>
    have : a < b := by simpa [lt?] using h
    simp [preds, this]

theorem run_cons_inv {x : Inst} {st st' : St} {a : Nat} {t : List Nat} {c : Int}
    (h : run x st (a :: t) = some (c, st')) :
    ∃ bad fit c2, lineEval x st.pos st.L a = some (bad, fit) ∧
      run x ⟨some a, st.L + 1, fit⟩ t = some (c2, st') ∧
      c = demerits x st.pos st.fit a bad fit + c2 := by
  simp only [run] at h
  split at h
  · cases h
  · rename_i bad fit hl
    split at h
    · cases h
    · rename_i c2 st2 hr
      cases h
      exact ⟨bad, fit, c2, hl, hr, rfl⟩

theorem run_cons {x : Inst} {st st' : St} {a : Nat} {t : List Nat} {bad c2 : Int} {fit : Fit}
    (hl : lineEval x st.pos st.L a = some (bad, fit))
    (hr : run x ⟨some a, st.L + 1, fit⟩ t = some (c2, st')) :
    run x st (a :: t) = some (demerits x st.pos st.fit a bad fit + c2, st') := by
  simp only [run, hl, hr]

theorem run_snoc {x : Inst} {st st0 : St} {s : List Nat} {b : Nat} {c0 bad : Int} {fit : Fit}
    (hr : run x st s = some (c0, st0)) (he : lineEval x st0.pos st0.L b = some (bad, fit)) :
    run x st (s ++ [b]) =
      some (c0 + demerits x st0.pos st0.fit b bad fit, ⟨some b, st0.L + 1, fit⟩) := by
  induction s generalizing st c0 with
  | nil =>
    cases hr
    rw [Int.zero_add, ← Int.add_zero (demerits _ _ _ _ _ _)]
    exact run_cons he rfl
  | cons a t ih =>
    obtain ⟨_, _, _, hl, hr', rfl⟩ := run_cons_inv hr
    rw [List.cons_append, run_cons hl (ih hr'), Int.add_assoc]

theorem run_snoc_inv {x : Inst} {st st' : St} {s : List Nat} {b : Nat} {c : Int}
    (h : run x st (s ++ [b]) = some (c, st')) :
    ∃ c0 st0 bad fit, run x st s = some (c0, st0) ∧
      lineEval x st0.pos st0.L b = some (bad, fit) ∧
      c = c0 + demerits x st0.pos st0.fit b bad fit ∧ st' = ⟨some b, st0.L + 1, fit⟩ := by
  induction s generalizing st c with
  | nil =>
    obtain ⟨bad, fit, _, hl, hr, rfl⟩ := run_cons_inv h
    cases hr
    exact ⟨0, st, bad, fit, rfl, hl, Int.add_comm _ _, rfl⟩
  | cons a t ih =>
    obtain ⟨_, _, _, hl, hr, rfl⟩ := run_cons_inv h
    obtain ⟨c0, st0, bad, fit, hr0, he, rfl, hst⟩ := ih hr
    exact ⟨_, st0, bad, fit, run_cons hl hr0, he, (Int.add_assoc _ _ _).symm, hst⟩

theorem run_last {x : Inst} {st st' : St} {s : List Nat} {c : Int} (h : run x st s = some (c, st')) :
    (s = [] ∧ c = 0 ∧ st' = st) ∨
    ∃ s0 b c0 st0 bad fit, s = s0 ++ [b] ∧ run x st s0 = some (c0, st0) ∧
      lineEval x st0.pos st0.L b = some (bad, fit) ∧
      c = c0 + demerits x st0.pos st0.fit b bad fit ∧ st' = ⟨some b, st0.L + 1, fit⟩ := by
  rcases List.eq_nil_or_concat s with rfl | ⟨s0, b, rfl⟩
  · cases h
    exact Or.inl ⟨rfl, rfl, rfl⟩
  · rw [List.concat_eq_append] at h
    obtain ⟨c0, st0, bad, fit, hr, he, hc, hst⟩ := run_snoc_inv h
    exact Or.inr ⟨s0, b, c0, st0, bad, fit, List.concat_eq_append, hr, he, hc, hst⟩

/-- The sum in this order: from the start state `{}` the right side is `s.length` by computation. -/
theorem run_L {x : Inst} {st st' : St} {s : List Nat} {c : Int} (h : run x st s = some (c, st')) :
    st'.L = s.length + st.L := by
  induction s generalizing st c with
  | nil => cases h; exact (Nat.zero_add _).symm
  | cons a t ih =>
    obtain ⟨_, _, _, _, hr, _⟩ := run_cons_inv h
    have := ih hr
    simp only [List.length_cons] at this ⊢
    omega

theorem run_pos_legal {x : Inst} {s : List Nat} {c : Int} {st : St} (h : run x {} s = some (c, st)) :
    st.pos = none ∨ ∃ b, st.pos = some b ∧ b ≤ x.n ∧ (breakInfo x b).isSome := by
  rcases run_last h with ⟨_, _, rfl⟩ | ⟨_, b, _, _, _, _, _, _, hl, _, rfl⟩
  · exact Or.inl rfl
  · obtain ⟨hbi, _, hbn, _⟩ := lineEval_eq_some.1 hl
    exact Or.inr ⟨b, rfl, hbn, hbi⟩

theorem total_eq_some {x : Inst} {s : List Nat} {d : Int} :
    total x s = some d ↔ ∃ st, run x {} s = some (d, st) ∧ st.pos = some x.n := by
  unfold total
  cases run x {} s with
  | none =>
    constructor
    · intro h; cases h
    · rintro ⟨_, h, _⟩; cases h
  | some r =>
    obtain ⟨c, st⟩ := r
    simp only
    constructor
    · intro h
      split at h
      · rename_i hpos
        cases h
        exact ⟨st, rfl, hpos⟩
      · cases h
    · rintro ⟨st', h, hpos⟩
      cases h
      rw [if_pos hpos]

theorem feasible_iff {x : Inst} {s : List Nat} : Feasible x s ↔ ∃ d, total x s = some d :=
  Option.isSome_iff_exists

theorem total_run {x : Inst} {s : List Nat} {d : Int} (h : total x s = some d) :
    ∃ f, run x {} s = some (d, ⟨some x.n, s.length, f⟩) := by
  obtain ⟨⟨pos, L, f⟩, hr, hpos⟩ := total_eq_some.1 h
  cases hpos
  cases (run_L hr : L = s.length)
  exact ⟨f, hr⟩

theorem run_len_le {x : Inst} {st st' : St} {s : List Nat} {c : Int} (h : run x st s = some (c, st')) :
    posIdx st.pos + s.length ≤ posIdx st'.pos := by
  induction s generalizing st c with
  | nil => cases h; exact Nat.le_refl _
  | cons a t ih =>
    obtain ⟨_, _, _, hl, hr, _⟩ := run_cons_inv h
    have h1 := posIdx_le_of_lt? (lineEval_eq_some.1 hl).2.1
    have h2 : a + 1 + t.length ≤ posIdx st'.pos := ih hr
    rw [List.length_cons]
    omega

theorem total_length_le {x : Inst} {s : List Nat} {d : Int} (ht : total x s = some d) :
    s.length ≤ x.n + 1 := by
  obtain ⟨f, hr⟩ := total_run ht
  have := run_len_le hr
  simp [posIdx] at this
  omega

theorem lookup_nextRow (x : Inst) (r : Row) (L : Nat) (pos : Option Nat) (f : Fit) :
    MinOf (fun c => ∃ b prev f' c0 bad, pos = some b ∧ lookup r prev f' = some c0 ∧
        lineEval x prev L b = some (bad, f) ∧ c = c0 + demerits x prev f' b bad f)
      (lookup (nextRow x r L) pos f) := by
  refine ⟨fun c h => ?_, fun c ⟨b, prev, f', c0, bad, hp, hl, he, hc⟩ => ?_⟩
  · rw [nextRow, lookup_tabulate, cell_idx] at h
    split at h
    · split at h
      · cases h
      · split at h
        · have hm := (minOpt_minOf _).mem h
          simp only [List.mem_flatMap, List.mem_map] at hm
          obtain ⟨prev, _, f', _, hc⟩ := hm
          obtain ⟨c0, bad, hl, he, rfl⟩ := cand_eq_some.1 hc
          exact ⟨_, prev, f', c0, bad, rfl, hl, he, rfl⟩
        · cases h
    · cases h
  · subst hp
    obtain ⟨hbi, hlt, hbn, _⟩ := lineEval_eq_some.1 he
    rw [nextRow, lookup_tabulate, cell_idx,
      if_pos (show posIdx (some b) ≤ x.n + 1 from Nat.succ_le_succ hbn)]
    simp only [if_pos hbi]
    apply (minOpt_minOf _).le
    simp only [List.mem_flatMap, List.mem_map]
    exact ⟨prev, mem_preds hlt, f', Fit.mem_all _, cand_eq_some.2 ⟨c0, bad, hl, he, hc⟩⟩

theorem row_minOf (x : Inst) (L : Nat) (pos : Option Nat) (f : Fit) :
    MinOf (fun c => ∃ s, s.length = L ∧ run x {} s = some (c, ⟨pos, L, f⟩))
      (lookup (row x L) pos f) := by
  induction L generalizing pos f with
  | zero =>
    refine ⟨fun c h => ?_, fun c ⟨s, hs, hr⟩ => ?_⟩
    · cases (lookup_row0_iff x pos f c).1 h
      exact ⟨[], rfl, rfl⟩
    · rw [List.eq_nil_of_length_eq_zero hs] at hr
      cases hr
      exact ⟨0, (lookup_row0_iff x none .decent 0).2 rfl, Int.le_refl _⟩
  | succ L ih =>
    have hn := lookup_nextRow x (row x L) L pos f
    refine ⟨fun c h => ?_, fun c ⟨s, hs, hr⟩ => ?_⟩
    · obtain ⟨b, prev, f', c0, bad, rfl, hl, he, rfl⟩ := hn.mem h
      obtain ⟨s, hs, hrun⟩ := (ih prev f').mem hl
      exact ⟨s ++ [b], by simp [hs], run_snoc (st0 := ⟨prev, L, f'⟩) hrun he⟩
    · rcases run_last hr with ⟨rfl, _, _⟩ | ⟨s0, b, c0, ⟨p0, L0, f0⟩, bad, fit, rfl, hr0, he, rfl, hst⟩
      · cases hs
      · cases hst
        obtain ⟨c1, hl, hle⟩ := (ih p0 f0).le ⟨s0, by simpa using hs, hr0⟩
        obtain ⟨c2, hc2, hle2⟩ := hn.le ⟨b, p0, f0, c1, bad, rfl, hl, he, rfl⟩
        exact ⟨c2, hc2, Int.le_trans hle2 (Int.add_le_add_right hle _)⟩

theorem dp_minOf (x : Inst) (L : Nat) :
    MinOf (fun d => ∃ s, s.length = L ∧ total x s = some d) (dp x L) := by
  refine (MinOf.union Fit.all fun f _ => row_minOf x L (some x.n) f).congr fun d => ?_
  constructor
  · rintro ⟨f, _, s, hs, hr⟩
    exact ⟨s, hs, total_eq_some.2 ⟨_, hr, rfl⟩⟩
  · rintro ⟨s, rfl, ht⟩
    obtain ⟨f, hr⟩ := total_run ht
    exact ⟨f, Fit.mem_all f, s, rfl, hr⟩

theorem dpBest_minOf (x : Inst) : MinOf (fun d => ∃ s, total x s = some d) (dpBest x) := by
  refine (MinOf.union (List.range (x.n + 2)) fun L _ => dp_minOf x L).congr fun d => ?_
  constructor
  · rintro ⟨_, _, s, _, ht⟩
    exact ⟨s, ht⟩
  · rintro ⟨s, ht⟩
    exact ⟨s.length, List.mem_range.2 (Nat.lt_succ_of_le (total_length_le ht)), s, rfl, ht⟩

/-! ## Sparse rows

A row of `dp` has `4 (n + 2)` cells and each cell looks at every earlier cell, but only the
cells that hold a cost matter: an empty cell offers nothing to `minOpt`. A sparse row lists the
cells that are there, the next one is computed from them alone, and `dp`, `dpBest` read off it are
those of the dense rows (`dp_eq_sparse`, `dpBest_eq_sparse`). The examples of `Props/C04.lean`
evaluate `dp` and `dpBest` through these, the dense rows being slow to check. -/

abbrev SRow := List (Option Nat × Fit × Int)

/-- `live` lists the entries of the row `r`. -/
def Rep (r : Row) (live : SRow) : Prop := ∀ pos f c, lookup r pos f = some c ↔ (pos, f, c) ∈ live

/-- Fitness class and cost of every feasible line to `b` from an entry of the row. -/
def sOffers (x : Inst) (live : SRow) (L b : Nat) : List (Fit × Int) :=
  live.filterMap fun e =>
    (lineEval x e.1 L b).map fun r => (r.2, e.2.2 + demerits x e.1 e.2.1 b r.1 r.2)

def sCell (x : Inst) (live : SRow) (L b : Nat) (f : Fit) : Option Int :=
  minOpt ((sOffers x live L b).map fun r => if r.1 = f then some r.2 else none)

def sNext (x : Inst) (live : SRow) (L : Nat) : SRow :=
  (List.range (x.n + 1)).flatMap fun b =>
    Fit.all.filterMap fun f => (sCell x live L b f).map fun c => (some b, f, c)

def sRow (x : Inst) : Nat → SRow
  | 0 => [(none, .decent, 0)]
  | L + 1 => sNext x (sRow x L) L

def sDp (x : Inst) (live : SRow) : Option Int :=
  minOpt (live.map fun e => if e.1 = some x.n then some e.2.2 else none)

theorem sCell_eq {x : Inst} {r : Row} {live : SRow} (h : Rep r live) (L b : Nat) (f : Fit) :
    sCell x live L b f = lookup (nextRow x r L) (some b) f := by
  refine ((lookup_nextRow x r L (some b) f).congr fun c => ⟨fun hc => ?_, fun hc => ?_⟩).unique
    (minOpt_minOf _)
  · obtain ⟨_, prev, f', c0, bad, hb, hl, he, rfl⟩ := hc
    cases hb
    exact List.mem_map.2 ⟨(f, c0 + demerits x prev f' b bad f), List.mem_filterMap.2
      ⟨(prev, f', c0), (h _ _ _).1 hl, by simp [he]⟩, if_pos rfl⟩
  · obtain ⟨⟨g, c'⟩, ho, hg⟩ := List.mem_map.1 hc
    obtain ⟨⟨prev, f', c0⟩, he, hr⟩ := List.mem_filterMap.1 ho
    cases hle : lineEval x prev L b with
    | none => simp [hle] at hr
    | some bf =>
      obtain ⟨bad, fit⟩ := bf
      simp only [hle, Option.map_some, Option.some.injEq, Prod.mk.injEq] at hr
      obtain ⟨rfl, rfl⟩ := hr
      split at hg
      · rename_i hf
        cases hg
        cases hf
        exact ⟨b, prev, f', c0, bad, rfl, (h _ _ _).2 he, hle, rfl⟩
      · cases hg

theorem rep_next {x : Inst} {r : Row} {live : SRow} (h : Rep r live) (L : Nat) :
    Rep (nextRow x r L) (sNext x live L) := by
  intro pos f c
  unfold sNext
  simp only [List.mem_flatMap, List.mem_range, List.mem_filterMap, Option.map_eq_some_iff,
    Prod.mk.injEq]
  constructor
  · intro hl
    obtain ⟨b, _, _, _, _, rfl, _, he, _⟩ := (lookup_nextRow x r L pos f).mem hl
    exact ⟨b, Nat.lt_succ_of_le (lineEval_eq_some.1 he).2.2.1, f, Fit.mem_all f, c,
      by rw [sCell_eq h]; exact hl, rfl, rfl, rfl⟩
  · rintro ⟨b, _, f0, _, c0, hc, rfl, rfl, rfl⟩
    rw [← sCell_eq h]; exact hc

theorem rep_row (x : Inst) (L : Nat) : Rep (row x L) (sRow x L) := by
  induction L with
  | zero =>
    intro pos f c
    rw [sRow, List.mem_singleton]
    exact lookup_row0_iff x pos f c
  | succ L ih => exact rep_next ih L

theorem sDp_eq {x : Inst} {r : Row} {live : SRow} (h : Rep r live) : sDp x live = dpOf x r := by
  refine ((minOpt_minOf _).congr fun c => ⟨fun hc => ?_, fun hc => ?_⟩).unique (minOpt_minOf _)
  · obtain ⟨f, _, hl⟩ := List.mem_map.1 hc
    exact List.mem_map.2 ⟨(some x.n, f, c), (h _ _ _).1 hl, if_pos rfl⟩
  · obtain ⟨⟨pos, f, c0⟩, he, hr⟩ := List.mem_map.1 hc
    split at hr
    · rename_i hp
      cases hr
      cases hp
      exact List.mem_map.2 ⟨f, Fit.mem_all f, (h _ _ _).2 he⟩
    · cases hr

theorem dp_eq_sparse (x : Inst) (L : Nat) : dp x L = sDp x (sRow x L) := (sDp_eq (rep_row x L)).symm

theorem dpBest_eq_sparse (x : Inst) :
    dpBest x = minOpt ((List.range (x.n + 2)).map fun L => sDp x (sRow x L)) :=
  congrArg minOpt (List.map_congr_left fun L _ => dp_eq_sparse x L)

end C04
