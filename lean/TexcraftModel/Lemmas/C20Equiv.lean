import TexcraftModel.Lemmas.C20GMap

/-!
# C20 — why mutant 14 of the sweep (`mutants/C20/14-end-revert-via-get-mut.diff`) is equivalent

The mutant replaces, in `end_group`, `self.backing_container.insert(key, old_val)` by
`if let Some(r) = self.backing_container.get_mut(&key) { *r = old_val; }`: the saved value is
restored only if the key is currently present.
-/
namespace C20
variable {K V : Type} [DecidableEq K]

/-- The `end_group` loop of mutant 14. -/
def GMap.applyLogGetMut : AList K (Action V) → AList K V → AList K V
  | [], bc => bc
  | (k, .delete) :: t, bc => applyLogGetMut t (aerase k bc)
  | (k, .revert v) :: t, bc =>
    applyLogGetMut t (match alookup bc k with
      | some _ => ainsert k v bc      -- `*r = old_val`
      | none => bc)                   -- key absent: nothing restored

/-- `end_group` of mutant 14. -/
def GMap.endGroupGetMut (m : GMap K V) : Option (GMap K V) :=
  match m.groups with
  | [] => none
  | g :: gs => some { bc := GMap.applyLogGetMut g m.bc, groups := gs }

theorem applyLogGetMut_eq (g : AList K (Action V)) (bc : AList K V) (hn : NodupKeys g)
    (hv : ∀ k, (alookup g k).isSome → (alookup bc k).isSome) :
    GMap.applyLogGetMut g bc = GMap.applyLog g bc := by
  induction g generalizing bc with
  | nil => rfl
  | cons p t ih =>
    obtain ⟨k, a⟩ := p
    obtain ⟨hk, hnt⟩ := (nodupKeys_cons k a t).mp hn
    cases a with
    | delete =>
      exact ih _ hnt fun k' h' => by rw [alookup_aerase]; exact logged_tail_visible hk hv none k' h'
    | revert v =>
      obtain ⟨old, hb⟩ := Option.isSome_iff_exists.mp (hv k (by rw [alookup_cons, if_pos rfl]; rfl))
      simp only [GMap.applyLogGetMut, GMap.applyLog, hb]
      exact ih _ hnt fun k' h' => by rw [alookup_ainsert]; exact logged_tail_visible hk hv (some v) k' h'

/-- Mutant 14 is equivalent on every map that satisfies the invariant (hence on every reachable
map): restoring "only if present" never skips, because a logged key is always visible. -/
theorem endGroup_getMut_equiv (m : GMap K V) (h : Inv m) : m.endGroupGetMut = m.endGroup := by
  obtain ⟨bc, groups⟩ := m
  cases groups with
  | nil => rfl
  | cons g gs =>
    exact congrArg (fun b => some (GMap.mk b gs))
      (applyLogGetMut_eq g bc (h.logsNodup g List.mem_cons_self) (h.visible g List.mem_cons_self))

/-- The hypothesis is needed: on a map violating `Inv.visible` the two differ. -/
example :
    let m : GMap Nat Nat := { bc := [], groups := [[(0, .revert 7)]] }
    (m.endGroupGetMut.map (·.bc)) = some [] ∧ (m.endGroup.map (·.bc)) = some [(0, 7)] := by decide

end C20
