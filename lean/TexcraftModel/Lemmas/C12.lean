import TexcraftModel.Model.C12

/-! Lemmas for C12: `post_line_break` by induction over the break points, and the interline glue. -/
namespace C12

/-! `breakPart` as three functions of the item at the break position (`none` = the final break,
past the end of the list). -/

def brkOf : Option Item → List Item
  | some it => visible it
  | none => []

def pendOf : Option Item → Option (List Elem)
  | some (.disc _ post _) => some post
  | _ => none

def skipOf : Option Item → Nat
  | some it => it.replace
  | none => 0

/-- The item at the break, if any, is a discretionary. -/
def isDiscOpt : Option Item → Bool
  | some (.disc _ _ _) => true
  | _ => false

theorem breakPart_ok {o : Option Item} {brk : List Item} {pd : Option (List Elem)} {sk : Nat}
    (h : breakPart o = .ok (brk, pd, sk)) : brk = brkOf o ∧ pd = pendOf o ∧ sk = skipOf o := by
  cases o with
  | none => cases h; exact ⟨rfl, rfl, rfl⟩
  | some it => cases it <;> cases h <;> exact ⟨rfl, rfl, rfl⟩

theorem breakPart_of_isBreak {o : Option Item} (h : ∀ it, o = some it → it.isBreak = true) :
    breakPart o = .ok (brkOf o, pendOf o, skipOf o) := by
  cases o with
  | none => rfl
  | some it =>
    have := h it rfl
    cases it with
    | box _ | inert _ => cases this
    | _ => rfl

theorem postOf_pendOf (o : Option Item) : pendingItems (pendOf o) = postOf o := by
  cases o with
  | none => rfl
  | some it => cases it <;> rfl

theorem isSome_pendOf (o : Option Item) : (pendOf o).isSome = isDiscOpt o := by
  cases o with
  | none => rfl
  | some it => cases it <;> rfl

theorem shouldPrune_pendOf (o : Option Item) : shouldPrune (pendOf o) = (postOf o).isEmpty := by
  cases o with
  | none => rfl
  | some it => cases it <;> simp [shouldPrune, pendOf, postOf]

theorem stripPrefix_append (a r : List Item) : stripPrefix a (a ++ r) = some r := by
  induction a with
  | nil => rfl
  | cons x xs ih => simp only [List.cons_append, stripPrefix, if_true, ih]

theorem stripSuffix_append (r s : List Item) : stripSuffix s (r ++ s) = some r := by
  simp only [stripSuffix, List.reverse_append, stripPrefix_append, Option.map_some, List.reverse_reverse]

theorem lineBody_flat (p : Params) (prev brk : Option Item) (body : List Item) :
    lineBody p prev brk (leftPart p ++ (postOf prev ++ (body ++ (brkOf brk ++ [.glue 0 p.rightSkip])))) =
      some body := by
  simp only [lineBody, stripPrefix_append, Option.bind_some]
  rw [← List.append_assoc, stripSuffix_append]
  exact stripSuffix_append _ _

theorem validFrom_single {l : List Item} {lo b : Nat} :
    validFrom l lo [b] = true ↔ lo ≤ b ∧ b = l.length := by
  simp only [validFrom, Bool.and_eq_true, decide_eq_true_eq]

theorem validFrom_cons_cons {l : List Item} {lo b nb : Nat} {r : List Nat} :
    validFrom l lo (b :: nb :: r) = true ↔
      lo ≤ b ∧ ∃ it, l[b]? = some it ∧ it.isBreak = true ∧
        validFrom l (b + 1 + it.replace) (nb :: r) = true := by
  simp only [validFrom, Bool.and_eq_true, decide_eq_true_eq]
  cases hit : l[b]? with
  | none => simp
  | some it =>
    have hlt : b < l.length := (List.getElem?_eq_some_iff.mp hit).1
    simp [hlt]

/-- What a valid break sequence says about its first break, the final break and an inner one
alike. -/
theorem validFrom_cons {l : List Item} {lo b : Nat} {rest : List Nat}
    (h : validFrom l lo (b :: rest) = true) :
    lo ≤ b ∧ b ≤ l.length ∧ (∀ it, l[b]? = some it → it.isBreak = true) ∧
      (rest ≠ [] → validFrom l (b + 1 + skipOf l[b]?) rest = true) := by
  cases rest with
  | nil =>
    obtain ⟨h1, rfl⟩ := validFrom_single.mp h
    refine ⟨h1, Nat.le_refl _, fun it hit => ?_, fun hne => absurd rfl hne⟩
    rw [List.getElem?_eq_none (Nat.le_refl _)] at hit
    cases hit
  | cons nb r =>
    obtain ⟨h1, it, hit, hbrk, hv⟩ := validFrom_cons_cons.mp h
    rw [hit]
    exact ⟨h1, Nat.le_of_lt (List.getElem?_eq_some_iff.mp hit).1, fun _ hit' => by cases hit'; exact hbrk,
      fun _ => hv⟩

theorem validFrom_of_le {l : List Item} {lo lo' b : Nat} {rest : List Nat}
    (h : validFrom l lo (b :: rest) = true) (hle : lo' ≤ b) : validFrom l lo' (b :: rest) = true := by
  cases rest with
  | nil => rw [validFrom_single] at h ⊢; exact ⟨hle, h.2⟩
  | cons nb r => rw [validFrom_cons_cons] at h ⊢; exact ⟨hle, h.2⟩

theorem validFrom_last (l : List Item) :
    ∀ (bs : List Nat) (lo : Nat), validFrom l lo bs = true → bs.getLast? = some l.length
  | [], _, h => by cases h
  | [b], _, h => by rw [(validFrom_single.mp h).2]; rfl
  | b :: nb :: r, _, h => by
    obtain ⟨_, it, _, _, hv⟩ := validFrom_cons_cons.mp h
    rw [List.getLast?_cons_cons]
    exact validFrom_last l (nb :: r) _ hv

theorem pruneCount_ok : ∀ {xs : List Item} {n k : Nat}, pruneCount xs n = .ok k →
    k ≤ n ∧ (xs.take n).takeWhile Item.discardable = xs.take k ∧
      startsClean [] ((xs.drop k).take (n - k)) = true
  | _, 0, k, h => by
    rw [pruneCount] at h
    cases h; exact ⟨Nat.le_refl 0, rfl, rfl⟩
  | [], _ + 1, _, h => by cases h
  | it :: t, n + 1, k, h => by
    rw [pruneCount] at h
    cases hd : it.nonDiscardable with
    | true =>
      rw [hd, if_pos rfl] at h
      cases h
      exact ⟨Nat.zero_le _, by simp [Item.discardable, hd], by simp [startsClean, hd]⟩
    | false =>
      rw [hd] at h
      cases hr : pruneCount t n with
      | error e => rw [hr] at h; cases h
      | ok k' =>
        rw [hr] at h
        cases h
        obtain ⟨h1, h2, h3⟩ := pruneCount_ok hr
        exact ⟨Nat.succ_le_succ h1, by simp [Item.discardable, hd, h2],
          by rw [Nat.succ_sub_succ]; exact h3⟩

theorem pruneCount_total : ∀ (xs : List Item) (n : Nat), n ≤ xs.length → ∃ k, pruneCount xs n = .ok k
  | _, 0, _ => ⟨0, by rw [pruneCount]⟩
  | [], _ + 1, h => absurd h (Nat.not_succ_le_zero _)
  | it :: t, n + 1, h => by
    rw [pruneCount]
    cases it.nonDiscardable with
    | true => exact ⟨0, rfl⟩
    | false =>
      obtain ⟨k, hk⟩ := pruneCount_total t n (Nat.le_of_succ_le_succ h)
      exact ⟨k + 1, by rw [hk]; rfl⟩

theorem pruneAfter_total {l : List Item} (pd : Option (List Elem)) {s : Nat} {rest : List Nat}
    (h : rest ≠ [] → validFrom l s rest = true) :
    ∃ k, pruneAfter l pd s rest = .ok k ∧ (rest ≠ [] → validFrom l (s + k) rest = true) := by
  unfold pruneAfter
  cases shouldPrune pd with
  | false => exact ⟨0, rfl, h⟩
  | true =>
    cases rest with
    | nil => exact ⟨0, rfl, h⟩
    | cons nb r =>
      have hv := h (List.cons_ne_nil _ _)
      obtain ⟨h1, h2, _⟩ := validFrom_cons hv
      obtain ⟨k, hk⟩ := pruneCount_total (l.drop s) (nb - s) (by rw [List.length_drop]; omega)
      have := (pruneCount_ok hk).1
      exact ⟨k, hk, fun _ => validFrom_of_le hv (by omega)⟩

/-- The left side of the first conjunct is what `goneAfter` lists after the replaced items. -/
theorem pruneAfter_ok {l : List Item} {o : Option Item} {s nb k : Nat} {rest : List Nat}
    (h : pruneAfter l (pendOf o) s (nb :: rest) = .ok k) :
    (if (postOf o).isEmpty then ((l.drop s).take (nb - s)).takeWhile Item.discardable else []) =
        (l.drop s).take k ∧
      startsClean (postOf o) ((l.drop (s + k)).take (nb - (s + k))) = true := by
  simp only [pruneAfter, shouldPrune_pendOf] at h
  cases hp : (postOf o).isEmpty with
  | false =>
    rw [hp] at h
    cases h
    simp [startsClean, hp]
  | true =>
    rw [hp, if_pos rfl] at h
    obtain ⟨_, h2, h3⟩ := pruneCount_ok h
    rw [List.drop_drop, Nat.sub_sub] at h3
    exact ⟨by rw [if_pos rfl, h2], by rw [List.isEmpty_iff.mp hp]; exact h3⟩

/-- `hk` is what `pruneAfter_ok` says of the number `k` of pruned items. -/
theorem goneAfter_split {l : List Item} {s b nb k : Nat} {it : Item} (hs : s ≤ b) (hit : l[b]? = some it)
    (hk : (if (postOf (some it)).isEmpty then
        ((l.drop (b + 1 + it.replace)).take (nb - (b + 1 + it.replace))).takeWhile Item.discardable
      else []) = (l.drop (b + 1 + it.replace)).take k) :
    (l.drop s).take (b - s) ++ (it :: goneAfter l b nb ++ l.drop (b + 1 + it.replace + k)) = l.drop s := by
  obtain ⟨hlt, rfl⟩ := List.getElem?_eq_some_iff.mp hit
  have hb : l.drop b = (l.drop s).drop (b - s) := by rw [List.drop_drop, Nat.add_sub_cancel' hs]
  simp only [goneAfter, hit, hk]
  -- one `take_append_drop` per piece: `List.take_add` would bring in `Classical.choice`
  rw [List.cons_append, ← List.drop_drop (i := k), List.append_assoc, List.take_append_drop,
    ← List.drop_drop (j := b + 1), List.take_append_drop, ← List.drop_eq_getElem_cons hlt, hb,
    List.take_append_drop]

/-- The break at position `b` is at a discretionary: §890 then adds `\brokenpenalty`. -/
def isDiscAt (l : List Item) (b : Nat) : Bool := isDiscOpt l[b]?

/-- `ln` is line `idx` as `step` builds it: the slice from `start` to the break at `b`, with the
post-break half of `prev`, the item at the previous break, in front. -/
structure LineAt (p : Params) (l : List Item) (n idx start : Nat) (prev : Option Item)
    (b : Nat) (ln : Line) : Prop where
  left : ln.left = leftPart p
  post : ln.post = postOf prev
  body : ln.body = (l.drop start).take (b - start)
  brk : ln.brk = brkOf l[b]?
  right : ln.right = .glue 0 p.rightSkip
  width : lineWidth p.widths idx = .ok ln.width
  indent : ln.indent = lineIndent p.indents idx
  pen : linePenalty p n idx (isDiscAt l b) = .ok ln.pen

theorem LineAt.lineBody {p : Params} {l : List Item} {n idx start : Nat} {prev : Option Item}
    {b : Nat} {ln : Line} (h : LineAt p l n idx start prev b ln) :
    lineBody p prev l[b]? ln.flat = some ((l.drop start).take (b - start)) := by
  rw [Line.flat, h.left, h.post, h.body, h.brk, h.right]
  exact lineBody_flat p _ _ _

/-- The loop's pending material is always the post-break half of the item at the previous break
(`pendOf prev`; every value is of that form). -/
theorem step_ok {p : Params} {l : List Item} {n idx start : Nat} {prev : Option Item}
    {bp : Nat} {rest : List Nat} {ln : Line} {start' : Nat} {pend' : Option (List Elem)}
    (h : step p l n idx start (pendOf prev) bp rest = .ok (ln, start', pend')) :
    LineAt p l n idx start prev bp ln ∧ pend' = pendOf l[bp]? ∧
    ∀ nb, rest[0]? = some nb →
      startsClean (postOf l[bp]?) ((l.drop start').take (nb - start')) = true ∧
      ∀ it, l[bp]? = some it →
        (l.drop start).take (bp - start) ++ (it :: goneAfter l bp nb ++ l.drop start') = l.drop start := by
  rw [step] at h
  split at h
  · cases h
  · rename_i hs
    split at h
    · cases h
    · rename_i brk pd skip hb
      obtain ⟨rfl, rfl, rfl⟩ := breakPart_ok hb
      split at h
      · cases h
      · rename_i k hk
        split at h
        · cases h
        · rename_i w hw
          dsimp only at h
          split at h
          · cases h
          · split at h
            · cases h
            · rename_i pen hpen
              cases h
              rw [isSome_pendOf] at hpen
              refine ⟨⟨rfl, postOf_pendOf prev, rfl, rfl, rfl, hw, rfl, hpen⟩, rfl, fun nb hnb => ?_⟩
              cases rest with
              | nil => cases hnb
              | cons nb' r =>
                cases hnb
                obtain ⟨h1, h2⟩ := pruneAfter_ok hk
                refine ⟨h2, fun it hit => ?_⟩
                rw [hit, skipOf] at h1 ⊢
                exact goneAfter_split (Decidable.not_not.mp hs).1 hit h1

theorem go_cons_ok {p : Params} {l : List Item} {n idx start : Nat} {pending : Option (List Elem)}
    {b : Nat} {rest : List Nat} {lines : List Line}
    (h : go p l n idx start pending (b :: rest) = .ok lines) :
    ∃ ln start' pend' ls, step p l n idx start pending b rest = .ok (ln, start', pend') ∧
      go p l n (idx + 1) start' pend' rest = .ok ls ∧ lines = ln :: ls := by
  rw [go] at h
  split at h
  · cases h
  · rename_i ln start' pend' hstep
    split at h
    · cases h
    · rename_i ls hgo
      cases h
      exact ⟨ln, start', pend', ls, hstep, hgo, rfl⟩

theorem go_conserve (p : Params) (l : List Item) (n : Nat) :
    ∀ (bs : List Nat) (idx start : Nat) (prev : Option Item) (lo : Nat) (lines : List Line),
      validFrom l lo bs = true →
      go p l n idx start (pendOf prev) bs = .ok lines →
      reassembleFrom p prev (lines.map Line.flat) (droppedOf l bs) = some (l.drop start)
  | [], _, _, _, _, _, hv, _ => by cases hv
  | b :: rest, idx, start, prev, lo, lines, hv, h => by
    obtain ⟨ln, start', pend', ls, hstep, hgo, rfl⟩ := go_cons_ok h
    obtain ⟨hln, rfl, hnext⟩ := step_ok hstep
    have hb := hln.lineBody
    cases rest with
    | nil =>
      cases hgo
      obtain ⟨_, rfl⟩ := validFrom_single.mp hv
      rw [List.getElem?_eq_none (Nat.le_refl _),
        List.take_of_length_le (by rw [List.length_drop]; exact Nat.le_refl _)] at hb
      exact hb
    | cons nb rest =>
      obtain ⟨_, it, hit, _, hvrest⟩ := validFrom_cons_cons.mp hv
      rw [hit] at hgo hb
      have hih := go_conserve p l n (nb :: rest) _ _ (some it) _ ls hvrest hgo
      simp only [List.map_cons, droppedOf, hit, reassembleFrom, hb, hih, Option.bind_some,
        Option.map_some, Option.some.injEq]
      exact (hnext nb rfl).2 it hit

theorem go_shape (p : Params) (l : List Item) (n : Nat) :
    ∀ (bs : List Nat) (idx start : Nat) (prev : Option Item) (lines : List Line),
      go p l n idx start (pendOf prev) bs = .ok lines →
      lines.length = bs.length ∧
      ∀ (i : Nat) (ln : Line) (b : Nat), lines[i]? = some ln → bs[i]? = some b →
        ∃ s, LineAt p l n (i + idx) s
          (match i with | 0 => prev | j + 1 => (bs[j]?).bind (l[·]?)) b ln ∧
          (i = 0 → s = start) ∧ (0 < i → startsClean ln.post ln.body = true)
  | [], _, _, _, _, h => by cases h; exact ⟨rfl, fun _ _ _ _ hb => nomatch hb⟩
  | b0 :: rest, idx, start, prev, lines, h => by
    obtain ⟨ln0, start', pend', ls, hstep, hgo, rfl⟩ := go_cons_ok h
    obtain ⟨hln0, rfl, hnext⟩ := step_ok hstep
    obtain ⟨hlen, ih⟩ := go_shape p l n rest (idx + 1) start' l[b0]? ls hgo
    refine ⟨congrArg (· + 1) hlen, fun i ln b hi hb => ?_⟩
    cases i with
    | zero =>
      cases hi; cases hb
      exact ⟨start, (Nat.zero_add idx).symm ▸ hln0, fun _ => rfl, fun h => absurd h (Nat.lt_irrefl 0)⟩
    | succ j =>
      obtain ⟨s, hln, hs, hc⟩ := ih j ln b hi hb
      rw [← Nat.add_assoc, Nat.add_right_comm] at hln
      cases j with
      | zero =>
        -- the first line of the rest starts where `step` said the next line starts
        refine ⟨s, hln, nofun, fun _ => ?_⟩
        rw [hln.post, hln.body, hs rfl]
        exact (hnext b hb).1
      | succ j' => exact ⟨s, hln, nofun, fun _ => hc (Nat.succ_pos _)⟩

theorem go_last (p : Params) (l : List Item) (n : Nat) (bs : List Nat) (idx start : Nat)
    (prev : Option Item) (lo : Nat) (lines : List Line)
    (hv : validFrom l lo bs = true) (h : go p l n idx start (pendOf prev) bs = .ok lines) :
    ∃ ln, lines.getLast? = some ln ∧ ln.brk = [] ∧ ∃ k, ln.body = l.drop k := by
  obtain ⟨hlen, hshape⟩ := go_shape p l n bs idx start prev lines h
  have hb := validFrom_last l bs lo hv
  rw [List.getLast?_eq_getElem?, ← hlen] at hb
  have hpos : 0 < lines.length := by
    cases bs with
    | nil => cases hv
    | cons => rw [hlen]; exact Nat.succ_pos _
  have hln := List.getElem?_eq_getElem (Nat.sub_lt hpos Nat.one_pos)
  obtain ⟨s, hl, _⟩ := hshape _ _ _ hln hb
  refine ⟨_, by rw [List.getLast?_eq_getElem?]; exact hln, ?_, s, ?_⟩
  · rw [hl.brk, List.getElem?_eq_none (Nat.le_refl _)]; rfl
  · rw [hl.body, List.take_of_length_le (by rw [List.length_drop]; exact Nat.le_refl _)]

theorem addI32_ok {a b c : Int} (h : addI32 a b = .ok c) : c = a + b := by
  unfold addI32 at h
  split at h <;> cases h
  rfl

theorem condAdd_ok {cond : Prop} [Decidable cond] {a b c : Int}
    (h : (if cond then addI32 a b else .ok a) = .ok c) : c = a + (if cond then b else 0) := by
  by_cases hc : cond
  · rw [if_pos hc] at h ⊢; exact addI32_ok h
  · rw [if_neg hc] at h ⊢; cases h; exact (Int.add_zero _).symm

theorem linePenalty_ok {p : Params} {n idx : Nat} {d : Bool} {r : Option Int}
    (h : linePenalty p n idx d = .ok r) :
    r = if idx + 1 = n then none
        else if penaltySpec p n idx d = 0 then none else some (penaltySpec p n idx d) := by
  by_cases h1 : idx + 1 = n
  · rw [linePenalty, if_pos h1] at h; cases h; rw [if_pos h1]
  · rw [linePenalty, if_neg h1] at h; rw [if_neg h1]
    split at h
    · cases h
    · rename_i p1 e1
      split at h
      · cases h
      · rename_i p2 e2
        split at h
        · cases h
        · rename_i p3 e3
          cases h
          have : p3 = penaltySpec p n idx d := by
            rw [condAdd_ok e3, condAdd_ok e2, condAdd_ok e1]; rfl
          rw [← this]
          exact ite_not ..

/-- The absolute values of the four inter-line penalties add up to at most `2^31 - 1`, so no
partial sum of them leaves `i32`. -/
def penFits (p : Params) : Prop :=
  p.interLine.natAbs + p.club.natAbs + p.widow.natAbs + p.broken.natAbs ≤ 2147483647

theorem inI32_of_natAbs_le {x : Int} (h : x.natAbs ≤ 2147483647) : inI32 x = true := by
  unfold inI32; rw [decide_eq_true_eq]; omega

/-- The bound on the result is the hypothesis `ha` of the next addition. -/
theorem condAdd_bounded {c : Prop} [Decidable c] {a b : Int} {A : Nat}
    (ha : a.natAbs ≤ A) (h : A + b.natAbs ≤ 2147483647) :
    ∃ r, (if c then addI32 a b else .ok a) = .ok r ∧ r.natAbs ≤ A + b.natAbs := by
  have hab : (a + b).natAbs ≤ A + b.natAbs :=
    Nat.le_trans (Int.natAbs_add_le a b) (Nat.add_le_add_right ha _)
  by_cases hc : c
  · exact ⟨a + b, by simp only [hc, if_true, addI32, inI32_of_natAbs_le (Nat.le_trans hab h)], hab⟩
  · exact ⟨a, by simp only [hc, if_false], Nat.le_trans ha (Nat.le_add_right _ _)⟩

theorem linePenalty_total {p : Params} (hf : penFits p) (n idx : Nat) (d : Bool) :
    ∃ r, linePenalty p n idx d = .ok r := by
  have h2 := Nat.le_trans (Nat.le_add_right _ _) hf
  have h1 := Nat.le_trans (Nat.le_add_right _ _) h2
  obtain ⟨p1, e1, b1⟩ := condAdd_bounded (c := idx = 0) (Nat.le_refl _) h1
  obtain ⟨p2, e2, b2⟩ := condAdd_bounded (c := idx + 2 = n) b1 h2
  obtain ⟨p3, e3, _⟩ := condAdd_bounded (c := d = true) b2 hf
  by_cases hn : idx + 1 = n
  · exact ⟨none, by simp only [linePenalty, hn, if_true]⟩
  · exact ⟨if p3 ≠ 0 then some p3 else none, by simp only [linePenalty, hn, if_false, e1, e2, e3]⟩

theorem lineWidth_total {ws : List Int} (hw : ws ≠ []) (i : Nat) : ∃ w, lineWidth ws i = .ok w := by
  unfold lineWidth
  cases ws[i]? with
  | some w => exact ⟨w, rfl⟩
  | none =>
    cases h : ws.getLast? with
    | some w => exact ⟨w, rfl⟩
    | none => exact absurd (List.getLast?_eq_none_iff.mp h) hw

theorem toItem_noTodo (es : List Elem) : (es.map Elem.toItem).any Item.packTodo = false := by
  rw [List.any_map, List.any_eq_false]
  intro e _
  cases e <;> exact Bool.false_ne_true

theorem leftPart_noTodo (p : Params) : (leftPart p).any Item.packTodo = false := by
  unfold leftPart
  split <;> rfl

theorem pendingItems_noTodo (pd : Option (List Elem)) : (pendingItems pd).any Item.packTodo = false := by
  cases pd with
  | none => rfl
  | some es => exact toItem_noTodo es

theorem brkOf_noTodo {o : Option Item} (h : ∀ it, o = some it → it.packTodo = false) :
    (brkOf o).any Item.packTodo = false := by
  cases o with
  | none => rfl
  | some it =>
    have hit := h it rfl
    cases it with
    | disc pre post r => exact toItem_noTodo pre
    | math a => cases hit
    | _ => rfl

theorem step_total {p : Params} {l : List Item} (hw : p.widths ≠ []) (hf : penFits p)
    (hl : ∀ it ∈ l, it.packTodo = false) (n idx : Nat) (pending : Option (List Elem))
    {start b : Nat} {rest : List Nat} (hv : validFrom l start (b :: rest) = true) :
    ∃ ln start', step p l n idx start pending b rest = .ok (ln, start', pendOf l[b]?) ∧
      (rest ≠ [] → validFrom l start' rest = true) := by
  obtain ⟨hs, hbl, hbrk, hrest⟩ := validFrom_cons hv
  obtain ⟨k, hk, hnext⟩ := pruneAfter_total (pendOf l[b]?) hrest
  obtain ⟨w, hwid⟩ := lineWidth_total hw idx
  obtain ⟨pen, hpen⟩ := linePenalty_total hf n idx (isDiscOpt l[b]?)
  have hbody : ((l.drop start).take (b - start)).any Item.packTodo = false :=
    List.any_eq_false.mpr fun x hx =>
      ne_true_of_eq_false (hl x (List.mem_of_mem_drop (List.mem_of_mem_take hx)))
  have hbrk' := brkOf_noTodo (o := l[b]?) fun it hit => hl it (List.mem_of_getElem? hit)
  rw [step, if_neg (Decidable.not_not.mpr ⟨hs, hbl⟩), breakPart_of_isBreak hbrk]
  -- no part of the line holds an item `HBox::pack` cannot take
  simp only [hk, hwid, Line.flat, List.any_append, leftPart_noTodo, pendingItems_noTodo, hbody, hbrk',
    isSome_pendOf, hpen]
  exact ⟨_, _, rfl, hnext⟩

theorem go_total (p : Params) (l : List Item) (n : Nat) (hw : p.widths ≠ []) (hf : penFits p)
    (hl : ∀ it ∈ l, it.packTodo = false) :
    ∀ (bs : List Nat) (idx start : Nat) (pending : Option (List Elem)),
      (bs ≠ [] → validFrom l start bs = true) → ∃ lines, go p l n idx start pending bs = .ok lines
  | [], _, _, _, _ => ⟨[], rfl⟩
  | b :: rest, idx, start, pending, hv => by
    obtain ⟨ln, start', hstep, hnext⟩ := step_total hw hf hl n idx pending (hv (List.cons_ne_nil _ _))
    obtain ⟨ls, hls⟩ := go_total p l n hw hf hl rest (idx + 1) start' (pendOf l[b]?) hnext
    exact ⟨ln :: ls, by rw [go, hstep]; simp only [hls]⟩

/-- At the final break both sides are `none`: `droppedOf` has no entry for it and the list no
item there. -/
theorem droppedOf_item (l : List Item) : ∀ (bs : List Nat) (lo : Nat), validFrom l lo bs = true →
    ∀ i : Nat, ((droppedOf l bs)[i]?).map (·.item) = (bs[i]?).bind (l[·]?)
  | [], _, hv, _ => by cases hv
  | [b0], _, hv, i => by
    rw [(validFrom_single.mp hv).2]
    cases i with
    | zero => exact (List.getElem?_eq_none (Nat.le_refl _)).symm
    | succ j => rfl
  | b0 :: nb :: r, _, hv, i => by
    obtain ⟨_, it, hit, _, hvr⟩ := validFrom_cons_cons.mp hv
    simp only [droppedOf, hit]
    cases i with
    | zero => exact hit.symm
    | succ j => exact droppedOf_item l (nb :: r) _ hvr j

theorem isDiscDropped_eq (d : Option Dropped) : isDiscDropped d = isDiscOpt (d.map (·.item)) := by
  cases d with
  | none => rfl
  | some d => obtain ⟨it, _⟩ := d; cases it <;> rfl

/-- A line of the model as the harness would report it. -/
def toR (ln : Line) : RLine := (ln.flat, ln.width, ln.indent, ln.pen)

theorem specVerdict_model (p : Params) (l : List Item) (bs : List Nat) (lines : List Line)
    (hv : ValidBreaks l bs) (h : postLineBreak p l bs = .ok lines) :
    specVerdict p l bs (lines.map toR) = [] := by
  obtain ⟨hlen, hshape⟩ := go_shape p l _ bs 0 0 none lines h
  have hitem := droppedOf_item l bs 0 hv
  have hline : ∀ i ∈ List.range bs.length, ∃ ln b s,
      (lines.map toR)[i]? = some (ln.flat, ln.width, ln.indent, ln.pen) ∧ bs[i]? = some b ∧
      LineAt p l bs.length i s (match i with | 0 => none | j + 1 => (bs[j]?).bind (l[·]?)) b ln ∧
      (0 < i → startsClean ln.post ln.body = true) := by
    intro i hi
    rw [List.mem_range, ← hlen] at hi
    have hl := List.getElem?_eq_getElem hi
    have hb : bs[i]? = some (bs[i]'(hlen ▸ hi)) := List.getElem?_eq_getElem _
    obtain ⟨s, hln, _, hc⟩ := hshape i _ _ hl hb
    exact ⟨_, _, s, by rw [List.getElem?_map, hl]; rfl, hb, hln, hc⟩
  have c1 : reassemble p ((lines.map toR).map (·.1)) (droppedOf l bs) = some l := by
    rw [List.map_map]
    exact go_conserve p l bs.length bs 0 0 none 0 lines hv h
  have c2 : (lines.map toR).length = bs.length := by rw [List.length_map, hlen]
  have c3 : (List.range bs.length).all (geoAt p (lines.map toR)) = true := by
    rw [List.all_eq_true]
    intro i hi
    obtain ⟨ln, b, _, hl, hb, hln, _⟩ := hline i hi
    simp only [geoAt, hl, hln.indent, hln.width, BEq.rfl, Bool.and_self]
  have c4 : (List.range bs.length).all
      (penAt p (droppedOf l bs) bs.length (lines.map toR)) = true := by
    rw [List.all_eq_true]
    intro i hi
    obtain ⟨ln, b, _, hl, hb, hln, _⟩ := hline i hi
    simp only [penAt, hl, linePenalty_ok hln.pen, isDiscDropped_eq, hitem, hb, Option.bind_some, isDiscAt]
    split <;> exact BEq.rfl
  have c5 : (List.range bs.length).all (cleanAt p (droppedOf l bs) (lines.map toR)) = true := by
    rw [List.all_eq_true]
    intro i hi
    obtain ⟨ln, b, _, hl, hb, hln, hc⟩ := hline i hi
    cases i with
    | zero => rfl
    | succ j =>
      simp only [cleanAt, Nat.add_sub_cancel, Nat.succ_ne_zero, if_false, hl]
      cases hd : (droppedOf l bs)[j]? with
      | none => rfl
      | some d =>
        -- the item at break `j` is `d.item`, the one at break `j + 1` is what `droppedOf` lists next
        simp only [← hitem, hd, Option.map_some] at hln
        simp only [hitem, hb, Option.bind_some, hln.lineBody, ← hln.body, ← hln.post]
        exact hc (Nat.succ_pos j)
  unfold specVerdict
  simp only [c1, c2, c3, c4, c5, if_true, List.append_nil]

theorem firstBox_pushLine (v : List VNode) (h d : Int) (pen : Bool) :
    firstBox ((pushLine v h d pen).2).reverse = some d := by
  cases pen <;> simp [pushLine, List.reverse_append, firstBox]

theorem pushLine_tex (lsl : Int) {v : List VNode}
    (hv : v = [] ∨ ∃ d0, firstBox v.reverse = some d0 ∧ d0 > ignoreDepth) (h d : Int) (pen : Bool)
    (hg : texAppend codeBaselineSkip lsl (texPrevDepth v) h ≠ TexGlue.lineskip) :
    (pushLine v h d pen).1 = (texAppend codeBaselineSkip lsl (texPrevDepth v) h).toOpt := by
  rcases hv with rfl | ⟨d0, hf, hd0⟩
  · rfl
  · have hemp : v.isEmpty = false := by
      cases v with
      | nil => cases hf
      | cons => rfl
    simp only [texPrevDepth, hf, texAppend, hd0, if_true] at hg ⊢
    simp only [pushLine, hemp, lastDepth, hf, Bool.false_eq_true, if_false]
    split
    · rename_i hl; rw [if_pos hl] at hg; exact absurd rfl hg
    · simp only [TexGlue.toOpt, Option.some.injEq]; omega

end C12
