import TexcraftModel.Lemmas.C03

/-! C03 — where the lexer stands in the source: `Tracer::trace` on a text of lines, and the ghost states
`StA` (inside a line) and `StB` (between lines) that place a `Lexer` in such a text, with the moves
along a line and off its end; under `StA` every key of the line traces to its column (`StA.key_pos`). -/
namespace C03

theorem traceLoop_skip (off : Nat) (a : List Char) : ∀ (i ln ls : Nat) (tail b : List Char),
    '\n' ∉ a → i + a.length ≤ off →
    traceLoop off i ln ls tail (a ++ b) = traceLoop off (i + a.length) ln ls tail b := by
  induction a with
  | nil => intros; simp
  | cons c t ih =>
    intro i ln ls tail b hn hle
    simp only [List.mem_cons, not_or] at hn
    simp only [List.length_cons] at hle
    simp only [List.cons_append, traceLoop]
    rw [if_neg (by omega), if_neg (fun h => hn.1 h.symm)]
    rw [ih (i + 1) ln ls tail b hn.2 (by omega)]
    simp only [List.length_cons]
    congr 1; omega

theorem traceLoop_at (off ln ls : Nat) (tail rem : List Char) :
    traceLoop off off ln ls tail rem = (ln, ls, tail) := by
  cases rem <;> simp [traceLoop]

theorem traceLoop_lines (off : Nat) : ∀ (ls : List (List Char)) (i ln : Nat) (b : List Char),
    (∀ l ∈ ls, '\n' ∉ l) → i + (joined ls).length ≤ off →
    traceLoop off i ln i (joined ls ++ b) (joined ls ++ b)
      = traceLoop off (i + (joined ls).length) (ln + ls.length) (i + (joined ls).length) b b := by
  intro ls
  induction ls with
  | nil => intro i ln b _ _; simp [joined]
  | cons l rest ih =>
    intro i ln b hn hle
    have hj : joined (l :: rest) = l ++ ('\n' :: joined rest) := by simp [joined]
    rw [hj] at hle ⊢
    simp only [List.length_append, List.length_cons] at hle
    have hl : '\n' ∉ l := hn l List.mem_cons_self
    rw [List.append_assoc, traceLoop_skip off l i ln i _ _ hl (by omega)]
    simp only [List.cons_append, traceLoop]
    rw [if_neg (by omega)]
    simp only [if_true]
    rw [ih (i + l.length + 1) (ln + 1) b (fun x hx => hn x (List.mem_cons_of_mem _ hx)) (by omega)]
    simp only [List.length_append, List.length_cons]
    congr 1 <;> omega

theorem takeWhile_line (text post : List Char) (ht : '\n' ∉ text)
    (hp : post = [] ∨ post.head? = some '\n') :
    (text ++ post).takeWhile (· ≠ '\n') = text := by
  induction text with
  | nil =>
    rcases hp with rfl | hp
    · rfl
    · cases post with
      | nil => rfl
      | cons c t => simp at hp; simp [hp]
  | cons c t ih =>
    simp only [List.mem_cons, not_or] at ht
    have : c ≠ '\n' := fun h => ht.1 h.symm
    have ih' := ih ht.2
    simp only [ne_eq, decide_not] at ih' ⊢
    simp [this, ih']

/-- `col = text.length` is the position of the newline (or one past the end). -/
theorem trace_spec (ls : List (List Char)) (text post : List Char) (col : Nat)
    (hls : ∀ l ∈ ls, '\n' ∉ l) (ht : '\n' ∉ text) (hp : post = [] ∨ post.head? = some '\n')
    (hc : col ≤ text.length) :
    trace (joined ls ++ (text ++ post)) ((joined ls).length + col) = ⟨ls.length + 1, col, text⟩ := by
  unfold trace
  have h1 := traceLoop_lines ((joined ls).length + col) ls 0 1 (text ++ post) hls (by omega)
  simp only [Nat.zero_add] at h1
  rw [h1]
  have h2 : text ++ post = text.take col ++ (text.drop col ++ post) := by
    rw [← List.append_assoc, List.take_append_drop]
  have h3 := traceLoop_skip ((joined ls).length + col) (text.take col) (joined ls).length
    (1 + ls.length) (joined ls).length (text ++ post) (text.drop col ++ post)
    (fun h => ht (List.mem_of_mem_take h)) (by simp; omega)
  rw [← h2] at h3
  rw [h3]
  have h4 : (List.take col text).length = col := by simp; omega
  rw [h4, traceLoop_at]
  simp only [takeWhile_line text post ht hp]
  congr 1 <;> omega

/-- The lexer is inside the line `text` that follows the complete lines `done`. -/
structure StA (src : List Char) (rep : Bool) (L : Lexer) (done : List (List Char))
    (text : List Char) (nl : Bool) : Prop where
  src_eq : src = joined done ++ (text ++ (if nl then '\n' :: L.raw.rest else []))
  noNl : nl = false → L.raw.rest = []
  done_ok : ∀ l ∈ done, '\n' ∉ l
  text_ok : '\n' ∉ text
  k0_le : (joined done).length ≤ L.raw.key
  in_line : L.raw.key + L.raw.line.length ≤ (joined done).length + text.length + 1
  nextStart : nl = true →
    L.raw.key + L.raw.line.length + L.raw.trimmed = (joined done).length + text.length + 1
  started : rep = true → L.started = true
  inv : L.raw.Inv src.length

/-- The lexer is between lines: `done` are the lines it has finished. -/
structure StB (src : List Char) (rep : Bool) (L : Lexer) (done : List (List Char)) : Prop where
  line_nil : L.raw.line = []
  body : L.raw.rest = [] ∨
    (src = joined done ++ L.raw.rest ∧ L.raw.key + L.raw.trimmed = (joined done).length)
  done_ok : ∀ l ∈ done, '\n' ∉ l
  started : rep = true → (L.started = true ↔ done ≠ [])
  inv : L.raw.Inv src.length

theorem joined_snoc (done : List (List Char)) (text : List Char) :
    joined (done ++ [text]) = joined done ++ (text ++ ['\n']) := by
  simp [joined]

theorem StA.endLine {src : List Char} {rep : Bool} {L : Lexer} {done : List (List Char)}
    {text : List Char} {nl : Bool} (hA : StA src rep L done text nl) :
    StB src rep L.endLine (done ++ [text]) := by
  unfold Lexer.endLine Raw.endLine
  refine ⟨rfl, ?_, ?_, ?_, Raw.Inv.endLine hA.inv⟩
  · cases hnl : nl with
    | false => left; exact hA.noNl hnl
    | true =>
      right
      refine ⟨?_, ?_⟩
      · have := hA.src_eq; rw [hnl] at this
        rw [this, joined_snoc]; simp
      · have := hA.nextStart hnl
        rw [joined_snoc]
        simp only [List.length_append, List.length_cons, List.length_nil]
        omega
  · intro l hl
    simp only [List.mem_append, List.mem_singleton] at hl
    rcases hl with hl | rfl
    · exact hA.done_ok l hl
    · exact hA.text_ok
  · intro hr; simp [hA.started hr]

theorem StA.moved {src : List Char} {rep : Bool} {L : Lexer} {done : List (List Char)}
    {text : List Char} {nl : Bool} (hA : StA src rep L done text nl) (st' : St) {l' : List Char}
    {k' : Nat} (hle : l'.length ≤ L.raw.line.length)
    (hsum : k' + l'.length = L.raw.key + L.raw.line.length) :
    StA src rep (L.moved st' l' k') done text nl :=
  ⟨hA.src_eq, hA.noNl, hA.done_ok, hA.text_ok,
    by have := hA.k0_le; show _ ≤ k'; omega,
    by have := hA.in_line; show k' + l'.length ≤ _; omega,
    fun h => by have := hA.nextStart h; show k' + l'.length + L.raw.trimmed = _; omega,
    hA.started, hA.inv.of_sum rfl hsum rfl rfl⟩

theorem StA.key_pos {src : List Char} {rep : Bool} {L : Lexer} {done text nl}
    (h : StA src rep L done text nl) {c : Nat}
    (hhi : (joined done).length + c < L.raw.key + L.raw.line.length) :
    trace src ((joined done).length + c) = ⟨done.length + 1, c, text⟩ ∧
      (joined done).length + c ≤ src.length := by
  have hin := h.in_line
  have := trace_spec done text (if nl then '\n' :: L.raw.rest else []) c
    h.done_ok h.text_ok (by cases nl <;> simp) (by omega)
  rw [← h.src_eq] at this
  exact ⟨this, by have := h.inv.le1; omega⟩

end C03
