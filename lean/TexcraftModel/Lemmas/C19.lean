import TexcraftModel.Model.C19

/-! `\input` and `\endinput`: the source-stack machine delivers the inlining. A file on top of a
stack of height `N` runs until it is popped and delivers its denotation (`Delivers`), given the same
for the files it may input (`FilesOK`, `lines_run`); induction on the nesting budget discharges that
(`files_run`, `run_wf`). Then `Lexer::end` against TeX's `\endinput`: `denLines_trunc`, `denFile_trunc`. -/

namespace C19

theorem iter_add (fs : FS) (m n : Nat) (st : St) : iter fs (m + n) st = iter fs n (iter fs m st) := by
  induction m generalizing st with
  | zero => rw [Nat.zero_add]; rfl
  | succ m ih => rw [Nat.succ_add]; exact ih (step fs st)

theorem exec_input_of_le {fs : FS} {f : Nat} {file : File} (hf : lookup fs f = some file)
    (s : Source) {below : List Source} (h : below.length ≤ 99) (out : List Tok) :
    exec fs (.input f) s below out = ⟨⟨[], [], file⟩ :: s :: below, out, .running⟩ := by
  simp only [exec, hf]
  exact if_neg (Nat.not_lt.mpr (Nat.succ_le_succ h))

theorem exec_input_of_ge {fs : FS} {f : Nat} {file : File} (hf : lookup fs f = some file)
    (s : Source) {below : List Source} (h : 100 ≤ below.length) (out : List Tok) :
    exec fs (.input f) s below out = ⟨s :: below, out, .tooDeep⟩ := by
  simp only [exec, hf]
  exact if_pos (Nat.succ_le_succ h)

theorem exec_srcs_length (fs : FS) (a : Atom) (s : Source) (below : List Source) (out : List Tok)
    (hb : below.length + 1 ≤ 101) : (exec fs a s below out).srcs.length ≤ 101 := by
  unfold exec
  split
  · exact hb
  · split
    · exact hb
    · split
      · exact hb
      · next h => exact Nat.succ_le_succ (Nat.not_lt.mp h)   -- the only push, below the limit
  · exact hb

/-- From the sources `s` the machine delivers the tokens `d` and arrives at the sources `s'`, still
running, whatever it has delivered before. -/
def Delivers (fs : FS) (s : List Source) (d : List Tok) (s' : List Source) : Prop :=
  ∀ out, ∃ n, iter fs n ⟨s, out, .running⟩ = ⟨s', out ++ d, .running⟩

namespace Delivers
variable {fs : FS} {s s' s'' : List Source} {a b : List Tok}

theorem nil : Delivers fs s [] s :=
  fun out => ⟨0, by rw [List.append_nil]; rfl⟩

theorem trans (h1 : Delivers fs s a s') (h2 : Delivers fs s' b s'') : Delivers fs s (a ++ b) s'' := by
  intro out
  obtain ⟨m, h1⟩ := h1 out
  obtain ⟨n, h2⟩ := h2 (out ++ a)
  exact ⟨m + n, by rw [iter_add, h1, h2, List.append_assoc]⟩

theorem step (h : ∀ out, ∃ n, iter fs n (step fs ⟨s, out, .running⟩) = ⟨s', out ++ a, .running⟩) :
    Delivers fs s a s' :=
  fun out => let ⟨n, hn⟩ := h out; ⟨n + 1, hn⟩

theorem pop {below : List Source} (h : Delivers fs s a (⟨[], [], []⟩ :: below))
    (hb : 1 ≤ below.length) : Delivers fs s a below := by
  intro out
  obtain ⟨n, hn⟩ := h out
  cases below with
  | nil => cases hb
  | cons b bs => exact ⟨n + 1, by rw [iter_add, hn]; rfl⟩

end Delivers

/-- What is assumed of the files that a source with `N` sources below it may input: the limit is
not hit, the file exists, and on top of any `N + 1` sources it runs until it is popped and delivers
`denF f`. -/
def FilesOK (fs : FS) (N : Nat) (wfF : Nat → Bool) (denF : Nat → List Tok) : Prop :=
  ∀ f, wfF f = true → N ≤ 99 ∧ ∃ file, lookup fs f = some file ∧
    ∀ below', below'.length = N + 1 → Delivers fs (⟨[], [], file⟩ :: below') (denF f) below'

section generic
variable {fs : FS} {wfF : Nat → Bool} {denF : Nat → List Tok} {below : List Source}

theorem input_run (H : FilesOK fs below.length wfF denF) {f : Nat} (hf : wfF f = true) (s : Source)
    (out : List Tok) :
    ∃ n, iter fs n (exec fs (.input f) s below out) = ⟨s :: below, out ++ denF f, .running⟩ := by
  obtain ⟨hN, file, hfile, hreach⟩ := H f hf
  rw [exec_input_of_le hfile s hN]
  exact hreach (s :: below) rfl out

theorem pending_run (H : FilesOK fs below.length wfF denF) (pending : List Atom) (cur : List Item)
    (rest : List Line) (hwf : wfAtoms wfF pending = true) :
    Delivers fs (⟨pending, cur, rest⟩ :: below) (denAtoms denF pending).1
      (⟨[], bif (denAtoms denF pending).2 then [] else cur,
            bif (denAtoms denF pending).2 then [] else rest⟩ :: below) := by
  induction pending generalizing cur rest with
  | nil => exact Delivers.nil
  | cons a p ih =>
    -- `step` computes on a state given by its constructors, so each case checks its transition
    -- by unfolding; `fun _ => ⟨1, rfl⟩` is the one step that delivers `t`
    cases a with
    | tok t => exact Delivers.trans (a := [t]) (fun _ => ⟨1, rfl⟩) (ih cur rest hwf)
    | endinput =>
      have h := ih [] [] hwf
      rw [Bool.cond_self, Bool.cond_self] at h
      exact Delivers.step h
    | input f =>
      obtain ⟨hf, hp⟩ := Bool.and_eq_true_iff.mp hwf
      exact Delivers.trans (Delivers.step (input_run H hf ⟨p, cur, rest⟩)) (ih cur rest hp)

theorem cur_run (H : FilesOK fs below.length wfF denF) (cur : List Item) (rest : List Line)
    (hwf : wfItems wfF cur = true) :
    Delivers fs (⟨[], cur, rest⟩ :: below) (denItems false denF cur).1
      (⟨[], [], bif (denItems false denF cur).2 then [] else rest⟩ :: below) := by
  induction cur with
  | nil => exact Delivers.nil
  | cons it c ih =>
    cases it with
    | atom a =>
      cases a with
      | tok t => exact Delivers.trans (a := [t]) (fun _ => ⟨1, rfl⟩) (ih hwf)
      | endinput => exact Delivers.step Delivers.nil
      | input f =>
        obtain ⟨hf, hc⟩ := Bool.and_eq_true_iff.mp hwf
        exact Delivers.trans (Delivers.step (input_run H hf ⟨[], c, rest⟩)) (ih hc)
    | call body =>
      obtain ⟨hb, hc⟩ := Bool.and_eq_true_iff.mp hwf
      have hbody := pending_run H body c rest hb
      rw [denItems]
      cases he : (denAtoms denF body).2 with
      | false => rw [he] at hbody; exact Delivers.trans (Delivers.step hbody) (ih hc)
      | true => rw [he] at hbody; exact Delivers.step hbody

theorem lines_run (H : FilesOK fs below.length wfF denF) (rest : List Line) (hN : 1 ≤ below.length)
    (hwf : wfLines wfF rest = true) :
    Delivers fs (⟨[], [], rest⟩ :: below) (denLines false denF rest) below := by
  induction rest with
  | nil => exact Delivers.pop Delivers.nil hN
  | cons l ls ih =>
    obtain ⟨hl, hls⟩ := Bool.and_eq_true_iff.mp hwf
    have hline := cur_run H l ls hl
    rw [denLines]
    cases he : (denItems false denF l).2 with
    | false => rw [he] at hline; exact Delivers.trans (Delivers.step hline) (ih hls)
    | true => rw [he] at hline; exact Delivers.pop (Delivers.step hline) hN

end generic

theorem files_run (fs : FS) (d N : Nat) (hle : N + d ≤ 100) :
    FilesOK fs N (wfFile fs d) (denFile false fs d) := by
  induction d generalizing N with
  | zero => intro f hf; cases hf
  | succ d ih =>
    intro f hf
    simp only [wfFile, denFile] at hf ⊢
    cases hl : lookup fs f with
    | none => rw [hl] at hf; cases hf
    | some file =>
      rw [hl] at hf
      exact ⟨by omega, file, rfl, fun below' hlen =>
        lines_run (hlen ▸ ih (N + 1) (by omega)) file (hlen ▸ Nat.le_add_left 1 N) hf⟩

theorem step_not_running (fs : FS) (st : St) (h : st.status ≠ .running) : step fs st = st := by
  unfold step
  split
  · next hr => exact absurd hr h
  · rfl

theorem iter_not_running (fs : FS) (n : Nat) (st : St) (h : st.status ≠ .running) : iter fs n st = st := by
  induction n with
  | zero => rfl
  | succ n ih => rw [iter, step_not_running fs st h, ih]

theorem iterFast_eq_iter (fs : FS) : ∀ (n : Nat) (st : St), iterFast fs n st = iter fs n st := by
  intro n
  induction n with
  | zero => intro st; rfl
  | succ n ih =>
    intro st
    rw [iterFast]
    split
    · exact ih _
    · next h => exact (iter_not_running fs (n + 1) st h).symm

theorem run_wf (fs : FS) (d : Nat) (main : File) (hd : d ≤ 99) (hwf : WF fs d main = true) :
    ∃ N, ∀ fuel, N ≤ fuel → run fs fuel main = .ok (inlineToks false fs d main) := by
  obtain ⟨n, hn⟩ := lines_run (below := [⟨[], [], []⟩]) (files_run fs d 1 (by omega)) main
    (Nat.le_refl 1) hwf []
  refine ⟨n + 1, fun fuel hfuel => ?_⟩
  obtain ⟨k, rfl⟩ := Nat.exists_eq_add_of_le hfuel
  -- after `n` steps only the VM's empty default source is left; the next step halts
  rw [run, iter_add, iter_add, show iter fs n (initSt main) = _ from hn,
    iter_not_running fs k _ (by intro h; cases h)]
  exact congrArg Outcome.ok (List.nil_append _)

theorem denItems_plain (keep : Bool) (denF : Nat → List Tok) (l : List Tok) :
    denItems keep denF (l.map (fun t => Item.atom (.tok t))) = (l, false) := by
  induction l with
  | nil => rfl
  | cons t r ih => rw [List.map_cons, denItems, ih]

theorem wfItems_plain (wfF : Nat → Bool) (l : List Tok) :
    wfItems wfF (l.map (fun t => Item.atom (.tok t))) = true := by
  induction l with
  | nil => rfl
  | cons t r ih => exact ih

theorem WF_inline (fs' : FS) (d' : Nat) (keep : Bool) (fs : FS) (d : Nat) (main : File) :
    WF fs' d' (inline keep fs d main) = true := by
  rw [WF, inline, wfLines, wfItems_plain]; rfl

theorem inlineToks_inline (keep' : Bool) (fs' : FS) (d' : Nat) (keep : Bool) (fs : FS) (d : Nat) (main : File) :
    inlineToks keep' fs' d' (inline keep fs d main) = inlineToks keep fs d main := by
  rw [inlineToks, inline, denLines, denItems_plain]
  exact List.append_nil _

/-! Finding C19-a exactly: `Lexer::end` drops the rest of an `\endinput` line, so the machine is
TeX on the program in which that rest has been deleted; and nothing is deleted where every
`\endinput` ends its line. -/

theorem denAtoms_ended (denF : Nat → List Tok) (b : List Atom) :
    (denAtoms denF b).2 = !noEndAtoms b := by
  induction b with
  | nil => rfl
  | cons a r ih =>
    cases a with
    | tok t | input f => exact ih
    | endinput => rfl

theorem denItems_trunc (denF : Nat → List Tok) (l : List Item) :
    denItems false denF l = denItems true denF (truncItems l) := by
  induction l with
  | nil => rfl
  | cons it r ih =>
    cases it with
    | atom a =>
      cases a with
      | tok t | input f => simp only [truncItems, denItems, ih]
      | endinput => rfl
    | call body =>
      have hb := denAtoms_ended denF body
      cases hn : noEndAtoms body with
      | true => simp [truncItems, hn, denItems, hb, ih]
      | false => simp [truncItems, hn, denItems, hb]

theorem denLines_trunc (denF : Nat → List Tok) (ls : List Line) :
    denLines false denF ls = denLines true denF (truncLines ls) := by
  induction ls with
  | nil => rfl
  | cons l r ih => rw [truncLines, List.map_cons, denLines, denLines, denItems_trunc, ih]; rfl

theorem lookup_truncFS (fs : FS) (f : Nat) : lookup (truncFS fs) f = (lookup fs f).map truncLines := by
  induction fs with
  | nil => rfl
  | cons p r ih =>
    rw [truncFS, lookup, lookup, ih]
    split <;> rfl

theorem denFile_trunc (fs : FS) (d : Nat) : denFile false fs d = denFile true (truncFS fs) d := by
  induction d with
  | zero => rfl
  | succ d ih =>
    funext f
    rw [denFile, denFile, lookup_truncFS]
    cases lookup fs f with
    | none => rfl
    | some file => exact (denLines_trunc _ file).trans (by rw [ih]; rfl)

theorem inlineToks_trunc (fs : FS) (d : Nat) (main : File) :
    inlineToks false fs d main = inlineToks true (truncFS fs) d (truncLines main) := by
  rw [inlineToks, inlineToks, denLines_trunc, denFile_trunc]

theorem endLast_truncItems (l : List Item) : endLastItems (truncItems l) = true := by
  induction l with
  | nil => rfl
  | cons it r ih =>
    cases it with
    | atom a =>
      cases a with
      | tok t | input f => exact ih
      | endinput => rfl
    | call body =>
      cases hn : noEndAtoms body with
      | true => simp [truncItems, hn, endLastItems, ih]
      | false => simp [truncItems, hn, endLastItems]

theorem endLast_truncLines (ls : List Line) : endLastLines (truncLines ls) = true := by
  induction ls with
  | nil => rfl
  | cons l r ih => exact Bool.and_eq_true_iff.mpr ⟨endLast_truncItems l, ih⟩

theorem truncItems_of_endLast {l : List Item} (h : endLastItems l = true) : truncItems l = l := by
  induction l with
  | nil => rfl
  | cons it r ih =>
    cases it with
    | atom a =>
      cases a with
      | tok t | input f => simp only [truncItems, ih h]
      | endinput => rw [List.isEmpty_iff.mp h]; rfl
    | call body =>
      obtain ⟨hb, hr⟩ := Bool.and_eq_true_iff.mp h
      cases hn : noEndAtoms body with
      | true => simp only [truncItems, hn, ih hr, if_true]
      | false =>
        rw [hn, Bool.false_or] at hb
        rw [List.isEmpty_iff.mp hb]
        simp only [truncItems, hn, Bool.false_eq_true, if_false]

theorem truncLines_of_endLast {ls : List Line} (h : endLastLines ls = true) : truncLines ls = ls := by
  induction ls with
  | nil => rfl
  | cons l r ih =>
    obtain ⟨hl, hr⟩ := Bool.and_eq_true_iff.mp h
    rw [truncLines, List.map_cons, truncItems_of_endLast hl]
    exact congrArg (l :: ·) (ih hr)

theorem truncFS_of_endLast {fs : FS} (h : endLastFS fs = true) : truncFS fs = fs := by
  induction fs with
  | nil => rfl
  | cons p r ih =>
    obtain ⟨hp, hr⟩ := Bool.and_eq_true_iff.mp h
    rw [truncFS, truncLines_of_endLast hp, ih hr]

end C19
