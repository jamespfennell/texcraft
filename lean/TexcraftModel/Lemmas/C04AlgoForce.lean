import TexcraftModel.Lemmas.C04AlgoScan
import TexcraftModel.Lemmas.C04AlgoSpec
import TexcraftModel.Lemmas.C04AlgoBound
/-!
C04 — with `force_solution = true` the algorithm always returns breakpoints: the deque never
becomes empty and every node's total stays below `AWFUL_BAD`. Hence the pass driver
(`passesOf`, `algoPasses`, Model/C04Algo.lean), whose last pass is forced, always answers; its
answer is that of the first pass whose `algo` answers.
-/
namespace C04

theorem force_tryNode_ok (x : Inst) (force : Bool) (c : BCtx) (ν : ANode) (e : Bool)
    (cs : Cands) (md : Int) (h : MinOK (cs, md)) :
    MinOK ((tryNode x force c ν e cs md).cs, (tryNode x force c ν e cs md).md) ∧
      (tryNode x force c ν e cs md).md ≤ md := by
  unfold tryNode
  -- with the `let`s of `tryNode` named, `split` sees only `if daa.2.1`
  extract_lets _ _ _ _ fit _ daa _ tot
  split
  · exact ⟨offer_minOK (cs, md) fit tot _ _ h,
      (offer_mono (cs, md) fit tot (ν.line + 1) ν.path fit).2⟩
  · exact ⟨h, Int.le_refl md⟩

/-- A deactivated last node with nothing found so far is taken artificially (lib.rs:730). -/
theorem force_tryNode_awful (x : Inst) (c : BCtx) (ν : ANode) (cs : Cands)
    (hd : (tryNode x true c ν true cs awfulBad).deact = true) :
    (tryNode x true c ν true cs awfulBad).md ≤ ν.total := by
  revert hd
  unfold tryNode
  extract_lets _ _ _ bad fit _ daa _ tot
  by_cases h1 : 10000 < bad ∨ c.penalty = -10000
  · have hdaa : daa = (true, true, true) := (if_pos h1).trans (if_pos ⟨rfl, rfl, rfl⟩)
    have htot : tot = ν.total := by
      show (if daa.2.2 = true then 0 else _) + ν.total = ν.total
      rw [hdaa]
      exact Int.zero_add _
    intro _
    rw [hdaa]
    show (offer (cs, awfulBad) fit tot (ν.line + 1) ν.path).2 ≤ ν.total
    rw [htot]
    exact (offer_le _ _ _ _ _).2
  · have hdaa : daa.1 = false := congrArg Prod.fst (if_neg h1)
    rw [apply_ite Tried.deact, ite_self, hdaa]
    intro hd
    cases hd

theorem force_tryNode_lt (x : Inst) (c : BCtx) (ν : ANode) (cs : Cands) (md : Int)
    (hm : MinOK (cs, md)) (hν : ν.total < awfulBad) (hmd : md ≤ awfulBad)
    (hd : (tryNode x true c ν true cs md).deact = true) :
    (tryNode x true c ν true cs md).md < awfulBad := by
  by_cases he : md = awfulBad
  · subst he
    exact Int.lt_of_le_of_lt (force_tryNode_awful x c ν cs hd) hν
  · have := (force_tryNode_ok x true c ν true cs md hm).2
    omega

/-- The invariant of the `while m > 0` loop on (deque, candidates, minimum): the candidates
record the minimum, all totals are below `AWFUL_BAD`, and the deque is empty only once a
candidate has been found. -/
def force_InnerOK (r : List ANode × Cands × Int) : Prop :=
  MinOK (r.2.1, r.2.2) ∧ r.2.2 ≤ awfulBad ∧ (∀ ν ∈ r.1, ν.total < awfulBad) ∧
    (r.1 = [] → r.2.2 < awfulBad)

theorem force_inner (x : Inst) (c : BCtx) (m : Nat) (act : List ANode) (cs : Cands) (md : Int)
    (h : force_InnerOK (act, cs, md)) : force_InnerOK (inner x true c m act cs md) := by
  induction m generalizing act cs md with
  | zero => exact h
  | succ m ih =>
    cases act with
    | nil => exact h
    | cons ν rest =>
      obtain ⟨hm, hmd, htot, _⟩ := h
      have ht := force_tryNode_ok x true c ν rest.isEmpty cs md hm
      rw [inner]
      apply ih
      refine ⟨ht.1, Int.le_trans ht.2 hmd, ?_, ?_⟩
      · intro μ hμ
        apply htot
        split at hμ
        · exact List.mem_cons_of_mem ν hμ
        · exact (List.perm_append_singleton ν rest).mem_iff.mp hμ
      · -- the deque can only become empty when `ν` was its last node and is deactivated
        intro he
        split at he
        next hd =>
          subst he
          exact force_tryNode_lt x c ν cs md hm (htot ν (List.mem_cons_self ..)) hmd hd
        next => exact absurd he (List.append_ne_nil_of_right_ne_nil rest (List.cons_ne_nil ν []))

theorem le_pruneThreshold (adj md : Int) (h : md < awfulBad) : md ≤ pruneThreshold adj md := by
  have := iabs_nonneg adj
  rw [pruneThreshold_eq]
  omega

theorem force_newNodes_ne (c : BCtx) (bw : Totals) (cs : Cands) (md thr : Int)
    (hm : MinOK (cs, md)) (h : md ≤ thr) : newNodes c bw cs thr ≠ [] := by
  obtain ⟨_, g, hg⟩ := hm
  exact List.ne_nil_of_mem (mem_newNodes.2 ⟨g, hg ▸ h, rfl⟩)

def force_ActOK (act : List ANode) : Prop := act ≠ [] ∧ ∀ ν ∈ act, ν.total < awfulBad

/-- The end of a round of the `while n > 0` loop (lib.rs:793-906): the new nodes come from a
candidate that attains the minimum, at totals up to the pruning threshold. -/
theorem force_actOK_round (c : BCtx) (bw : Totals) (adj : Int) (r : List ANode × Cands × Int)
    (h : force_InnerOK r) :
    force_ActOK (if r.2.2 < awfulBad then r.1 ++ newNodes c bw r.2.1 (pruneThreshold adj r.2.2)
      else r.1) := by
  obtain ⟨hm, _, htot, hne⟩ := h
  split
  next hlt =>
    refine ⟨fun he => force_newNodes_ne c bw _ _ _ hm (le_pruneThreshold adj r.2.2 hlt)
      (List.append_eq_nil_iff.mp he).2, ?_⟩
    intro μ hμ
    rcases List.mem_append.mp hμ with hμ | hμ
    · exact htot μ hμ
    · obtain ⟨f, hle, rfl⟩ := mem_newNodes.1 hμ
      exact Int.lt_of_le_of_lt hle (pruneThreshold_lt _ _)
  next hlt => exact ⟨fun he => hlt (hne he), htot⟩

theorem force_outer (x : Inst) (q : Int) (c : BCtx) (fuel n : Nat) (act : List ANode)
    (hact : force_ActOK act) : force_ActOK (outer x q true c fuel n act) := by
  induction fuel generalizing n act with
  | zero => exact hact
  | succ fuel ih =>
    rw [outer]
    split
    · exact hact
    · apply ih
      apply force_actOK_round
      apply force_inner
      exact ⟨minOK_init, Int.le_refl _, hact.2, fun he => absurd he hact.1⟩

theorem force_step (x : Inst) (q : Int) (st : LState) (i : Nat) (h : force_ActOK st.active) :
    force_ActOK (step x q true st i).active := by
  have hc : force_ActOK (classify x i st).1.active := by
    rw [(classify_vars x i st).1]
    exact h
  unfold step
  dsimp only
  split
  · exact hc
  · split
    · exact hc
    · exact force_outer x q _ _ _ _ hc

theorem force_foldl (x : Inst) (q : Int) (l : List Nat) (st : LState)
    (h : force_ActOK st.active) : force_ActOK (l.foldl (step x q true) st).active := by
  induction l generalizing st with
  | nil => exact h
  | cons i t ih => exact ih _ (force_step x q st i h)

theorem force_finish (q : Int) (act : List ANode) (h : act ≠ []) :
    (finish q true act).isSome = true := by
  cases act with
  | nil => exact absurd rfl h
  | cons first t =>
    unfold finish
    dsimp only
    split
    · rw [if_neg (by simp)]
      rfl
    · rfl

theorem algo_force_some (x : Inst) (q : Int) : (algo x q true).isSome = true := by
  apply force_finish
  refine (force_foldl x q _ _ ⟨List.cons_ne_nil _ _, fun ν hν => ?_⟩).1
  rw [List.mem_singleton.mp hν]
  decide

theorem algoPasses_some_of_forced (q : Int) (k : Nat) (ps : List Pass)
    (h : ∃ p, p ∈ ps ∧ p.force = true) : (algoPasses q k ps).isSome = true := by
  induction ps generalizing k with
  | nil =>
    obtain ⟨p, hp, _⟩ := h
    cases hp
  | cons p t ih =>
    rw [algoPasses]
    cases ha : algo p.x q p.force with
    | some bs => rfl
    | none =>
      obtain ⟨p', hp', hf⟩ := h
      rcases List.mem_cons.mp hp' with rfl | hin
      · have := algo_force_some p'.x q
        rw [hf] at ha
        rw [ha] at this
        cases this
      · exact ih (k + 1) ⟨p', hin, hf⟩

theorem passesOf_forced (x : Inst) (pretol : Int) (pf : Glue) (hyph : List Item → List Item) :
    ∃ p, p ∈ passesOf x pretol pf hyph ∧ p.force = true := by
  unfold passesOf
  dsimp only
  split
  next he => exact ⟨_, List.mem_cons_of_mem _ (List.mem_singleton.mpr rfl), he⟩
  next => exact ⟨_, List.mem_cons_of_mem _ (List.mem_cons_of_mem _ (List.mem_singleton.mpr rfl)), rfl⟩

theorem algoPasses_spec (q : Int) (k : Nat) (ps : List Pass) (j : Nat) (bs : List Nat)
    (h : algoPasses q k ps = some (j, bs)) :
    ∃ i p, ps[i]? = some p ∧ j = k + i ∧ algo p.x q p.force = some bs ∧
      ∀ i' p', i' < i → ps[i']? = some p' → algo p'.x q p'.force = none := by
  induction ps generalizing k with
  | nil => cases h
  | cons p t ih =>
    rw [algoPasses] at h
    cases ha : algo p.x q p.force with
    | some b =>
      rw [ha] at h
      cases h
      exact ⟨0, p, rfl, rfl, ha, fun i' _ hlt => absurd hlt (Nat.not_lt_zero i')⟩
    | none =>
      rw [ha] at h
      obtain ⟨i, p1, hp1, hj, hal, hprev⟩ := ih (k + 1) h
      refine ⟨i + 1, p1, hp1, by omega, hal, ?_⟩
      intro i' p' hlt hp'
      cases i' with
      | zero =>
        cases hp'
        exact ha
      | succ i'' => exact hprev i'' p' (Nat.lt_of_succ_lt_succ hlt) hp'

end C04
