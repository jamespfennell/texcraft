import TexcraftModel.Lemmas.C06
/-!
C06 — programs of `\advance` / `\multiply` / `\divide` on one register: every step keeps a 32-bit
value, a step that reports an error changes nothing, and a run agrees with TeX step by step.
-/
namespace C06

/-- A value an `i32` register can hold. -/
def inRange32 (x : Int) : Prop := -2147483648 ≤ x ∧ x ≤ 2147483647

theorem stepInt_error_unchanged (a : Int) (op : ArithOp) (v : Int) (h : stepInt a op = (v, true)) : v = a := by
  cases op <;> simp only [stepInt] at h <;> split at h <;> simp at h <;> exact h.symm

theorem stepDimen_error_unchanged (a : Int) (op : ArithOp) (v : Int) (h : stepDimen a op = (v, true)) : v = a := by
  cases op <;> simp only [stepDimen] at h <;> split at h <;> simp at h <;> exact h.symm

theorem wrap32_range (x : Int) : inRange32 (wrap32 x) := by unfold inRange32 wrap32; omega

/-- Every arm of `stepInt` and `stepDimen` is this `match`: the primitive sets the register or leaves it alone. -/
theorem step_fst (X : ARes Int) (a : Int) (P : Int → Prop) (ha : P a) (hv : ∀ v, X = .set v → P v) :
    P (match X with | .set v => (v, false) | .error => (a, true)).1 := by
  cases X with
  | set v => exact hv v rfl
  | error => exact ha

theorem multiplyInt_set (a b v : Int) (h : multiplyInt a b = .set v) : v = a * b ∧ inRange32 (a * b) := by
  unfold multiplyInt at h
  split at h
  · rename_i hc
    simp only [inI32, Bool.and_eq_true, decide_eq_true_eq] at hc
    exact ⟨(ARes.set.inj h).symm, hc.1⟩
  · cases h

theorem divideInt_set (a b v : Int) (h : divideInt a b = .set v) :
    v = Int.tdiv a b ∧ b ≠ 0 ∧ ¬ (a = -2147483648 ∧ b = -1) := by
  unfold divideInt checkedDiv at h
  by_cases hb : b = 0
  · rw [if_pos hb] at h; cases h
  · by_cases hx : a = -2147483648 ∧ b = -1
    · rw [if_neg hb, if_pos hx] at h; cases h
    · rw [if_neg hb, if_neg hx] at h
      exact ⟨(ARes.set.inj h).symm, hb, hx⟩

theorem multiplyDimen_set (a b v : Int) (h : multiplyDimen a b = .set v) : -maxDimen ≤ v ∧ v ≤ maxDimen := by
  have hM : maxDimen = 1073741823 := rfl
  unfold multiplyDimen scaledCheckedMul at h
  rw [nxPlusY_val a b 0 (by omega)] at h
  by_cases hc : -maxDimen ≤ a * b + 0 ∧ a * b + 0 ≤ maxDimen
  · rw [if_pos hc] at h; cases h; exact hc
  · rw [if_neg hc] at h; cases h

theorem divideInt_range (a b v : Int) (ha : inRange32 a) (h : divideInt a b = .set v) : inRange32 v := by
  obtain ⟨rfl, hb, hx⟩ := divideInt_set a b v h
  rw [tdiv_eq_xOverN a b hb]
  exact xOverN_fits a b ha hb hx

theorem stepInt_range (a : Int) (ha : inRange32 a) (op : ArithOp) : inRange32 (stepInt a op).1 := by
  cases op with
  | advance b => exact wrap32_range _
  | multiply b =>
    exact step_fst _ a _ ha fun v hv => by obtain ⟨rfl, h⟩ := multiplyInt_set a b v hv; exact h
  | divide b => exact step_fst _ a _ ha fun v hv => divideInt_range a b v ha hv

theorem stepDimen_range (a : Int) (ha : inRange32 a) (op : ArithOp) : inRange32 (stepDimen a op).1 := by
  have hM : maxDimen = 1073741823 := rfl
  cases op with
  | advance b => exact wrap32_range _
  | multiply b =>
    exact step_fst _ a _ ha fun v hv => by have := multiplyDimen_set a b v hv; unfold inRange32; omega
  | divide b => exact step_fst _ a _ ha fun v hv => divideInt_range a b v ha hv

theorem runReg_range (step : Int → ArithOp → Int × Bool)
    (hstep : ∀ a, inRange32 a → ∀ op, inRange32 (step a op).1) :
    ∀ (ops : List ArithOp) (a : Int), inRange32 a → inRange32 (runReg step a ops).1 := by
  intro ops
  induction ops with
  | nil => intro a ha; exact ha
  | cons op ops ih =>
    intro a ha
    simp only [runReg]
    exact ih _ (hstep a ha op)

theorem runReg_errors_le (step : Int → ArithOp → Int × Bool) :
    ∀ (ops : List ArithOp) (a : Int), (runReg step a ops).2 ≤ ops.length := by
  intro ops
  induction ops with
  | nil => intro a; simp [runReg]
  | cons op ops ih =>
    intro a
    simp only [runReg, List.length_cons]
    have := ih (step a op).1
    split <;> omega

/-- `\multiply` and `\divide` keep a legal dimension legal (only `\advance` can leave the range). -/
theorem stepDimen_legal (a : Int) (ha : -maxDimen ≤ a ∧ a ≤ maxDimen) (op : ArithOp)
    (hop : ∀ b, op ≠ .advance b) :
    -maxDimen ≤ (stepDimen a op).1 ∧ (stepDimen a op).1 ≤ maxDimen := by
  have hM : maxDimen = 1073741823 := rfl
  cases op with
  | advance b => exact absurd rfl (hop b)
  | multiply b =>
    exact step_fst _ a (fun v => -maxDimen ≤ v ∧ v ≤ maxDimen) ha fun v hv => multiplyDimen_set a b v hv
  | divide b =>
    refine step_fst _ a (fun v => -maxDimen ≤ v ∧ v ≤ maxDimen) ha fun v hv => ?_
    obtain ⟨rfl, _, _⟩ := divideInt_set a b v hv
    have := Int.natAbs_tdiv_le_natAbs a b
    omega

/-- One step of the model = one step of TeX, except for the undefined `-2^31 / -1`. -/
theorem stepInt_eq_spec (a : Int) (ha : inRange32 a) (op : ArithOp)
    (hx : ¬ (a = -2147483648 ∧ op = .divide (-1))) : Spec.stepInt a op = some (stepInt a op) := by
  cases op with
  | advance b => simp [Spec.stepInt, stepInt, Spec.advanceInt, advanceInt]
  | multiply b =>
    have := multiplyInt_eq a b
    simp only [Spec.stepInt, stepInt]
    rw [← this]
    cases multiplyInt a b <;> simp
  | divide b =>
    have := divideInt_eq a b ha fun h => hx ⟨h.1, by rw [h.2]⟩
    simp only [Spec.stepInt, stepInt]
    rw [← this]
    cases divideInt a b <;> simp

/-- No step of the program is TeX's undefined `-2^31 / -1` (decidable, walks the model's run). -/
def runDefined : Int → List ArithOp → Bool
  | _, [] => true
  | a, op :: ops => !(decide (a = -2147483648) && decide (op = .divide (-1))) && runDefined (stepInt a op).1 ops

theorem runInt_eq_spec : ∀ (ops : List ArithOp) (a : Int), inRange32 a → runDefined a ops = true →
    Spec.runReg Spec.stepInt a ops = some (runReg stepInt a ops) := by
  intro ops
  induction ops with
  | nil => intro a _ _; rfl
  | cons op ops ih =>
    intro a ha hd
    simp only [runDefined, Bool.and_eq_true, Bool.not_eq_true', Bool.and_eq_false_iff, decide_eq_false_iff_not] at hd
    have hx : ¬ (a = -2147483648 ∧ op = .divide (-1)) := fun h => hd.1.elim (· h.1) (· h.2)
    have h1 := stepInt_eq_spec a ha op hx
    have h2 := ih (stepInt a op).1 (stepInt_range a ha op) hd.2
    simp only [Spec.runReg, runReg, h1, h2]

end C06
