import TexcraftModel.Lemmas.C09

/-! What `Tracer::trace` answers for a token inside a given line, and the invariant of the loop
of `trace_end_of_input`. -/
namespace C09

/-- Passing a stretch `p` of the content and the newline after it, before the offset is reached
(`done` = what was consumed before): the line count grows by the newlines met, and the new
line starts after that newline. -/
theorem traceLoop_past_newline (off : Nat) (p rest : List Char) :
    ∀ (done : List Char) (loc : Loc), (done ++ p).length < off →
      traceLoop off (p ++ '\n' :: rest) done.length (byteLen done) loc
        = traceLoop off rest (done ++ p ++ ['\n']).length (byteLen (done ++ p ++ ['\n']))
            ⟨loc.line + (p ++ ['\n']).count '\n', (done ++ p ++ ['\n']).length,
              byteLen (done ++ p ++ ['\n'])⟩ := by
  induction p with
  | nil =>
    intro done loc h
    rw [List.append_nil] at h
    rw [List.nil_append, traceLoop, if_neg (Nat.ne_of_lt h), if_pos rfl, List.append_nil,
      byteLen_snoc, List.length_append]
    rfl
  | cons c cs ih =>
    intro done loc h
    have hd : done.length < off :=
      Nat.lt_of_le_of_lt (by rw [List.length_append]; exact Nat.le_add_right _ _) h
    have hlen : (done ++ [c]).length = done.length + 1 := List.length_append
    rw [List.append_cons] at h
    rw [List.append_cons done c cs, List.cons_append, traceLoop, if_neg (Nat.ne_of_lt hd),
      ← hlen, ← byteLen_snoc]
    by_cases hc : c = '\n'
    · rw [if_pos hc, ih _ _ h, hc, List.cons_append, List.count_cons_self, Nat.add_right_comm]
      rfl
    · rw [if_neg hc, ih _ _ h, List.cons_append, List.count_cons_of_ne hc]

theorem traceLoop_stop (lc suf : List Char) (hlc : ∀ c ∈ lc, c ≠ '\n') :
    ∀ (pos ci bi : Nat) (loc : Loc), pos ≤ lc.length →
      traceLoop (ci + pos) (lc ++ suf) ci bi loc = loc := by
  induction lc with
  | nil =>
    intro pos ci bi loc h
    cases Nat.le_zero.mp h
    cases suf with
    | nil => rfl
    | cons c cs => exact if_pos rfl
  | cons c cs ih =>
    intro pos ci bi loc h
    rw [List.cons_append, traceLoop]
    cases pos with
    | zero => exact if_pos rfl
    | succ pos =>
      rw [if_neg (Nat.ne_of_lt (Nat.lt_add_of_pos_right (Nat.succ_pos pos))),
        if_neg (hlc c List.mem_cons_self), Nat.add_comm pos 1, ← Nat.add_assoc]
      exact ih (fun x hx => hlc x (List.mem_cons_of_mem _ hx)) pos _ _ loc (Nat.le_of_succ_le_succ h)

theorem lineOf_append (lc suf : List Char) (hlc : ∀ c ∈ lc, c ≠ '\n')
    (hsuf : suf = [] ∨ suf.head? = some '\n') : lineOf (lc ++ suf) = lc := by
  have hs : suf.takeWhile (· ≠ '\n') = [] := by
    rcases hsuf with rfl | h
    · rfl
    · cases suf with
      | nil => rfl
      | cons c t =>
        cases Option.some.inj h
        rfl
  unfold lineOf
  rw [List.takeWhile_append_of_pos (fun c hc => decide_eq_true (hlc c hc)), hs, List.append_nil]

/-- Correctness of the location: for a token at character `pos` of the line `lc` that follows
the complete lines `pre`, `trace` reports line `1 + (number of newlines before)`, position `pos`
and the content `lc` — whatever multi-byte characters the text contains. `pos = lc.length` is the
position of the line's own end (the end-of-line character). -/
theorem trace_locates' (pre lc suf : List Char) (pos : Nat)
    (hlc : ∀ c ∈ lc, c ≠ '\n') (hpre : pre = [] ∨ pre.getLast? = some '\n')
    (hsuf : suf = [] ∨ suf.head? = some '\n') (hpos : pos ≤ lc.length) :
    trace (pre ++ lc ++ suf) (pre.length + pos) = .ok (1 + pre.count '\n') pos lc := by
  have hloop : traceLoop (pre.length + pos) (pre ++ lc ++ suf) 0 0 ⟨1, 0, 0⟩
      = ⟨1 + pre.count '\n', pre.length, byteLen pre⟩ := by
    rw [List.append_assoc]
    rcases hpre with rfl | h
    · -- no line before `lc`: the initial location stands
      exact traceLoop_stop lc suf hlc pos 0 0 _ hpos
    · -- `pre = p ++ ['\n']`: past that newline first
      obtain ⟨p, rfl⟩ := List.getLast?_eq_some_iff.mp h
      have := traceLoop_past_newline ((p ++ ['\n']).length + pos) p (lc ++ suf) [] ⟨1, 0, 0⟩
        (by rw [List.nil_append, List.length_append]; exact Nat.lt_add_right pos (Nat.lt_succ_self _))
      rw [List.nil_append] at this
      rw [List.append_assoc p, List.singleton_append]
      exact this.trans (traceLoop_stop lc suf hlc pos _ _ _ hpos)
  unfold trace
  simp only [hloop]
  rw [if_neg (Nat.not_lt.mpr (Nat.le_add_right _ _)), List.append_assoc, splitAtByte_append]
  simp only []
  rw [lineOf_append lc suf hlc hsuf, Nat.add_sub_cancel_left]

/-- Both recorded line starts are byte offsets of character boundaries of the content. -/
theorem eoiLoop_inv (rest : List Char) :
    ∀ (pre : List Char) (ll lne : Nat × Nat),
      (∃ k, k ≤ pre.length ∧ ll.2 = byteLen (pre.take k)) →
      (∃ k, k ≤ pre.length ∧ lne.2 = byteLen (pre.take k)) →
      ∃ k, k ≤ (pre ++ rest).length ∧
        (eoiLoop rest (byteLen pre) ll lne).2 = byteLen ((pre ++ rest).take k) := by
  induction rest with
  | nil =>
    intro pre ll lne _ h2
    rw [List.append_nil]
    exact h2
  | cons c cs ih =>
    intro pre ll lne h1 h2
    have lift : ∀ b : Nat, (∃ k, k ≤ pre.length ∧ b = byteLen (pre.take k)) →
        ∃ k, k ≤ (pre ++ [c]).length ∧ b = byteLen ((pre ++ [c]).take k) :=
      fun _ h => h.imp fun _ hk => boundary_append hk.1 hk.2 [c]
    rw [eoiLoop, List.append_cons, ← byteLen_snoc]
    by_cases hw : (!isWhite c) = true
    · rw [if_pos hw]
      exact ih (pre ++ [c]) ll ll (lift _ h1) (lift _ h1)
    · rw [if_neg hw]
      by_cases hc : c = '\n'
      · -- the next line starts after the newline, which is one byte long
        rw [if_pos hc]
        refine ih (pre ++ [c]) _ lne ⟨(pre ++ [c]).length, Nat.le_refl _, ?_⟩ (lift _ h2)
        rw [List.take_length, byteLen_snoc, hc]
        rfl
      · rw [if_neg hc]
        exact ih (pre ++ [c]) ll lne (lift _ h1) (lift _ h2)

end C09
