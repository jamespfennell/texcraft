import TexcraftModel.Model.C10Body
import TexcraftModel.Lemmas.C10

/-! `from_raw_file` on sub-files of the declared sizes: a sub-file of `4·n` bytes is read word by word without
running off its end, and the guards of `deserialize_string` cover every short header (`bcplString_first`). -/
namespace C10.Body

theorem exists_four : ∀ l : List Nat, 4 ≤ l.length → ∃ a b c d t, l = a :: b :: c :: d :: t
  | a :: b :: c :: d :: t, _ => ⟨a, b, c, d, t, rfl⟩
  | [], h | [_], h | [_, _], h | [_, _, _], h => by simp at h

theorem words4_some : ∀ (n : Nat) (l : List Nat), l.length = 4 * n →
    ∃ r, words4 l = some r ∧ r.length = n
  | 0, l, h => by
    have : l = [] := List.eq_nil_of_length_eq_zero (by omega)
    subst this
    exact ⟨[], by simp [words4], rfl⟩
  | n + 1, l, h => by
    obtain ⟨a, b, c, d, t, rfl⟩ := exists_four l (by omega)
    obtain ⟨r, hr, hl⟩ := words4_some n t (by simp only [List.length_cons] at h; omega)
    exact ⟨(a, b, c, d) :: r, by simp only [words4, hr], congrArg (· + 1) hl⟩

theorem words4_mod (l : List Nat) (h : l.length % 4 = 0) : ∃ r, words4 l = some r ∧ r.length = l.length / 4 :=
  words4_some (l.length / 4) l (by omega)

theorem slice_length (b : List Nat) (s : Slice) (h1 : s.start ≤ s.stop) (h2 : s.stop ≤ b.length) :
    (slice b s).length = s.stop - s.start := by
  simp only [slice, List.length_take, List.length_drop]
  omega

theorem after_mod (k : Nat) (b : List Nat) (hk : k % 4 = 0) (hb : b.length % 4 = 0) :
    (after k b).length % 4 = 0 := by
  unfold after
  split
  · simp only [List.length_drop]; omega
  · rfl

theorem bcplString_ok (b : List Nat) (h : b.length = 0 ∨ 2 ≤ b.length) : ∃ r, bcplString b = some r := by
  fun_cases bcplString b with
  | case1 => exact ⟨_, rfl⟩
  | case2 => exact ⟨_, rfl⟩
  | case3 len hle => simp at h
  | case4 len c t hlt hle =>
    -- a length byte below 2 does not exceed a non-empty rest
    simp only [List.length_cons] at hle; omega
  | case5 => exact ⟨_, rfl⟩

/-- `b.get(0..k).unwrap_or(&[0; 0])` is empty or has `k` bytes, so a string field of two or more bytes passes the
guards. -/
theorem bcplString_first (k : Nat) (b : List Nat) (hk : 2 ≤ k) : ∃ r, bcplString (first k b) = some r := by
  apply bcplString_ok
  unfold first
  split
  · right; simp only [List.length_take]; omega
  · left; rfl

theorem header_ok (b : List Nat) (hm : b.length % 4 = 0) (h8 : 8 ≤ b.length) : ∃ h, header b = some h := by
  obtain ⟨c0, c1, c2, c3, b1, rfl⟩ := exists_four b (by omega)
  obtain ⟨d0, d1, d2, d3, t, rfl⟩ := exists_four b1 (by simp only [List.length_cons] at h8; omega)
  have hb2 := after_mod 4 (d0 :: d1 :: d2 :: d3 :: t) rfl (by simp only [List.length_cons] at hm ⊢; omega)
  simp only [header]
  generalize after 4 (d0 :: d1 :: d2 :: d3 :: t) = b2 at hb2 ⊢
  obtain ⟨sch, hsch⟩ := bcplString_first 40 b2 (by omega)
  obtain ⟨fam, hfam⟩ := bcplString_first 20 (after 40 b2) (by omega)
  obtain ⟨ex, hex, _⟩ := words4_mod _ (after_mod 4 _ rfl (after_mod 20 _ rfl (after_mod 40 _ rfl hb2)))
  simp only [hsch, hfam, hex]
  exact ⟨_, rfl⟩

/-- `262144` bytes are `2^16` words, the most for which `(instructions.len() - 1).try_into::<u16>()` succeeds. -/
theorem ligKern_ok (b : List Nat) (hm : b.length % 4 = 0) (hmax : b.length ≤ 262144) : ∃ r, ligKern b = some r := by
  obtain ⟨ws, hws, hl⟩ := words4_mod b hm
  unfold ligKern
  simp only [hws]
  by_cases h4 : b.length < 4
  · exact ⟨_, if_pos h4⟩
  rw [if_neg h4]
  obtain ⟨x, u, y, z, t, hd⟩ := exists_four (b.drop (b.length - 4)) (by rw [List.length_drop]; omega)
  rw [hd]
  simp only []
  by_cases hx : x = 255
  · rw [if_pos hx, if_neg (by simp only [List.length_map, hl]; omega)]
    exact ⟨_, rfl⟩
  · exact ⟨_, if_neg hx⟩

/-- Every byte list has four times the corresponding word count. -/
def LensOK : List (List Nat) → List Int → Prop
  | [], [] => True
  | x :: xs, n :: ns => (x.length : Int) = 4 * n ∧ LensOK xs ns
  | _, _ => False

theorem slices_lengths (b : List Nat) : ∀ (ns : List Int) (pos : Nat), (∀ u ∈ ns, 0 ≤ u) →
    (pos : Int) + 4 * sumI ns ≤ b.length → LensOK ((slicesFrom pos ns).map (slice b)) ns
  | [], _, _, _ => trivial
  | u :: us, pos, hn, hs => by
    obtain ⟨h1, hn'⟩ := List.forall_mem_cons.mp hn
    have h2 := sumI_nonneg us hn'
    simp only [sumI] at hs
    refine ⟨?_, slices_lengths b us (pos + u.toNat * 4) hn' (by omega)⟩
    rw [slice_length b _ (Nat.le_add_right _ _) (by simp only []; omega)]
    simp only []
    omega

theorem LensOK.length : ∀ (xs : List (List Nat)) (ns : List Int), LensOK xs ns → xs.length = ns.length
  | [], [], _ => rfl
  | [], _ :: _, h | _ :: _, [], h => by simp [LensOK] at h
  | x :: xs, n :: ns, h => by
    simp only [LensOK] at h
    simp [LensOK.length xs ns h.2]

theorem words4_of_length (x : List Nat) (n : Int) (h : (x.length : Int) = 4 * n) : ∃ r, words4 x = some r := by
  obtain ⟨r, hr, _⟩ := words4_mod x (by omega)
  exact ⟨r, hr⟩

theorem fromSlices_ok (bc ec : Nat) (n0 lh nc nw nh nd ni nl nk ne np : Int)
    (x0 x1 x2 x3 x4 x5 x6 x7 x8 x9 x10 : List Nat)
    (hl : LensOK [x0, x1, x2, x3, x4, x5, x6, x7, x8, x9, x10] [n0, lh, nc, nw, nh, nd, ni, nl, nk, ne, np])
    (hlh : 2 ≤ lh) (hnl : nl ≤ 65536) :
    ∃ f, fromSlices bc ec [x0, x1, x2, x3, x4, x5, x6, x7, x8, x9, x10] = some f := by
  obtain ⟨_, h1, h2, h3, h4, h5, h6, h7, h8, h9, h10, _⟩ := hl
  obtain ⟨r1, e1⟩ := header_ok x1 (by omega) (by omega)
  obtain ⟨r2, e2⟩ := words4_of_length x2 nc h2
  obtain ⟨r3, e3⟩ := words4_of_length x3 nw h3
  obtain ⟨r4, e4⟩ := words4_of_length x4 nh h4
  obtain ⟨r5, e5⟩ := words4_of_length x5 nd h5
  obtain ⟨r6, e6⟩ := words4_of_length x6 ni h6
  obtain ⟨r7, e7⟩ := ligKern_ok x7 (by omega) (by omega)
  obtain ⟨r8, e8⟩ := words4_of_length x8 nk h8
  obtain ⟨r9, e9⟩ := words4_of_length x9 ne h9
  obtain ⟨r10, e10⟩ := words4_of_length x10 np h10
  simp only [fromSlices, e1, e2, e3, e4, e5, e6, e7, e8, e9, e10]
  exact ⟨_, rfl⟩

end C10.Body
