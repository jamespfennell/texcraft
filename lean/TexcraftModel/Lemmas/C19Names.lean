import TexcraftModel.Model.C19Names

/-! File names: the code's left-to-right scan and path assembly is TeX's rule "append `.tex` iff the
last component has no dot" (`scanName_resolve`, `resolveCode_eq_resolveTeX`); `extAfter` is what the
scan knows of `hasExt` after a prefix (`extAfter_eq`). -/

namespace C19

/-- Does `w` contain a `.` after its last `/`, given that the part scanned so far did (`e`)? -/
def extAfter (w : Name) (e : Bool) : Bool :=
  match w with
  | [] => e
  | c :: r => if c = dot then extAfter r true else if c = slash then extAfter r false else extAfter r e

/-- The scanner's state after any prefix `raw`: `e` is the position of a dot in it. Scanning on and
assembling the name as `determine_full_path` does gives all of the name, plus `.tex` iff the
last component has no dot. -/
theorem scanName_resolve (w raw : Name) (e : Option Nat)
    (he : ∀ j, e = some j → ∃ pre post, raw = pre ++ dot :: post ∧ j = pre.length) :
    (match scanName w raw e with
      | (raw', none) => raw' ++ [dot] ++ [116, 101, 120]
      | (raw', some j) => raw'.take j ++ [dot] ++ raw'.drop (j + 1)) =
    if extAfter w e.isSome then raw ++ w else raw ++ w ++ texExt := by
  induction w generalizing raw e with
  | nil =>
    cases e with
    | none => simp [scanName, extAfter, texExt, dot]
    | some j =>
      obtain ⟨pre, post, rfl, rfl⟩ := he j rfl
      simp [scanName, extAfter]
  | cons c r ih =>
    -- `raw ++ c :: r` in the form in which the scanner goes on: `raw ++ [c] ++ r`
    rw [scanName, extAfter, List.append_cons raw c r]
    by_cases hd : c = dot
    · rw [if_pos hd, if_pos hd]
      exact ih (raw ++ [c]) (some raw.length) (fun j hj => ⟨raw, [], by rw [hd], by cases hj; rfl⟩)
    · rw [if_neg hd, if_neg hd]
      by_cases hs : c = slash
      · rw [if_pos hs, if_pos hs]
        exact ih (raw ++ [c]) none (fun j hj => nomatch hj)
      · rw [if_neg hs, if_neg hs]
        exact ih (raw ++ [c]) e (fun j hj => by
          obtain ⟨pre, post, rfl, rfl⟩ := he j hj
          exact ⟨pre, post ++ [c], by rw [List.append_assoc, List.cons_append], rfl⟩)

theorem extAfter_eq (w : Name) (e : Bool) : extAfter w e = (hasExt w || (e && !w.contains slash)) := by
  induction w generalizing e with
  | nil => simp [extAfter, hasExt]
  | cons c r ih =>
    rw [extAfter, hasExt, List.contains_cons]
    by_cases hd : c = dot
    · have hne : (slash == dot) = false := by decide
      rw [if_pos hd, if_pos hd, ih, hd, hne]
      cases hasExt r <;> cases r.contains slash <;> cases e <;> rfl
    · rw [if_neg hd, if_neg hd]
      by_cases hs : c = slash
      · -- by `rfl`: `beq_self_eq_true` finds `ReflBEq Nat` through Std's order classes and `Classical.choice`
        rw [if_pos hs, ih, hs, show (slash == slash) = true from rfl]
        cases hasExt r <;> simp
      · rw [if_neg hs, ih, beq_eq_false_iff_ne.mpr (Ne.symm hs)]
        cases hasExt r <;> simp

theorem extAfter_mono : ∀ (w : Name), extAfter w false = true → extAfter w true = true := by
  intro w h
  rw [extAfter_eq, Bool.false_and, Bool.or_false] at h
  rw [extAfter_eq, h]; rfl

theorem hasExt_eq_extAfter (w : Name) : hasExt w = extAfter w false := by
  rw [extAfter_eq, Bool.false_and, Bool.or_false]

theorem resolveCode_eq_resolveTeX (w : Name) : resolveCode w = resolveTeX w := by
  rw [resolveCode, resolveTeX, hasExt_eq_extAfter]
  exact scanName_resolve w [] none (fun j hj => nomatch hj)

end C19
