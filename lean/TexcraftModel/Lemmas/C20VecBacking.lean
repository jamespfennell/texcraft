import TexcraftModel.Lemmas.C20AList

/-!
# C20 — the `Vec<Option<V>>` backing container obeys the map laws

`get` after `insert` / `remove`, and `iter` as an association list with distinct keys whose
lookup is `get`: the contract the container code relies on (`Backing.Lawful`). `insert` and
`remove` are first seen as recursions along the vector.
-/
namespace C20.VecBacking
variable {V : Type}

theorem get_nil (k : Nat) : get ([] : List (Option V)) k = none := rfl

theorem get_cons_zero (o : Option V) (t : List (Option V)) : get (o :: t) 0 = o := rfl

theorem get_cons_succ (o : Option V) (t : List (Option V)) (j : Nat) :
    get (o :: t) (j + 1) = get t j := rfl

theorem insert_nil_zero (v : V) : insert ([] : List (Option V)) 0 v = [some v] := rfl

theorem insert_nil_succ (k : Nat) (v : V) :
    insert ([] : List (Option V)) (k + 1) v = none :: insert [] k v := rfl

theorem insert_cons_zero (o : Option V) (t : List (Option V)) (v : V) :
    insert (o :: t) 0 v = some v :: t := rfl

theorem insert_cons_succ (o : Option V) (t : List (Option V)) (k : Nat) (v : V) :
    insert (o :: t) (k + 1) v = o :: insert t k v := by
  unfold insert
  rw [List.getElem?_cons_succ]
  cases t[k]? with
  | none => simp only [List.length_cons, Nat.add_sub_add_right, List.cons_append]
  | some _ => rfl

theorem remove_nil (k : Nat) : remove ([] : List (Option V)) k = [] := rfl

theorem remove_cons_zero (o : Option V) (t : List (Option V)) : remove (o :: t) 0 = none :: t := rfl

theorem remove_cons_succ (o : Option V) (t : List (Option V)) (k : Nat) :
    remove (o :: t) (k + 1) = o :: remove t k := by
  unfold remove
  rw [List.getElem?_cons_succ]
  cases t[k]? <;> rfl

theorem get_insert (l : List (Option V)) (k k' : Nat) (v : V) :
    get (insert l k v) k' = if k' = k then some v else get l k' := by
  induction k generalizing l k' with
  | zero =>
    cases l <;> cases k' <;> rfl
  | succ k ih =>
    cases l with
    | nil =>
      rw [insert_nil_succ]
      cases k' with
      | zero => rfl
      | succ k' => simp only [get_cons_succ, ih, get_nil, Nat.add_right_cancel_iff]
    | cons o t =>
      rw [insert_cons_succ]
      cases k' with
      | zero => rfl
      | succ k' => simp only [get_cons_succ, ih, Nat.add_right_cancel_iff]

theorem get_remove (l : List (Option V)) (k k' : Nat) :
    get (remove l k) k' = if k' = k then none else get l k' := by
  induction l generalizing k k' with
  | nil => rw [remove_nil, get_nil, ite_self]
  | cons o t ih =>
    cases k with
    | zero => cases k' <;> rfl
    | succ k =>
      rw [remove_cons_succ]
      cases k' with
      | zero => rfl
      | succ k' => simp only [get_cons_succ, ih, Nat.add_right_cancel_iff]

theorem alookup_iterFrom_lt (l : List (Option V)) (i k : Nat) (h : k < i) :
    alookup (iterFrom i l) k = none := by
  induction l generalizing i with
  | nil => rfl
  | cons o t ih =>
    have ht := ih (i + 1) (Nat.lt_succ_of_lt h)
    cases o with
    | none => exact ht
    | some v => rw [iterFrom, alookup_cons, if_neg (Nat.ne_of_gt h), ht]

theorem alookup_iterFrom (l : List (Option V)) (i j : Nat) :
    alookup (iterFrom i l) (i + j) = get l j := by
  induction l generalizing i j with
  | nil => rfl
  | cons o t ih =>
    cases j with
    | zero =>
      cases o with
      | none => exact alookup_iterFrom_lt t (i + 1) i (Nat.lt_succ_self i)
      | some v => exact if_pos rfl
    | succ j =>
      have ht : alookup (iterFrom (i + 1) t) (i + (j + 1)) = get t j := by
        rw [← Nat.add_assoc, Nat.add_right_comm, ih]
      cases o with
      | none => exact ht
      | some v =>
        have hne : i ≠ i + (j + 1) := Nat.ne_of_lt (Nat.lt_add_of_pos_right (Nat.succ_pos j))
        rw [iterFrom, alookup_cons, if_neg hne, ht, get_cons_succ]

theorem alookup_iter (l : List (Option V)) (k : Nat) : alookup (iter l) k = get l k := by
  rw [iter, ← alookup_iterFrom l 0 k, Nat.zero_add]

theorem nodupKeys_iterFrom (l : List (Option V)) (i : Nat) : NodupKeys (iterFrom i l) := by
  induction l generalizing i with
  | nil => exact nodupKeys_nil
  | cons o t ih =>
    cases o with
    | none => exact ih (i + 1)
    | some v =>
      rw [iterFrom, nodupKeys_cons]
      exact ⟨alookup_iterFrom_lt t (i + 1) i (Nat.lt_succ_self i), ih (i + 1)⟩

theorem nodupKeys_iter (l : List (Option V)) : NodupKeys (iter l) := nodupKeys_iterFrom l 0

theorem length_iterFrom (l : List (Option V)) : ∀ i, (iterFrom i l).length = len l := by
  induction l with
  | nil => intro i; rfl
  | cons o t ih =>
    intro i
    cases o with
    | none => exact ih (i + 1)
    | some w => exact congrArg (· + 1) (ih (i + 1))

theorem len_eq_iter (l : List (Option V)) : len l = (iter l).length :=
  (length_iterFrom l 0).symm

end C20.VecBacking
