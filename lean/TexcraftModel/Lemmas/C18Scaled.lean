import TexcraftModel.Lemmas.C06Frac
import TexcraftModel.Model.C18

/-! C18: the hypothesis `ScaledRoundTrip` discharged from C06's `C06.printFrac_spec`, which holds
for every fraction value by an invariant of the print loop. This file only bridges the two
formulations of TeX §102/§103 (C06: `Int`, zero-padded to 17 digits; C18: `Nat`, first 17 digits). -/
namespace C18

theorem fracDigitsAux_eq_printLoop : ∀ (k f delta : Nat),
    fracDigitsAux k f delta = C06.Spec.printLoop k f delta := by
  intro k
  induction k with
  | zero => intro f delta; rfl
  | succ k ih =>
    intro f delta
    simp only [fracDigitsAux, C06.Spec.printLoop]
    generalize (if delta > 65536 then f + 32768 - 50000 else f) = g
    rw [Nat.mul_comm 10 (g % 65536), ih]
    split <;> rfl

theorem rdAcc_eq : ∀ ds : List Nat,
    C06.rdAcc ds = ((ds.foldr (fun d a => (a + d * 131072) / 10) 0 : Nat) : Int) := by
  intro ds
  induction ds with
  | nil => rfl
  | cons d ds ih =>
    rw [C06.rdAcc, ih, List.foldr_cons, Int.natCast_ediv, Int.natCast_add, Int.natCast_mul]
    rfl

theorem fracDigits_spec (fp : Nat) (hfp : fp < 65536) :
    (fracDigits fp).length ≤ 5 ∧ 1 ≤ (fracDigits fp).length ∧ (∀ d ∈ fracDigits fp, d < 10) ∧
      C06.fromDecimalDigits (fracDigits fp) = fp := by
  obtain ⟨_, h5, h1, h10, hrd⟩ := C06.printFrac_spec fp hfp
  rw [fracDigits, fracDigitsAux_eq_printLoop, Nat.mul_comm]
  exact ⟨h5, h1, h10, C06.fromDecimalDigits_pad17 _ ▸ hrd⟩

/-- TeX §102/§103: the decimal round trip of every fraction value. -/
theorem scaledRoundTrip : ScaledRoundTrip := by
  intro fp hfp
  obtain ⟨h5, h1, h10, hrd⟩ := fracDigits_spec fp hfp
  refine ⟨?_, h10, fun hnil => by rw [hnil] at h1; cases h1⟩
  unfold fromDecimalDigits
  rw [List.take_of_length_le (by omega)]
  rw [C06.fromDecimalDigits, rdAcc_eq] at hrd
  exact_mod_cast hrd

end C18
