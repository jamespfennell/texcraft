/-
C11 — the normalisation of the instruction list (`Model/C11Norm.lean`): one pass of
`reachable_array` and of the compaction it drives, as a relation (`Pass`). Read off it: compaction
keeps every reachable chain (same right characters and operations in the same order), keeps the
SKIPs inside the table and leaves every step reachable; hence `normalise` preserves `C05.rule`, and
its result is a well-formed PL-level program (`wf`) in which every step is reachable.
-/
import TexcraftModel.Model.C05
import TexcraftModel.Model.C11
import TexcraftModel.Model.C11Bridge
import TexcraftModel.Model.C11Norm
import TexcraftModel.Lemmas.C11Rule

namespace C11

theorem reachFrom_length : ∀ (l : List Instr) (marks : List Nat), (reachFrom marks l).length = l.length := by
  intro l
  induction l with
  | nil => intro marks; rfl
  | cons i rest ih => intro marks; simp [reachFrom, ih]

theorem reachFrom_cons (marks : List Nat) (i : Instr) (rest : List Instr) :
    reachFrom marks (i :: rest) = marks.contains 0 ::
      reachFrom ((if marks.contains 0 then i.next.toList else []) ++ (marks.filter (· ≠ 0)).map (· - 1)) rest := by
  simp only [reachFrom]
  cases marks.contains 0 <;> cases i.next <;> rfl

theorem mem_shifted {marks : List Nat} {k : Nat} :
    k ∈ (marks.filter (· ≠ 0)).map (· - 1) ↔ k + 1 ∈ marks := by
  simp only [List.mem_map, List.mem_filter]
  constructor
  · rintro ⟨m, ⟨hm, h0⟩, rfl⟩
    have : m ≠ 0 := by simpa using h0
    rwa [Nat.sub_add_cancel (Nat.pos_of_ne_zero this)]
  · exact fun h => ⟨k + 1, ⟨h, by simp⟩, by simp⟩

theorem reachFrom_mark : ∀ (l : List Instr) (marks : List Nat) (m : Nat), m ∈ marks → m < l.length →
    (reachFrom marks l)[m]? = some true := by
  intro l
  induction l with
  | nil => intro marks m _ hm; simp at hm
  | cons i rest ih =>
    intro marks m hmem hm
    rw [reachFrom_cons]
    cases m with
    | zero => simp [hmem]
    | succ k => exact ih _ k (List.mem_append_right _ (mem_shifted.mpr hmem)) (by simpa using hm)

theorem noReachRedirect_cons {i : Instr} {rest : List Instr} {f : Bool} {fl : List Bool}
    (h : noReachRedirect (i :: rest) (f :: fl) = true) :
    (f = true → i.op.isRedirect = false) ∧ noReachRedirect rest fl = true := by
  simp only [noReachRedirect, Bool.and_eq_true, Bool.not_eq_true'] at h
  exact ⟨fun hf => by simpa [hf] using h.1, h.2⟩

theorem noReachRedirect_iff (l : List Instr) (fl : List Bool) :
    noReachRedirect l fl = true ↔ ∀ p ∈ l.zip fl, p.2 = true → p.1.op.isRedirect = false := by
  induction l generalizing fl with
  | nil => exact ⟨fun _ _ h => (List.not_mem_nil h).elim, fun _ => rfl⟩
  | cons i rest ih =>
    cases fl with
    | nil => exact ⟨fun _ _ h => (List.not_mem_nil h).elim, fun _ => rfl⟩
    | cons f fl =>
      rw [noReachRedirect, Bool.and_eq_true, ih, List.zip_cons_cons, List.forall_mem_cons]
      cases f
      · simp only [Bool.false_and, Bool.not_false, Bool.false_eq_true, false_imp_iff, true_and]
      · simp only [Bool.true_and, Bool.not_eq_true', forall_const]

theorem countTrue_eq_count : ∀ fl : List Bool, countTrue fl = fl.count true
  | [] => rfl
  | true :: t => by rw [countTrue, countTrue_eq_count t, List.count_cons_self]
  | false :: t => by rw [countTrue, countTrue_eq_count t]; simp

theorem countTrue_take_succ (fl : List Bool) (r : Bool) (k : Nat) :
    countTrue ((r :: fl).take (k + 1)) = (if r then 1 else 0) + countTrue (fl.take k) := by
  cases r <;> simp [countTrue] <;> omega

theorem countTrue_take_lt (fl : List Bool) (e : Nat) (h : fl[e]? = some true) :
    countTrue (fl.take e) < countTrue fl := by
  obtain ⟨he, hv⟩ := List.getElem?_eq_some_iff.mp h
  have hc := congrArg (List.count true) (List.take_append_drop e fl)
  rw [List.drop_eq_getElem_cons he, hv, List.count_append, List.count_cons_self] at hc
  rw [countTrue_eq_count, countTrue_eq_count]
  omega

theorem posOf_eq_count : ∀ (l : List Instr) (fl : List Bool) (e : Nat),
    noReachRedirect l fl = true → e ≤ l.length → posOf l fl e = countTrue (fl.take e) := by
  intro l
  induction l with
  | nil => intro fl e _ he; cases fl <;> simp_all [posOf, countTrue]
  | cons i rest ih =>
    intro fl e hnr he
    cases fl with
    | nil => cases e <;> rfl
    | cons f fl' =>
      obtain ⟨h1, h2⟩ := noReachRedirect_cons hnr
      cases e with
      | zero => simp [posOf, countTrue]
      | succ k =>
        simp only [posOf, List.take_succ_cons]
        rw [ih fl' k h2 (by simpa using he)]
        cases f with
        | false => simp [countTrue]
        | true => simp [countTrue, h1 rfl]; omega

theorem outNext_eq_map (next : Option Nat) (fl : List Bool) (h : ∀ inc, next = some inc → inc ≤ fl.length) :
    outNext next fl = next.map fun inc => countTrue (fl.take inc) := by
  cases next with
  | none => rfl
  | some inc =>
    cases inc with
    | zero => simp [outNext, adjSkip, countTrue]
    | succ k => simp [outNext, adjSkip, h _ rfl]

theorem nwf_parts {p : Prog} {es : List (Nat × Nat)} (h : nwf p es = true) :
    closed p.instrs = true ∧ (∀ ce ∈ es, ce.2 < p.instrs.length) ∧
      (∀ l, p.lb = some l → l + 1 < p.instrs.length) ∧
      noReachRedirect p.instrs (reachable p es) = true := by
  simp only [nwf, Bool.and_eq_true, List.all_eq_true, decide_eq_true_eq] at h
  obtain ⟨⟨⟨h1, h2⟩, h3⟩, h4⟩ := h
  refine ⟨h1, h2, ?_, h4⟩
  intro l hl
  rw [hl] at h3
  simpa using h3

/-- Every step of the PL-level program is reachable from a label. -/
def AllReach (p : Prog) (es : List (Nat × Nat)) : Prop :=
  reachFrom (plainMarks p es) p.instrs = List.replicate p.instrs.length true

theorem startMarks_eq {p : Prog} {es : List (Nat × Nat)} (h : ∀ l, p.lb = some l → l + 1 < p.instrs.length) :
    startMarks p es = plainMarks p es := by
  cases hl : p.lb with
  | none => simp [startMarks, plainMarks, hl]
  | some l => simp [startMarks, plainMarks, hl, Nat.ne_of_lt (h l hl)]

theorem marks_reach {p : Prog} {es : List (Nat × Nat)} (h : nwf p es = true) :
    ∀ m ∈ plainMarks p es, m < p.instrs.length ∧ (reachable p es)[m]? = some true := by
  obtain ⟨_, hent, hlb, _⟩ := nwf_parts h
  intro m hm
  have hlt : m < p.instrs.length := by
    rcases mem_plainMarks.mp hm with hl | hm
    · exact Nat.lt_of_succ_lt (hlb m hl)
    · obtain ⟨ce, hce, rfl⟩ := List.mem_map.mp hm
      exact hent ce hce
  exact ⟨hlt, reachFrom_mark _ _ m (startMarks_eq (es := es) hlb ▸ hm) hlt⟩

theorem fixLast_length : ∀ (l : List Instr), (fixLast l).length = l.length := by
  intro l
  fun_induction fixLast l with
  | case1 => rfl
  | case2 a => rfl
  | case3 a b t ih => exact congrArg (· + 1) ih

theorem reachFrom_fixLast : ∀ (l : List Instr) (marks : List Nat), reachFrom marks (fixLast l) = reachFrom marks l := by
  intro l
  fun_induction fixLast l with
  | case1 => intro _; rfl
  | case2 a => intro marks; simp [reachFrom]
  | case3 a b t ih => intro marks; rw [reachFrom_cons, reachFrom_cons, ih]

theorem closed_fixLast : ∀ (l : List Instr), closed l = true → fixLast l = l := by
  intro l hc
  fun_induction fixLast l with
  | case1 => rfl
  | case2 a =>
    have := (closed_cons hc).1 0
    by_cases h : a.next = some 0
    · simp [h] at this
    · simp [h]
  | case3 a b t ih => rw [ih (closed_cons hc).2]

theorem mem_compact : ∀ (l : List Instr) (fl : List Bool) (x : Instr), x ∈ compact l fl →
    ∃ y ∈ l, y.op.isRedirect = false ∧ x.right = y.right ∧ x.op = y.op := by
  intro l fl x
  fun_induction compact l fl with
  | case1 i rest f fl ih =>
    intro hx
    rcases List.mem_append.mp hx with hx | hx
    · split at hx
      · next hem =>
        simp only [Bool.and_eq_true, Bool.not_eq_true'] at hem
        rw [List.mem_singleton.mp hx]
        exact ⟨i, List.mem_cons_self, hem.2, rfl, rfl⟩
      · exact absurd hx List.not_mem_nil
    · obtain ⟨y, hy, h⟩ := ih hx
      exact ⟨y, List.mem_cons_of_mem _ hy, h⟩
  | case2 => exact fun hx => absurd hx List.not_mem_nil

theorem noRedirect_compact (l : List Instr) (fl : List Bool) : noRedirect (compact l fl) = true := by
  simp only [noRedirect, List.all_eq_true]
  intro x hx
  obtain ⟨y, _, hr, _, ho⟩ := mem_compact l fl x hx
  simp [ho, hr]

/-- One pass of `reachable_array` and of the compaction it drives, as a relation: `fl` are the flags
the pass computes from `marks`, `c` the flagged words with their SKIPs renumbered. A flagged word is
no redirect word and its SKIP lands on a flagged word. -/
inductive Pass : List Nat → List Instr → List Bool → List Instr → Prop
  | nil (marks) : Pass marks [] [] []
  | drop {marks i rest fl c} : (0 : Nat) ∉ marks → Pass ((marks.filter (· ≠ 0)).map (· - 1)) rest fl c →
      Pass marks (i :: rest) (false :: fl) c
  | keep {marks i rest fl c} : (0 : Nat) ∈ marks → i.op.isRedirect = false →
      (∀ inc, i.next = some inc → fl[inc]? = some true) →
      Pass (i.next.toList ++ (marks.filter (· ≠ 0)).map (· - 1)) rest fl c →
      Pass marks (i :: rest) (true :: fl) ({ i with next := i.next.map fun inc => countTrue (fl.take inc) } :: c)

theorem compact_cons_true {i : Instr} (h : i.op.isRedirect = false) (rest : List Instr) (fl : List Bool) :
    compact (i :: rest) (true :: fl) = { i with next := outNext i.next fl } :: compact rest fl := by
  simp only [compact, h, Bool.not_false, Bool.and_self, if_true, List.singleton_append]

theorem pass_reach : ∀ (l : List Instr) (marks : List Nat), closed l = true →
    noReachRedirect l (reachFrom marks l) = true → Pass marks l (reachFrom marks l) (compact l (reachFrom marks l)) := by
  intro l
  induction l with
  | nil => intro marks _ _; exact .nil marks
  | cons i rest ih =>
    intro marks hc hnr
    obtain ⟨hnext, hcrest⟩ := closed_cons hc
    rw [reachFrom_cons] at hnr ⊢
    obtain ⟨hnr1, hnr2⟩ := noReachRedirect_cons hnr
    have ih' := ih _ hcrest hnr2
    by_cases hr : marks.contains 0 = true
    · simp only [hr, if_true] at ih' ⊢
      rw [compact_cons_true (hnr1 hr),
        outNext_eq_map _ _ fun inc hn => by rw [reachFrom_length]; exact Nat.le_of_lt (hnext inc hn)]
      refine .keep (by simpa [List.contains_iff_mem] using hr) (hnr1 hr) (fun inc hn => ?_) ih'
      exact reachFrom_mark rest _ inc (by simp [hn]) (hnext inc hn)
    · have hr' : marks.contains 0 = false := by simpa using hr
      simp only [hr', Bool.false_eq_true, if_false, List.nil_append] at ih' ⊢
      exact .drop (by simpa [List.contains_iff_mem] using hr') ih'

theorem Pass.length_eq {marks l fl c} (h : Pass marks l fl c) : c.length = countTrue fl := by
  induction h with
  | nil => rfl
  | drop _ _ ih => exact ih
  | keep _ _ _ _ ih => simp [countTrue, ih]

theorem Pass.chain_eq {marks l fl c} (h : Pass marks l fl c) : ∀ e, fl[e]? = some true →
    (chain (countTrue (fl.take e)) c).map key = (chain e l).map key := by
  induction h with
  | nil => intro e he; simp at he
  | drop _ _ ih =>
    intro e he
    cases e with
    | zero => simp at he
    | succ k => rw [countTrue_take_succ]; simpa [chain] using ih k (by simpa using he)
  | @keep marks i rest fl c _ _ hn _ ih =>
    intro e he
    cases e with
    | zero =>
      simp only [List.take_zero, countTrue, chain, List.map_cons, key, List.cons.injEq, true_and]
      cases hi : i.next with
      | none => rfl
      | some inc => exact ih inc (hn inc hi)
    | succ k =>
      rw [countTrue_take_succ, if_pos rfl, Nat.add_comm]
      exact ih k (by simpa using he)

theorem Pass.closed_out {marks l fl c} (h : Pass marks l fl c) : closed c = true := by
  induction h with
  | nil => rfl
  | drop _ _ ih => exact ih
  | @keep marks i rest fl c _ _ hn hp ih =>
    simp only [closed, ih, Bool.and_true]
    cases hi : i.next with
    | none => rfl
    | some inc =>
      simp only [Option.map_some, decide_eq_true_eq, hp.length_eq]
      exact countTrue_take_lt fl inc (hn inc hi)

/-- Stated for any marks that hold the new positions of the old ones: the induction then needs
membership only, no equation between lists of marks. -/
theorem Pass.allReach {marks l fl c} (h : Pass marks l fl c) : ∀ marks' : List Nat,
    (∀ m ∈ marks, countTrue (fl.take m) ∈ marks') → reachFrom marks' c = List.replicate c.length true := by
  induction h with
  | nil => intro _ _; rfl
  | drop _ _ ih =>
    intro marks' hm
    refine ih marks' fun m hms => ?_
    simpa [countTrue] using hm (m + 1) (mem_shifted.mp hms)
  | @keep marks i rest fl c h0 _ _ _ ih =>
    intro marks' hm
    have h0' : marks'.contains 0 = true := List.contains_iff_mem.mpr (hm 0 h0)
    rw [reachFrom_cons, h0', if_pos rfl, List.length_cons, List.replicate_succ]
    congr 1
    refine ih _ fun m hms => ?_
    rcases List.mem_append.mp hms with hms | hms
    · have : i.next = some m := Option.mem_toList.mp hms
      exact List.mem_append_left _ (by simp [this])
    · refine List.mem_append_right _ (mem_shifted.mpr ?_)
      simpa [countTrue] using hm (m + 1) (mem_shifted.mp hms)

theorem nwf_pass {p : Prog} {es : List (Nat × Nat)} (h : nwf p es = true) :
    Pass (plainMarks p es) p.instrs (reachable p es) (compact p.instrs (reachable p es)) := by
  obtain ⟨hcl, _, hlb, hnr⟩ := nwf_parts h
  simp only [reachable, startMarks_eq hlb] at hnr ⊢
  exact pass_reach _ _ hcl hnr

theorem normalise_of_reach {p : Prog} {es : List (Nat × Nat)}
    (h : ∀ m ∈ plainMarks p es, (reachable p es)[m]? = some true) :
    normalise p es =
      (⟨fixLast (compact p.instrs (reachable p es)), p.lb.map (posOf p.instrs (reachable p es)), p.rb⟩,
       es.map fun ce => (ce.1, posOf p.instrs (reachable p es) ce.2)) := by
  have hes : es.filterMap (fun ce => if isReach (reachable p es) ce.2 then
        some (ce.1, posOf p.instrs (reachable p es) ce.2) else none) =
      es.map fun ce => (ce.1, posOf p.instrs (reachable p es) ce.2) := by
    apply filterMap_all_some
    intro ce hce
    simp [isReach, h _ (mem_plainMarks.mpr (Or.inr (List.mem_map_of_mem hce)))]
  simp only [normalise, hes]
  cases hl : p.lb with
  | none => rfl
  | some l => simp [isReach, h l (mem_plainMarks.mpr (Or.inl hl))]

theorem normalise_eq {p : Prog} {es : List (Nat × Nat)} (h : nwf p es = true) :
    normalise p es =
      (⟨compact p.instrs (reachable p es), p.lb.map (posOf p.instrs (reachable p es)), p.rb⟩,
       es.map fun ce => (ce.1, posOf p.instrs (reachable p es) ce.2)) := by
  rw [normalise_of_reach fun m hm => (marks_reach h m hm).2, closed_fixLast _ (nwf_pass h).closed_out]

theorem posOf_mark {p : Prog} {es : List (Nat × Nat)} (h : nwf p es = true) : ∀ m ∈ plainMarks p es,
    posOf p.instrs (reachable p es) m = countTrue ((reachable p es).take m) := fun m hm =>
  posOf_eq_count _ _ m (nwf_parts h).2.2.2 (Nat.le_of_lt (marks_reach h m hm).1)

theorem normalise_rule {p : Prog} {es : List (Nat × Nat)} (h : nwf p es = true) (ks : List Int) :
    ∀ (l : Option Nat) (r : Nat),
      C05.rule (toC05 (normalise p es).1 (normalise p es).2 ks) l r = C05.rule (toC05 p es ks) l r := by
  rw [normalise_eq h]
  refine rule_eq_of_chains _ ks ks rfl fun e he r => chainRule_key ks r ?_
  rw [posOf_mark h e he]
  exact (nwf_pass h).chain_eq e (marks_reach h e he).2

theorem normalise_wf_allReach {p : Prog} {es : List (Nat × Nat)} (h : nwf p es = true) :
    wf (normalise p es).1 (normalise p es).2 = true ∧ AllReach (normalise p es).1 (normalise p es).2 ∧
      (normalise p es).2.map (·.1) = es.map (·.1) := by
  have hm := marks_reach h
  have hp := nwf_pass h
  have hpos := posOf_mark h
  have hlt : ∀ m ∈ plainMarks p es,
      posOf p.instrs (reachable p es) m < (compact p.instrs (reachable p es)).length := fun m hmm => by
    rw [hp.length_eq, hpos m hmm]
    exact countTrue_take_lt _ _ (hm m hmm).2
  rw [normalise_eq h]
  refine ⟨?_, ?_, ?_⟩
  · simp only [wf, Bool.and_eq_true, List.all_eq_true, decide_eq_true_eq]
    refine ⟨⟨⟨noRedirect_compact _ _, hp.closed_out⟩, ?_⟩, ?_⟩
    · intro ce hce
      obtain ⟨ce0, hce0, rfl⟩ := List.mem_map.mp hce
      exact hlt _ (mem_plainMarks.mpr (Or.inr (List.mem_map_of_mem hce0)))
    · cases hl : p.lb with
      | none => rfl
      | some l => simpa using hlt l (mem_plainMarks.mpr (Or.inl hl))
  · rw [AllReach, plainMarks_map (p := p)]
    · exact hp.allReach _ fun m hm => by rw [← hpos m hm]; exact List.mem_map_of_mem hm
    · rfl
  · simp [List.map_map, Function.comp_def]

end C11
