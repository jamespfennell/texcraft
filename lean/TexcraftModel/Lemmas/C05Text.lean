import TexcraftModel.Model.C05Text

/-! # C05 — the text preprocessor model

`addWord_ok`: every node of a word carries the active font and none is glue, so cutting a text at
its glue (`cut_addWords_true`, `cut_addWords_false`) gives back the words of `splitWs`, which are
non-empty (`splitWs_nonempty`); `addWord_glyphs`: the nodes of a word show the glyphs of the run. -/
namespace C05

theorem nodesOf_ok (font : Nat) (it : Item) :
    ∀ n ∈ nodesOf font it, n.fontOk font = true ∧ n ≠ HNode.glue := by
  intro n hn
  cases it with
  | kern k => simp [nodesOf] at hn; subst hn; simp [HNode.fontOk]
  -- `-BEq.rfl`: on `Nat` it rests on `Classical.choice`; without it `simp` closes `font == font` by `beq_iff_eq`
  | ch c =>
    simp only [nodesOf] at hn; split at hn <;> simp at hn <;> rcases hn with rfl | rfl <;> simp [HNode.fontOk, -BEq.rfl]
  | lig c o lb rb =>
    simp only [nodesOf] at hn; split at hn <;> simp at hn <;> rcases hn with rfl | rfl <;> simp [HNode.fontOk, -BEq.rfl]

theorem addWord_ok (p : Program) (font : Nat) (w : List Nat) :
    ∀ n ∈ addWord p font w, n.fontOk font = true ∧ n ≠ HNode.glue := by
  intro n hn
  obtain ⟨it, _, h⟩ := List.mem_flatMap.mp hn
  exact nodesOf_ok font it n h

theorem addWord_fonts (p : Program) (font : Nat) (w : List Nat) :
    ∀ n ∈ addWord p font w, n.fontOk font = true :=
  fun n hn => (addWord_ok p font w n hn).1

theorem addWord_noGlue (p : Program) (font : Nat) (w : List Nat) :
    ∀ n ∈ addWord p font w, n ≠ HNode.glue :=
  fun n hn => (addWord_ok p font w n hn).2

theorem cut_append_noGlue (l r : List HNode) (h : ∀ n ∈ l, n ≠ HNode.glue) (s : List HNode)
    (ss : List (List HNode)) (hr : cutAtGlue r = s :: ss) : cutAtGlue (l ++ r) = (l ++ s) :: ss := by
  induction l with
  | nil => simpa using hr
  | cons x t ih =>
    have ht := ih (fun n hn => h n (List.mem_cons_of_mem _ hn))
    have hx : x ≠ HNode.glue := h x (List.mem_cons_self ..)
    cases x with
    | glue => exact absurd rfl hx
    | _ => simp [cutAtGlue, ht]

theorem cut_addWords_true (p : Program) (font : Nat) : ∀ ws : List (List Nat),
    cutAtGlue (addWords p font true ws) = [] :: ws.map (addWord p font) := by
  intro ws
  induction ws with
  | nil => rfl
  | cons w rest ih =>
    simp only [addWords, if_true, List.cons_append, List.nil_append, cutAtGlue, List.map_cons]
    rw [cut_append_noGlue _ _ (addWord_noGlue p font w) _ _ ih]
    simp

theorem cut_addWords_false (p : Program) (font : Nat) (w : List Nat) (rest : List (List Nat)) :
    cutAtGlue (addWords p font false (w :: rest)) = (w :: rest).map (addWord p font) := by
  simp only [addWords, Bool.false_eq_true, if_false, List.nil_append, List.map_cons]
  rw [cut_append_noGlue _ _ (addWord_noGlue p font w) _ _ (cut_addWords_true p font rest)]
  simp

theorem splitWs_ne_nil_of_head (c : Nat) (t : List Nat) (h : isWs c = false) : splitWs (c :: t) ≠ [] := by
  simp only [splitWs, h, Bool.false_eq_true, if_false]
  split
  · simp
  · split
    · simp
    · split <;> simp

theorem splitWs_nonempty : ∀ (t : List Nat), ∀ w ∈ splitWs t, w ≠ [] := by
  intro t
  -- in every clause the words are those of the tail, except that `c` starts or extends the first
  fun_induction splitWs t with
  | case1 => nofun
  | case2 c t hc ih => exact ih
  | case3 c hc => exact List.forall_mem_singleton.mpr (List.cons_ne_nil _ _)
  | case4 c hc d t hd ih => exact List.forall_mem_cons.mpr ⟨List.cons_ne_nil _ _, ih⟩
  | case5 c hc d t hd w0 ws hs ih =>
    rw [hs] at ih ⊢
    exact List.forall_mem_cons.mpr ⟨List.cons_ne_nil _ _, (List.forall_mem_cons.mp ih).2⟩
  | case6 c hc d t hd hs ih =>
    rw [hs]
    exact List.forall_mem_singleton.mpr (List.cons_ne_nil _ _)

theorem nodesOf_glyph (font : Nat) (it : Item) : (nodesOf font it).flatMap HNode.glyph = [it.glyph] := by
  cases it with
  | ch c => simp only [nodesOf]; split <;> simp [HNode.glyph, Item.glyph]
  | kern k => simp [nodesOf, HNode.glyph, Item.glyph]
  | lig c o lb rb => simp only [nodesOf]; split <;> simp [HNode.glyph, Item.glyph]

theorem addWord_glyphs (p : Program) (font : Nat) (w : List Nat) :
    (addWord p font w).flatMap HNode.glyph = glyphs (runM p w) := by
  simp only [addWord, glyphs]
  induction runM p w with
  | nil => rfl
  | cons it t ih => simp [List.flatMap_cons, List.flatMap_append, nodesOf_glyph, ih]

end C05
