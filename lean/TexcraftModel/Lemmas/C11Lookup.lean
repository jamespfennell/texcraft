/-
C11 — `lookup` in an association list is core's `List.lookup` (`lookup_eq`); what it does on `++`, `filter`,
`map`, a `filterMap` on the values, and how it relates to membership, are the facts of core and of
`Util/Assoc.lean`, stated for `lookup`.
-/
import TexcraftModel.Model.C11
import TexcraftModel.Util.Assoc

namespace C11

theorem lookup_eq (a : List (Nat × Nat)) (k : Nat) : lookup a k = a.lookup k :=
  Assoc.lookup_unique _ (fun _ => rfl) (fun _ _ _ _ => rfl) a k

theorem lookup_eq_find (a : List (Nat × Nat)) (k : Nat) :
    lookup a k = (a.find? (fun x => decide (x.1 = k))).map (·.2) := by
  rw [lookup_eq, Assoc.find?_fst_map_snd]

theorem lookup_append (a b : List (Nat × Nat)) (k : Nat) :
    lookup (a ++ b) k = (lookup a k).or (lookup b k) := by
  rw [lookup_eq, lookup_eq, lookup_eq, List.lookup_append]

theorem lookup_filter_ne (a : List (Nat × Nat)) (c k : Nat) :
    lookup (a.filter (·.1 ≠ c)) k = if k = c then none else lookup a k := by
  have h := Assoc.lookup_filter_key (fun x => decide (x ≠ c)) a k
  rw [lookup_eq, lookup_eq, h]
  by_cases hk : k = c <;> simp [hk]

theorem lookup_eq_none_iff {a : List (Nat × Nat)} {k : Nat} : lookup a k = none ↔ k ∉ a.map (·.1) := by
  rw [lookup_eq]; exact Assoc.lookup_eq_none_iff_not_mem_keys

theorem lookup_mem {a : List (Nat × Nat)} {k v : Nat} (h : lookup a k = some v) : (k, v) ∈ a :=
  Assoc.mem_of_lookup_eq_some (lookup_eq a k ▸ h)

theorem lookup_iff_mem {l : List (Nat × Nat)} (hnd : (l.map (·.1)).Nodup) (c e : Nat) :
    lookup l c = some e ↔ (c, e) ∈ l := by
  rw [lookup_eq]; exact Assoc.lookup_eq_some_iff_mem hnd

theorem lookup_map_snd (es : List (Nat × Nat)) (f : Nat → Nat) (c : Nat) :
    lookup (es.map fun ce => (ce.1, f ce.2)) c = (lookup es c).map f := by
  simp only [lookup_eq_find, List.find?_map, Option.map_map]
  rfl

theorem lookup_map_of_inj {α : Type} (k v : α → Nat) (hk : ∀ x y, k x = k y → x = y)
    (l : List α) (a : α) (h : a ∈ l) : lookup (l.map fun x => (k x, v x)) (k a) = some (v a) := by
  rw [lookup_eq]; exact Assoc.lookup_map_graph k v hk h

theorem lookup_filterMap (g : Nat → Option Nat) (es : List (Nat × Nat)) (hnd : (es.map (·.1)).Nodup) (c : Nat) :
    lookup (es.filterMap fun ce => (g ce.2).map fun v => (ce.1, v)) c = (lookup es c).bind g := by
  rw [lookup_eq, lookup_eq, Assoc.lookup_filterMap_snd g hnd]

theorem sorted_lookup_ext (l1 l2 : List (Nat × Nat)) (h1 : (l1.map (·.1)).Pairwise (· < ·))
    (h2 : (l2.map (·.1)).Pairwise (· < ·)) (h : ∀ c, lookup l1 c = lookup l2 c) : l1 = l2 :=
  Assoc.eq_of_lookup_eq h1 h2 fun k => by rw [← lookup_eq, ← lookup_eq, h]

end C11
