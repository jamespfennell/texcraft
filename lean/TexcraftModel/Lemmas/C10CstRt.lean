import TexcraftModel.Lemmas.C10Cst

/-! The round-trip law of the CST model. Reading the canonical rendering of a well-formed node is a run of
the main loop (`Runs`) that ends with a node of the same shape attached and exactly that text consumed
(`read_node`, with `Runs` written out, and `read_nodes` for a forest); the statement is about shapes (`strip`), so the
step lemmas leave spans unnamed. -/
namespace C10.Cst

theorem spanP_append (p : Char → Bool) (a b : List Char) (ha : ∀ c ∈ a, p c = true) (hb : headOK p b = true) :
    spanP p (a ++ b) = (a, b) := by
  have hb' : b.takeWhile p = [] ∧ b.dropWhile p = b := by
    cases b with
    | nil => exact ⟨rfl, rfl⟩
    | cons c t =>
      have : ¬ p c = true := by simpa [headOK] using hb
      exact ⟨List.takeWhile_cons_of_neg this, List.dropWhile_cons_of_neg this⟩
  rw [spanP_eq, List.takeWhile_append_of_pos ha, List.dropWhile_append_of_pos ha, hb'.1, hb'.2, List.append_nil]

theorem norm_id : ∀ (l : List Char), (∀ c ∈ l, c ≠ '\r') → norm 0 l = l
  | [], _ => by simp [norm]
  | c :: t, h => by
    obtain ⟨hc, ht⟩ := List.forall_mem_cons.mp h
    rw [norm, if_neg hc, norm_id t ht]
    split
    · next hn => rw [hn]
    · rfl

theorem scanComment_balanced (t : List Char) (d : Nat) (cs : List Nat) (pos : Nat) (acc rest : List Char)
    (hl : cs.length = d + 1) (hb : balancedFrom d t = true) :
    scanComment cs pos (t ++ ')' :: rest) acc = (t.reverse ++ acc, [], pos + t.length + 1, rest) := by
  -- along `balancedFrom`, whose cases are the scanner's: the depth it counts is the length of the scanner's stack less one
  fun_induction balancedFrom d t generalizing cs pos acc with
  | case1 d =>
    cases beq_iff_eq.mp hb
    match cs, hl with
    | [u], _ => simp [scanComment]
  | case2 d t ih =>
    rw [List.cons_append, scanComment, if_pos rfl, ih (pos :: cs) (pos + 1) _ (congrArg (· + 1) hl) hb]
    simp [Nat.add_assoc, Nat.add_comm 1]
  | case3 => cases hb
  | case4 t d h1 ih =>
    match cs, hl with
    | u :: v :: cs', hl =>
      rw [List.cons_append, scanComment, if_neg h1, if_pos rfl, List.tail_cons]
      show scanComment (v :: cs') _ _ _ = _
      rw [ih (v :: cs') (pos + 1) _ (Nat.succ.inj hl) hb]
      simp [Nat.add_assoc, Nat.add_comm 1]
  | case5 d c t h1 h2 ih =>
    rw [List.cons_append, scanComment, if_neg h1, if_neg h2, ih cs (pos + 1) _ hl hb]
    simp [Nat.add_assoc, Nat.add_comm 1]

theorem headOK_append (p : Char → Bool) (a b : List Char) (ha : headOK p a = true) (hb : headOK p b = true) :
    headOK p (a ++ b) = true := by
  cases a with
  | nil => simpa using hb
  | cons c t => simpa [headOK] using ha

theorem headOK_children (p : Char → Bool) (hl : p '(' = false) (hr : p ')' = false) (ns : List Node)
    (rest : List Char) : headOK p (renderAll ns ++ ')' :: rest) = true := by
  match ns with
  | [] => simp [renderAll, headOK, hr]
  | .comment _ :: _ | .regular .. :: _ => simp [renderAll, render, headOK, hl]

theorem loop_succ (alnum : Char → Bool) (n : Nat) (st : State) (h : st.rest ≠ []) :
    loop alnum (n + 1) st = loop alnum n (step alnum st) := by
  simp only [loop]
  split
  · rename_i hr; exact absurd hr h
  · rfl

theorem loop_mono (alnum : Char → Bool) (n m : Nat) (st r : State) (h : loop alnum n st = some r) :
    loop alnum (n + m) st = some r := by
  fun_induction loop alnum n st with
  | case1 => cases h
  | case2 n st hr => rw [Nat.succ_add, loop, hr]; exact h
  | case3 n st c t hr ih => rw [Nat.succ_add, loop, hr]; exact ih h

/-- Some number of iterations of the main loop lead from `st` to `st'`. -/
def Runs (alnum : Char → Bool) (st st' : State) : Prop :=
  ∃ k, ∀ fuel, loop alnum (fuel + k) st = loop alnum fuel st'

theorem Runs.step {alnum : Char → Bool} {st st' : State} (hne : st.rest ≠ []) (h : step alnum st = st') :
    Runs alnum st st' :=
  ⟨1, fun fuel => h ▸ loop_succ alnum fuel st hne⟩

theorem Runs.trans {alnum : Char → Bool} {a b c : State} (h1 : Runs alnum a b) (h2 : Runs alnum b c) :
    Runs alnum a c := by
  obtain ⟨k1, h1⟩ := h1
  obtain ⟨k2, h2⟩ := h2
  exact ⟨k2 + k1, fun fuel => by rw [← Nat.add_assoc, h1, h2]⟩

theorem Runs.loop_eq {alnum : Char → Bool} {st st' x : State} (h : Runs alnum st st') (hr : st'.rest = [])
    {n : Nat} (hx : loop alnum n st = some x) : x = st' := by
  obtain ⟨k, hk⟩ := h
  have h1 := loop_mono alnum n (1 + k) st x hx
  have h2 := loop_mono alnum (1 + k) n st st' (by rw [hk 1]; simp [loop, hr])
  rw [Nat.add_comm, h2] at h1
  exact (Option.some.inj h1).symm

/-- The state after a finished node has been attached. -/
def pushed (st : State) (n : Node) (len : Nat) (rest : List Char) : State :=
  { roots := (pushNode st.roots st.stack n).1, stack := (pushNode st.roots st.stack n).2,
    warnings := st.warnings, pos := st.pos + len, rest := rest }

def pushAll : List Node → List Frame → List Node → List Node × List Frame
  | roots, stack, [] => (roots, stack)
  | roots, stack, n :: ns => pushAll (pushNode roots stack n).1 (pushNode roots stack n).2 ns

/-- The state after the finished nodes `ns` have been attached one after the other. -/
def pushedAll (st : State) (ns : List Node) (len : Nat) (rest : List Char) : State :=
  { roots := (pushAll st.roots st.stack ns).1, stack := (pushAll st.roots st.stack ns).2,
    warnings := st.warnings, pos := st.pos + len, rest := rest }

theorem pushAll_frame : ∀ (ns : List Node) (roots : List Node) (f : Frame) (fs : List Frame),
    pushAll roots (f :: fs) ns = (roots, { f with children := ns.reverse ++ f.children } :: fs)
  | [], roots, f, fs => by simp [pushAll]
  | n :: ns, roots, f, fs => by
    simp only [pushAll, pushNode]
    rw [pushAll_frame ns roots _ fs]
    simp

theorem pushAll_roots : ∀ (ns roots : List Node), pushAll roots [] ns = (ns.reverse ++ roots, [])
  | [], roots => by simp [pushAll]
  | n :: ns, roots => by
    simp only [pushAll, pushNode]
    rw [pushAll_roots ns (n :: roots)]
    simp

theorem pushedAll_cons (st : State) (n : Node) (ns : List Node) (l l' : Nat) (r r' : List Char) :
    pushedAll (pushed st n l r) ns l' r' = pushedAll st (n :: ns) (l + l') r' := by
  simp only [pushedAll, pushed, pushAll, Nat.add_assoc]

/-- The state with a frame opened on top of the stack. -/
def opened (st : State) (f : Frame) (len : Nat) (rest : List Char) : State :=
  { st with stack := f :: st.stack, pos := st.pos + len, rest := rest }

theorem strip_closeFrame (f : Frame) (cl : Span) :
    strip (closeFrame f cl) = .regular 0 f.key ⟨0, 0⟩ f.data ⟨0, 0⟩ (stripAll f.children.reverse) ⟨0, 0⟩ := by
  simp only [closeFrame, strip]

theorem render_regular_length (o : Nat) (key : List Char) (ks : Span) (data : List Char) (ds : Span)
    (ch : List Node) (cl : Span) :
    (render (.regular o key ks data ds ch cl)).length = 1 + key.length + 1 + data.length + (renderAll ch).length + 1 := by
  simp only [render, List.length_cons, List.length_append, List.length_nil]; omega

theorem step_comment (alnum : Char → Bool) (ha : AlnumOK alnum) (st : State) (t rest : List Char)
    (hwf : WF alnum (.comment t)) (hr : st.rest = render (.comment t) ++ rest) :
    step alnum st = pushed st (.comment t) (render (.comment t)).length rest := by
  simp only [WF] at hwf
  have hkey : ∀ c ∈ commentKey, isKeyChar alnum c = true := fun c hc => by simp [isKeyChar, ha.comment c hc]
  have h1 : spanP (isKeyChar alnum) (commentKey ++ (t ++ (')' :: rest))) = (commentKey, t ++ (')' :: rest)) :=
    spanP_append _ commentKey _ hkey (headOK_append _ _ _ hwf.2.1 (by simp [headOK, isKeyChar, ha.rparen]))
  have h2 := scanComment_balanced t 0 [st.pos] (st.pos + 1 + commentKey.length) [] rest rfl hwf.1
  unfold step
  rw [hr]
  simp only [render, List.cons_append, List.append_assoc, List.nil_append, if_true, h1, h2, closersToAdd,
    leftToReport, List.length_nil]
  simp [commentKey, pushed, Nat.add_assoc]
  omega

theorem step_open (alnum : Char → Bool) (ha : AlnumOK alnum) (st : State) (key data X : List Char)
    (hk : ∀ c ∈ key, isKeyChar alnum c = true) (hkc : key ≠ commentKey)
    (hd : ∀ c ∈ data, notParen c = true) (hdh : headOK isBlank data = true)
    (hXb : headOK isBlank X = true) (hXp : headOK notParen X = true)
    (hr : st.rest = '(' :: (key ++ (' ' :: (data ++ X)))) :
    ∃ ks ds, step alnum st = opened st ⟨st.pos, key, ks, data, ds, []⟩ (1 + key.length + 1 + data.length) X := by
  have h1 : spanP (isKeyChar alnum) (key ++ (' ' :: (data ++ X))) = (key, ' ' :: (data ++ X)) :=
    spanP_append _ key _ hk (by simp [headOK, isKeyChar, ha.space])
  have h2 : spanP isBlank ([' '] ++ (data ++ X)) = ([' '], data ++ X) :=
    spanP_append isBlank [' '] (data ++ X) (by simp [isBlank]) (headOK_append _ _ _ hdh hXb)
  have h3 : spanP notParen (data ++ X) = (data, X) := spanP_append _ data X hd hXp
  refine ⟨⟨st.pos + 1, st.pos + 1 + key.length⟩,
    ⟨st.pos + 1 + key.length + 1, st.pos + 1 + key.length + 1 + data.length⟩, ?_⟩
  unfold step
  rw [hr]
  simp only [if_true, h1, List.singleton_append ▸ h2, h3, if_neg hkc, List.length_cons, List.length_nil, opened,
    Nat.add_assoc, Nat.zero_add]

theorem step_close (alnum : Char → Bool) (st : State) (f : Frame) (ns : List Node) (len len' : Nat)
    (r rest : List Char) :
    ∃ cl, step alnum (pushedAll (opened st f len r) ns len' (')' :: rest)) =
      pushed st (closeFrame { f with children := ns.reverse ++ f.children } cl) (len + len' + 1) rest := by
  refine ⟨⟨st.pos + len + len', st.pos + len + len' + 1⟩, ?_⟩
  have : (')' : Char) ≠ '(' := by decide
  simp only [step, pushed, pushedAll, opened, pushAll_frame, if_neg this, if_true, Nat.add_assoc]

mutual
  theorem read_node (alnum : Char → Bool) (ha : AlnumOK alnum) : ∀ (n : Node), WF alnum n →
      ∀ (st : State) (rest : List Char), st.rest = render n ++ rest →
      ∃ n' k, strip n' = strip n ∧
        ∀ fuel, loop alnum (fuel + k) st = loop alnum fuel (pushed st n' (render n).length rest)
    | .comment t, hwf, st, rest, hr =>
      let ⟨k, hk⟩ := Runs.step (by rw [hr]; nofun) (step_comment alnum ha st t rest hwf hr)
      ⟨.comment t, k, rfl, hk⟩
    | .regular o key ks data ds children cl, hwf, st, rest, hr => by
      simp only [WF] at hwf
      obtain ⟨hk, hkc, _, hd, hdh, _, hch⟩ := hwf
      have hr' : st.rest = '(' :: (key ++ (' ' :: (data ++ (renderAll children ++ (')' :: rest))))) := by
        rw [hr]; simp [render, List.append_assoc]
      obtain ⟨ks', ds', hopen⟩ := step_open alnum ha st key data _ hk hkc hd hdh
        (headOK_children _ rfl rfl children rest) (headOK_children _ rfl rfl children rest) hr'
      obtain ⟨cs', hcs, hrun⟩ := read_nodes alnum ha children hch (opened st _ _ _) (')' :: rest) rfl
      obtain ⟨cl', hclose⟩ := step_close alnum st ⟨st.pos, key, ks', data, ds', []⟩ cs'
        (1 + key.length + 1 + data.length) (renderAll children).length (renderAll children ++ ')' :: rest) rest
      obtain ⟨k, hk⟩ := (Runs.step (by rw [hr']; nofun) hopen).trans (hrun.trans (Runs.step nofun hclose))
      rw [render_regular_length]
      refine ⟨_, k, ?_, hk⟩
      rw [strip_closeFrame, List.append_nil, List.reverse_reverse, hcs]
      rfl
  theorem read_nodes (alnum : Char → Bool) (ha : AlnumOK alnum) : ∀ (ns : List Node), WFAll alnum ns →
      ∀ (st : State) (rest : List Char), st.rest = renderAll ns ++ rest →
      ∃ ns', stripAll ns' = stripAll ns ∧ Runs alnum st (pushedAll st ns' (renderAll ns).length rest)
    | [], _, st, rest, hr => by
      cases (List.nil_append rest).symm.trans hr.symm
      exact ⟨[], rfl, 0, fun _ => rfl⟩
    | n :: ns, hwf, st, rest, hr => by
      obtain ⟨n', k1, h1, l1⟩ := read_node alnum ha n hwf.1 st (renderAll ns ++ rest)
        (by rw [hr]; simp [renderAll, List.append_assoc])
      obtain ⟨ns', h2, l2⟩ := read_nodes alnum ha ns hwf.2 (pushed st n' _ _) rest rfl
      refine ⟨n' :: ns', by simp only [stripAll, h1, h2], ?_⟩
      rw [pushedAll_cons] at l2
      simpa only [renderAll, List.length_append] using Runs.trans ⟨k1, l1⟩ l2
end

mutual
  theorem render_no_cr (alnum : Char → Bool) : ∀ (n : Node), WF alnum n → ∀ c ∈ render n, c ≠ '\r'
    | .comment t, hwf => by
      simp only [render, List.forall_mem_append, List.forall_mem_cons]
      exact ⟨⟨⟨by decide, by decide⟩, hwf.2.2⟩, by decide⟩
    | .regular o key ks data ds children cl, hwf => by
      obtain ⟨_, _, hk, _, _, hd, hch⟩ := hwf
      simp only [render, List.forall_mem_append, List.forall_mem_cons]
      exact ⟨⟨⟨⟨by decide, hk⟩, by decide, hd⟩, renderAll_no_cr alnum children hch⟩, by decide⟩
  theorem renderAll_no_cr (alnum : Char → Bool) : ∀ (ns : List Node), WFAll alnum ns → ∀ c ∈ renderAll ns, c ≠ '\r'
    | [], _ => nofun
    | n :: ns, hwf => by
      simp only [renderAll, List.forall_mem_append]
      exact ⟨render_no_cr alnum n hwf.1, renderAll_no_cr alnum ns hwf.2⟩
end

theorem roundtrip (alnum : Char → Bool) (ha : AlnumOK alnum) (ns : List Node) (hwf : WFAll alnum ns) :
    ∃ ns', cstModel alnum (renderAll ns) = .ok ns' [] ∧ stripAll ns' = stripAll ns := by
  have hnorm : normalize (renderAll ns) = renderAll ns := norm_id _ (renderAll_no_cr alnum ns hwf)
  obtain ⟨ns', hs, hl⟩ := read_nodes alnum ha ns hwf ⟨[], [], [], 0, renderAll ns⟩ [] (by simp)
  obtain ⟨x, hx, _⟩ := loop_some alnum ((renderAll ns).length + 1) ⟨[], [], [], 0, renderAll ns⟩ (by simp)
  refine ⟨ns', ?_, hs⟩
  simp only [cstModel, hnorm, hx, hl.loop_eq rfl hx]
  simp [pushedAll, pushAll_roots, finish, finishAux]

end C10.Cst
