import TexcraftModel.Lemmas.C18Render

/-! C18: the bracket pre-pass on printed text. Scanning over anything the printer writes —
numbers, names, strings with any characters (quotes, backslashes, brackets, `#`), nested
lists — returns to the regular state at the same depth, so the pre-pass closes every bracket
the printer opens exactly where the sequential parser of the model expects it. -/
namespace C18

/-- `consIn` for every character of `w`: the pre-pass has scanned over `w` without closing. -/
def consAll (w : List Char) (x : Option (List Char × Char × List Char)) :
    Option (List Char × Char × List Char) := w.foldr consIn x

theorem consAll_nil (x) : consAll [] x = x := rfl
theorem consAll_cons (c : Char) (w : List Char) (x) : consAll (c :: w) x = consIn c (consAll w x) := rfl
-- by induction: core's `List.foldr_append` rests on `Quot.sound`
theorem consAll_append : ∀ (a b : List Char) (x), consAll (a ++ b) x = consAll a (consAll b x)
  | [], _, _ => rfl
  | c :: a, b, x => congrArg (consIn c) (consAll_append a b x)
theorem consAll_some (w : List Char) (c : Char) (r : List Char) :
    consAll w (some ([], c, r)) = some (w, c, r) := by
  induction w with
  | nil => rfl
  | cons a w ih => rw [consAll_cons, ih]; rfl

/-- The pre-pass reads `w` from state `a` to state `b`, at any depth and without closing. -/
def Scans (a b : PState) (w : List Char) : Prop :=
  ∀ (d : Nat) (rest : List Char), closeScan a d (w ++ rest) = consAll w (closeScan b d rest)

theorem Scans.nil (a : PState) : Scans a a [] := fun _ _ => rfl

theorem Scans.append {a b c : PState} {u v : List Char} (hu : Scans a b u) (hv : Scans b c v) :
    Scans a c (u ++ v) := fun d rest => by
  rw [List.append_assoc, hu, hv, consAll_append]

theorem Scans.cons {a b c : PState} {x : Char} {v : List Char} (hx : Scans a b [x]) (hv : Scans b c v) :
    Scans a c (x :: v) := hx.append hv

theorem Scans.of_all {a : PState} : ∀ {w : List Char}, (∀ c ∈ w, Scans a a [c]) → Scans a a w
  | [], _ => .nil a
  | c :: _, h => (h c List.mem_cons_self).cons (.of_all fun x hx => h x (List.mem_cons_of_mem c hx))

/-- Characters that mean nothing to the pre-pass in the regular state. -/
abbrev plain (c : Char) : Prop := c ∉ ['(', '[', ')', ']', '#', '"']

theorem Scans.reg {c : Char} (h : plain c) : Scans .regular .regular [c] := fun d r => by
  simp only [plain, List.mem_cons, List.not_mem_nil, or_false, not_or] at h
  obtain ⟨h1, h2, h3, h4, h5, h6⟩ := h
  simp [closeScan, consAll, h1, h2, h3, h4, h5, h6]
theorem Scans.hash : Scans .regular .comment ['#'] := fun _ _ => by simp [closeScan, consAll]
theorem Scans.quote : Scans .regular .string ['"'] := fun _ _ => by simp [closeScan, consAll]
theorem Scans.comment {c : Char} (h : c ≠ '\n') : Scans .comment .comment [c] := fun _ _ => by
  simp [closeScan, consAll, h]
theorem Scans.newline : Scans .comment .regular ['\n'] := fun _ _ => by simp [closeScan, consAll]
theorem Scans.string {c : Char} (h : c ≠ '"' ∧ c ≠ '\\') : Scans .string .string [c] := fun _ _ => by
  simp [closeScan, consAll, h.1, h.2]
theorem Scans.unquote : Scans .string .regular ['"'] := fun _ _ => by simp [closeScan, consAll]
-- `\` goes with the character after it, so that no statement mentions the state `escaped`
theorem Scans.escaped (x : Char) : Scans .string .string ['\\', x] := fun _ _ => by
  simp [closeScan, consAll]

/-- A text the pre-pass scans over, coming back to the regular state at the same depth. -/
abbrev Transparent (w : List Char) : Prop := Scans .regular .regular w

theorem Scans.of_plain {w : List Char} (h : ∀ c ∈ w, plain c) : Transparent w :=
  .of_all fun c hc => .reg (h c hc)

theorem plain_of_not_special {c : Char} (h : c ∉ special) : plain c := fun hm =>
  h ((by decide : ∀ d ∈ ['(', '[', ')', ']', '#', '"'], d ∈ special) c hm)

theorem plain_of_isAlpha {c : Char} (h : isAlpha c = true) : plain c :=
  plain_of_not_special (not_special_of_isAlpha h)

theorem plain_digitChar (d : Nat) : plain (digitChar d) :=
  plain_of_not_special (not_special_digitChar d)

theorem scans_escapeChar (raw : Char → Bool) (c : Char) : Scans .string .string (escapeChar raw c) := by
  rcases escapeChar_cases raw c with ⟨x, h, -⟩ | ⟨h, hq⟩ | h <;> rw [h]
  · exact .escaped x
  · exact .string hq
  · refine (Scans.escaped 'u').append (.cons (.string ⟨by decide, by decide⟩)
      (.append (.of_all fun x hx => ?_) (.string ⟨by decide, by decide⟩)))
    obtain ⟨k, -, rfl⟩ := List.mem_map.mp hx
    exact .string ⟨hexDigitChar_ne k _ (by decide), hexDigitChar_ne k _ (by decide)⟩

theorem scans_escapeStr (raw : Char → Bool) : ∀ s : Str, Scans .string .string (escapeStr raw s)
  | [] => .nil _
  | c :: s => (scans_escapeChar raw c).append (scans_escapeStr raw s)

theorem transparent_printStr (raw : Char → Bool) (s : Str) : Transparent (printStr raw s) :=
  Scans.quote.cons ((scans_escapeStr raw s).append .unquote)

theorem transparent_comment (cmt : List Char) (h : ∀ x ∈ cmt, x ≠ '\n') :
    Transparent ('#' :: (cmt ++ ['\n'])) :=
  Scans.hash.cons ((Scans.of_all fun x hx => .comment (h x hx)).append .newline)

theorem plain_word (w : Str) (h : isWord w = true) : ∀ c ∈ w, plain c := by
  cases w with
  | nil => cases h
  | cons a t =>
    simp only [isWord, Bool.and_eq_true, List.all_eq_true] at h
    intro c hc
    rcases List.mem_cons.mp hc with rfl | hc
    · exact plain_of_isAlpha h.1
    · have := h.2 c hc
      simp only [Bool.or_eq_true, decide_eq_true_eq] at this
      rcases this with h1 | rfl
      · exact plain_of_isAlpha h1
      · decide

theorem plain_digits (ds : List Nat) : ∀ c ∈ ds.map digitChar, plain c := fun c hc => by
  obtain ⟨d, -, rfl⟩ := List.mem_map.mp hc
  exact plain_digitChar d

theorem transparent_printInt (n : Int) : Transparent (printInt n) := by
  unfold printInt
  split
  · exact .cons (.reg (by decide)) (.of_plain (plain_digits _))
  · exact .of_plain (plain_digits _)

theorem transparent_printNoUnits (s : Int) : Transparent (printNoUnits s) := by
  have sign : Transparent (if s < 0 then ['-'] else []) := by
    split
    · exact .cons (.reg (by decide)) (.nil _)
    · exact .nil _
  exact ((sign.append (.of_plain (plain_digits _))).append (.cons (.reg (by decide)) (.nil _))).append
    (.of_plain (plain_digits _))

theorem plain_indent (d : Nat) : ∀ c ∈ indent d, plain c := by
  intro c hc
  unfold indent at hc
  have := List.eq_of_mem_replicate hc
  subst this; decide

theorem closeScan_open (c : Char) (hc : c = '(' ∨ c = '[') (d : Nat) (r : List Char) :
    closeScan .regular d (c :: r) = consIn c (closeScan .regular (d + 1) r) := by
  simp [closeScan, hc]

theorem closeScan_close_succ (c : Char) (hc : c = ')' ∨ c = ']') (d : Nat) (r : List Char) :
    closeScan .regular (d + 1) (c :: r) = consIn c (closeScan .regular d r) := by
  rcases hc with rfl | rfl <;> simp [closeScan]

theorem closeScan_close_zero (c : Char) (hc : c = ')' ∨ c = ']') (r : List Char) :
    closeScan .regular 0 (c :: r) = some ([], c, r) := by
  rcases hc with rfl | rfl <;> simp [closeScan]

theorem Transparent.bracket {o c : Char} (ho : o = '(' ∨ o = '[') (hc : c = ')' ∨ c = ']')
    {w v : List Char} (hw : Transparent w) (hv : Transparent v) : Transparent (o :: (w ++ c :: v)) :=
  fun d rest => by
    rw [List.cons_append, List.append_assoc, closeScan_open o ho, hw, List.cons_append,
      closeScan_close_succ c hc, hv, consAll_cons, consAll_append, consAll_cons]

theorem Transparent.args {raw : Char → Bool} {k : Nat} {args : List Arg}
    (hm : Transparent (renderArgsMulti raw k args)) (hs : Transparent (renderArgsSingle raw k args)) :
    Transparent (if multiline args then renderArgsMulti raw k args ++ '\n' :: indent k
      else renderArgsSingle raw k args) := by
  split
  · exact hm.append (.cons (.reg (by decide)) (.of_plain (plain_indent k)))
  · exact hs

mutual
theorem transparent_renderVal (raw : Char → Bool) : ∀ (v : Val) (k : Nat), valOk v = true →
    Transparent (renderVal raw k v)
  | .int n, k, _ => transparent_printInt n
  | .dim s, k, _ =>
    (transparent_printNoUnits s).append
      (.cons (.reg (plain_of_isAlpha (by decide))) (.cons (.reg (plain_of_isAlpha (by decide))) (.nil _)))
  | .inf s o, k, _ =>
    (transparent_printNoUnits s).append
      (.of_plain fun c hc => plain_of_isAlpha (by cases o <;> revert c <;> decide))
  | .str s, k, _ => transparent_printStr raw s
  | .list [], k, _ => Transparent.bracket (.inr rfl) (.inr rfl) (.nil _) (.nil _)
  | .list (c :: cs), k, hv =>
    Transparent.bracket (.inr rfl) (.inr rfl)
      (.cons (.reg (by decide)) ((transparent_renderCalls raw (c :: cs) (k + 4) hv).append
        (.of_plain (plain_indent (k + 2))))) (.nil _)

theorem transparent_renderArg (raw : Char → Bool) : ∀ (a : Arg) (k : Nat), argOk a = true →
    Transparent (renderArg raw k a)
  | .mk none v, k, ha => transparent_renderVal raw v k ha
  | .mk (some key) v, k, ha => by
    simp only [argOk, Bool.and_eq_true] at ha
    exact (Scans.of_plain (plain_word key ha.1)).append
      (.cons (.reg (by decide)) (transparent_renderVal raw v k ha.2))

theorem transparent_renderArgsMulti (raw : Char → Bool) : ∀ (as : List Arg) (k : Nat), argsOk as = true →
    Transparent (renderArgsMulti raw k as)
  | [], k, _ => .nil _
  | a :: r, k, ha => by
    simp only [argsOk, Bool.and_eq_true] at ha
    exact .cons (.reg (by decide)) ((Scans.of_plain (plain_indent k)).append
      (.cons (.reg (by decide)) (.cons (.reg (by decide)) ((transparent_renderArg raw a k ha.1).append
        (.cons (.reg (by decide)) (transparent_renderArgsMulti raw r k ha.2))))))

theorem transparent_renderArgsSingle (raw : Char → Bool) : ∀ (as : List Arg) (k : Nat), argsOk as = true →
    Transparent (renderArgsSingle raw k as)
  | [], k, _ => .nil _
  | [a], k, ha => by
    simp only [argsOk, Bool.and_eq_true] at ha
    exact (transparent_renderArg raw a k ha.1).append (.nil _)
  | a :: b :: r, k, ha => by
    rw [argsOk, Bool.and_eq_true] at ha
    exact (transparent_renderArg raw a k ha.1).append
      (.cons (.reg (by decide)) (.cons (.reg (by decide)) (transparent_renderArgsSingle raw (b :: r) k ha.2)))

theorem transparent_renderCalls (raw : Char → Bool) : ∀ (cs : List Call) (k : Nat), callsOk cs = true →
    Transparent (renderCalls raw k cs)
  | [], k, _ => .nil _
  | .mk name args :: r, k, hc => by
    simp only [callsOk, callOk, Bool.and_eq_true] at hc
    obtain ⟨⟨hn, ha⟩, hr⟩ := hc
    have hargs := Transparent.args (transparent_renderArgsMulti raw args k ha)
      (transparent_renderArgsSingle raw args k ha)
    rw [renderCalls, renderCall]
    exact ((Scans.of_plain (plain_indent k)).append ((Scans.of_plain (plain_word name hn)).append
      (Transparent.bracket (.inl rfl) (.inl rfl) hargs (.cons (.reg (by decide)) (.nil _))))).append
      (transparent_renderCalls raw r k hr)
end

theorem Scans.closes {w : List Char} (hw : Transparent w) (c : Char) (hc : c = ')' ∨ c = ']')
    (rest : List Char) : closeScan .regular 0 (w ++ c :: rest) = some (w, c, rest) := by
  rw [hw, closeScan_close_zero c hc, consAll_some]

theorem closeScan_renderVal (raw : Char → Bool) : ∀ (v : Val) (k d : Nat) (rest : List Char), valOk v = true →
    closeScan .regular d (renderVal raw k v ++ rest) = consAll (renderVal raw k v) (closeScan .regular d rest) :=
  fun v k d rest hv => transparent_renderVal raw v k hv d rest

theorem closeScan_renderArg (raw : Char → Bool) : ∀ (a : Arg) (k d : Nat) (rest : List Char), argOk a = true →
    closeScan .regular d (renderArg raw k a ++ rest) = consAll (renderArg raw k a) (closeScan .regular d rest) :=
  fun a k d rest ha => transparent_renderArg raw a k ha d rest

end C18
