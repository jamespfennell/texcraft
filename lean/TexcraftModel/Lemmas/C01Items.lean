import TexcraftModel.Lemmas.C01Cor

/-!
# C01 — the input side (items) and two equivalent code variants

Under `R` the model and the specification read every item the same way (`R.catOf`, `R.getCmd`), so the
refinement extends from op lists to surface programs whose group structure is decided by scoped
category codes and scoped `\let` meanings; and what an item does is read off `valOf`, hence restored
with the group. Mutants 15 (font saved eagerly at `{`) and 29 (scope hook after the arguments) are
equivalent to the code: the first keeps `R`, the second the result of `define`.
-/
namespace C01
open C20

theorem R.catOf {m : VMState} {s : Spec} (h : R m s) (c : Nat) : catOf m c = Spec.catOf s.cur c := by
  simp only [C01.catOf, Spec.catOf, h.var]

theorem R.stepItem {m : VMState} {s : Spec} (h : R m s) (it : Item) :
    (stepItem .fixed m it).2 = (s.stepItem it).2 ∧ R (stepItem .fixed m it).1 (s.stepItem it).1 := by
  simp only [C01.stepItem, Spec.stepItem, funext h.catOf, funext h.getCmd]
  cases elabItem (Spec.catOf s.cur) (Spec.getCmd s.cur) it with
  | op o => exact h.step o
  | out o => exact ⟨rfl, h⟩

theorem runItems_eq (cfg : Variant) (m : VMState) (its : List Item) :
    runItems cfg m its = runWith (stepItem cfg) m its :=
  runWith_unique (runItems cfg) (fun _ => rfl) (fun _ _ _ => rfl) m its

theorem Spec.runItems_eq (s : Spec) (its : List Item) : s.runItems its = runWith Spec.stepItem s its :=
  runWith_unique Spec.runItems (fun _ => rfl) (fun _ _ _ => rfl) s its

theorem refines_items_from {m : VMState} {s : Spec} (h : R m s) (its : List Item) :
    (runItems .fixed m its).2 = (s.runItems its).2 ∧ R (runItems .fixed m its).1 (s.runItems its).1 := by
  rw [runItems_eq, Spec.runItems_eq]
  exact runWith_sim R (fun h => h.stepItem) h

theorem R_reachable_items (its : List Item) :
    R (runItems .fixed VMState.init its).1 (Spec.init.runItems its).1 :=
  (refines_items_from R_init its).2

theorem Spec.runItemsTeX_eq (s : Spec) (its : List Item) (h : Spec.noUndefLetItems s its = true) :
    s.runItemsTeX its = s.runItems its := by
  induction its generalizing s with
  | nil => rfl
  | cons it its ih =>
    rw [Spec.noUndefLetItems, Bool.and_eq_true] at h
    have hstep : s.stepItemTeX it = s.stepItem it := by
      rw [Spec.stepItemTeX, Spec.stepItem]
      cases he : elabItem (Spec.catOf s.cur) (Spec.getCmd s.cur) it with
      | op o =>
        have h1 := h.1
        rw [he, Bool.not_eq_true'] at h1
        exact Spec.stepTeX_eq s o h1
      | out o => rfl
    simp only [Spec.runItemsTeX, Spec.runItems, hstep]
    cases hf : (s.stepItem it).2.fatal with
    | true => rfl
    | false =>
      rw [hf] at h
      rw [ih _ h.2]

theorem catOf_of_valOf {m m' : VMState} (h : ∀ t, valOf m t = valOf m' t) : catOf m = catOf m' := by
  funext c
  rw [catOf, TVal.v.inj (h (.var ⟨.catcode, c⟩))]; rfl

theorem getCmd_of_valOf {m m' : VMState} (h : ∀ t, valOf m t = valOf m' t) : getCmd m = getCmd m' :=
  funext fun t => TVal.c.inj (h (.cmd t))

/-- Mutant 15: the list of fonts the open groups will restore (`absFont`) is the same. The fields of
`h.beginGroup` are re-packed because their types mention `beginGroup .fixed m`, which agrees with
`beginGroupEager m` field by field only after unfolding (`fontSave` differs: `none` against
`some m.font`). -/
theorem R.beginGroupEager {m : VMState} {s : Spec} (h : R m s) :
    R (beginGroupEager m) { cur := s.cur, saved := s.cur :: s.saved } := by
  obtain ⟨b, iv, ic, ia, cv, cc, ca, cf, hz⟩ := h.beginGroup
  exact ⟨b, iv, ic, ia, cv, cc, ca, cf, hz⟩

theorem R.stepEager {m : VMState} {s : Spec} (h : R m s) (op : Op) :
    (stepEager m op).2 = (s.step op).2 ∧ R (stepEager m op).1 (s.step op).1 := by
  cases op with
  | beginGroup => exact ⟨rfl, h.beginGroupEager⟩
  | _ => exact h.step _

theorem runEager_eq (m : VMState) (ops : List Op) : runEager m ops = runWith stepEager m ops :=
  runWith_unique runEager (fun _ => rfl) (fun _ _ _ => rfl) m ops

theorem refines_runEager_from {m : VMState} {s : Spec} (h : R m s) (ops : List Op) :
    (runEager m ops).2 = (s.run ops).2 := by
  rw [runEager_eq, Spec.run_eq]
  exact (runWith_sim R (fun h => h.stepEager) h).1

theorem resolveDef_scopeBit (m : VMState) (b : Scope) (d : Def) :
    resolveDef { m with scopeBit := b } d = resolveDef m d := by
  cases d with
  | lcs src => cases src <;> rfl
  | _ => rfl

theorem resolveDef_hook (m : VMState) (d : Def) :
    resolveDef (readAndResetGlobal m).2 d = resolveDef m d := by
  unfold readAndResetGlobal
  split
  · rfl
  · split
    · exact resolveDef_scopeBit m .loc d
    · rfl

end C01
