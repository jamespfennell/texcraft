import TexcraftModel.Model.C13Text
import TexcraftModel.Lemmas.C13Walk

/-! C13: the text front end yields the intended lists, whatever the split into calls; restricting a
pattern set to the patterns that can match; histories whose loads precede their exception inserts. -/
namespace C13

/-- A run of white space (`char::is_whitespace`): what separates patterns and pads exception lines. -/
def AllWs (l : List Char) : Prop := ∀ c ∈ l, isWs c = true
/-- A piece `str::split_whitespace` does not cut. -/
def NoWs (l : List Char) : Prop := ∀ c ∈ l, isWs c = false

theorem splitWs_token (p cur : List Char) (hp : NoWs p) (hne : cur ++ p ≠ []) :
    splitWs p cur = [cur ++ p] := by
  induction p generalizing cur with
  | nil => simp at hne; simp [splitWs, hne]
  | cons c p ih =>
    have hc : isWs c = false := hp c (by simp)
    simp only [splitWs, hc, Bool.false_eq_true, if_false]
    rw [ih (cur ++ [c]) (fun x hx => hp x (List.mem_cons_of_mem _ hx)) (by simp)]
    simp

theorem splitWs_append (t1 t2 cur : List Char) (w : Char) (hw : isWs w = true) :
    splitWs (t1 ++ w :: t2) cur = splitWs t1 cur ++ splitWs t2 [] := by
  induction t1 generalizing cur with
  | nil =>
    simp only [List.nil_append, splitWs, hw, if_true]
    by_cases h : cur = [] <;> simp [h]
  | cons c t1 ih =>
    simp only [List.cons_append, splitWs]
    by_cases hc : isWs c = true
    · simp only [hc, if_true]
      by_cases h : cur = [] <;> simp [h, ih]
    · simp only [hc]; exact ih _

theorem splitWs_allWs (l : List Char) (h : AllWs l) (rest : List Char) :
    splitWs (l ++ rest) [] = splitWs rest [] := by
  induction l with
  | nil => rfl
  | cons c l ih =>
    have hc : isWs c = true := h c (by simp)
    simp only [List.cons_append, splitWs, hc, if_true]
    exact ih (fun x hx => h x (List.mem_cons_of_mem _ hx))

/-- The text of a list of tokens, each followed by a non-empty run of white space. -/
def tokensText : List (List Char × Char × List Char) → List Char
  | [] => []
  | (p, w, ws) :: r => p ++ (w :: (ws ++ tokensText r))

/-- Every item is a non-empty token, one white-space character, and any further white space. -/
def TokensOk (items : List (List Char × Char × List Char)) : Prop :=
  ∀ x ∈ items, x.1 ≠ [] ∧ NoWs x.1 ∧ isWs x.2.1 = true ∧ AllWs x.2.2

theorem splitWs_tokensText (items : List (List Char × Char × List Char)) (h : TokensOk items) :
    splitWs (tokensText items) [] = items.map (·.1) := by
  induction items with
  | nil => rfl
  | cons x r ih =>
    obtain ⟨p, w, ws⟩ := x
    obtain ⟨h1, h2, h3, h4⟩ := h (p, w, ws) (by simp)
    simp only [tokensText, List.map_cons]
    rw [splitWs_append p (ws ++ tokensText r) [] w h3, splitWs_token p [] h2 (by simpa using h1),
      splitWs_allWs ws h4, ih (fun y hy => h y (by simp [hy]))]
    simp

/-- A piece `str::lines` does not cut. -/
def NoNl (l : List Char) : Prop := ∀ c ∈ l, c ≠ '\n'

theorem splitNl_append (l rest cur : List Char) (h : NoNl l) :
    splitNl (l ++ rest) cur = splitNl rest (cur ++ l) := by
  induction l generalizing cur with
  | nil => rw [List.nil_append, List.append_nil]
  | cons c l ih =>
    have hc : c ≠ '\n' := h c List.mem_cons_self
    rw [List.cons_append, splitNl, if_neg hc, ih _ (fun x hx => h x (List.mem_cons_of_mem _ hx)),
      List.append_assoc, List.singleton_append]

theorem splitNl_noNl (l cur : List Char) (h : NoNl l) : splitNl l cur = [cur ++ l] := by
  rw [← List.append_nil l, splitNl_append l [] cur h, List.append_nil, splitNl]

theorem splitNl_line (l rest cur : List Char) (h : NoNl l) :
    splitNl (l ++ '\n' :: rest) cur = (cur ++ l) :: splitNl rest [] := by
  rw [splitNl_append l _ cur h, splitNl, if_pos rfl]

/-- The text of lines, each terminated by `\n`. -/
def linesText : List (List Char) → List Char
  | [] => []
  | l :: r => l ++ ('\n' :: linesText r)

theorem splitNl_linesText (ls : List (List Char)) (h : ∀ l ∈ ls, NoNl l) :
    splitNl (linesText ls) [] = ls ++ [[]] := by
  induction ls with
  | nil => rfl
  | cons l r ih =>
    simp only [linesText]
    rw [splitNl_line l _ [] (h l (by simp)), ih (fun x hx => h x (List.mem_cons_of_mem _ hx))]
    simp

/-- An entry with padding trims to the entry. `e` is empty or begins and ends with a non-space. -/
def Trimmed (e : List Char) : Prop :=
  (∀ c, e.head? = some c → isWs c = false) ∧ (∀ c, e.getLast? = some c → isWs c = false)

theorem dropWhile_head (e : List Char) (h : ∀ c, e.head? = some c → isWs c = false) :
    e.dropWhile isWs = e := by
  cases e with
  | nil => rfl
  | cons c e => simp [h c rfl]

theorem trimWs_padded (l e r : List Char) (hl : AllWs l) (hr : AllWs r) (he : Trimmed e) :
    trimWs (l ++ e ++ r) = e := by
  unfold trimWs
  rw [List.append_assoc, List.dropWhile_append_of_pos hl]
  cases e with
  | nil =>
    rw [List.nil_append, ← List.append_nil r, List.dropWhile_append_of_pos hr]
    rfl
  | cons x xs =>
    rw [dropWhile_head (x :: xs ++ r) he.1, List.reverse_append,
      List.dropWhile_append_of_pos fun c hc => hr c (List.mem_reverse.1 hc),
      dropWhile_head (x :: xs).reverse (by rw [List.head?_reverse]; exact he.2),
      List.reverse_reverse]

theorem foldl_cLoadText (texts : List (List Char)) (h : CHyph) :
    texts.foldl cLoadText h = (texts.flatMap (fun t => splitWs t [])).foldl cLoadPattern h :=
  List.foldl_flatMap.symm

theorem isInfix_of_prefix_drop (a w : List Char) (o : Nat)
    (h : a <+: w.drop o) (hne : a ≠ []) : isInfix a w = true := by
  induction w generalizing o with
  | nil => exact absurd (List.prefix_nil.1 (by simpa using h)) hne
  | cons c cs ih =>
    simp only [isInfix, Bool.or_eq_true]
    cases o with
    | zero => exact .inl (List.isPrefixOf_iff_prefix.2 h)
    | succ o => exact .inr (ih o h)

theorem matchesAt_false_of_not_infix (p : Pat) (w : List Char) (o : Nat)
    (h : isInfix p.letters w = false) : matchesAt p w o = false := by
  rw [Bool.eq_false_iff, Ne, matchesAt_iff]
  intro hm
  rw [isInfix_of_prefix_drop p.letters w o hm.2.1 hm.1] at h
  cases h

theorem liangAt_filter (ps : List Pat) (q : Pat → Bool) (w : List Char) (i : Nat)
    (h : ∀ p ∈ ps, q p = false → ∀ o, matchesAt p w o = false) :
    liangAt (ps.filter q) w i = liangAt ps w i := by
  unfold liangAt
  apply maxOver_eq
  · intro p hp
    exact Or.inr ⟨p, (List.mem_filter.1 hp).1, Nat.le_refl _⟩
  · intro p hp
    cases hq : q p with
    | true => exact Or.inr ⟨p, List.mem_filter.2 ⟨hp, hq⟩, Nat.le_refl _⟩
    | false =>
      left
      apply Nat.le_zero.1
      rw [maxOver_le_iff]
      intro o _
      simp [contrib, h p hp hq o]

def Op.isQuery : Op → Bool
  | .query _ => true
  | _ => false

def Op.isLoad : Op → Bool
  | .loadText _ => true
  | _ => false

def Op.isExc : Op → Bool
  | .excText _ => true
  | .exc _ => true
  | _ => false

theorem foldl_ignores_queries (g : Bool) (ops : List Op) (h : CHyph) :
    ops.foldl (applyOpG g) h = (ops.filter (fun o => !o.isQuery)).foldl (applyOpG g) h := by
  induction ops generalizing h with
  | nil => rfl
  | cons o ops ih =>
    rw [List.foldl_cons, ih, List.filter_cons]
    cases o <;> rfl

theorem patsOf_append (a b : List Op) : patsOf (a ++ b) = patsOf a ++ patsOf b := by
  induction a with
  | nil => rfl
  | cons o a ih => cases o <;> simp [patsOf, ih]

theorem excsOf_append (a b : List Op) : excsOf (a ++ b) = excsOf a ++ excsOf b := by
  induction a with
  | nil => rfl
  | cons o a ih => cases o <;> simp [excsOf, ih]

theorem patsOf_eq_nil (l : List Op) (h : ∀ o ∈ l, o.isLoad = false) : patsOf l = [] := by
  induction l with
  | nil => rfl
  | cons o l ih =>
    have ih := ih fun x hx => h x (List.mem_cons_of_mem _ hx)
    cases o with
    | loadText t => cases h _ List.mem_cons_self
    | excText t => exact ih
    | exc e => exact ih
    | query w => exact ih

theorem foldl_ordered (l : List Op)
    (hl : l.Pairwise (fun o o' => o.isExc = true → o'.isLoad = false)) (h : CHyph) :
    l.foldl (applyOpG true) h
      = (excsOf l).foldl cInsertException ((patsOf l).foldl cLoadPattern h) := by
  induction l generalizing h with
  | nil => rfl
  | cons o l ih =>
    obtain ⟨ho, hl⟩ := List.pairwise_cons.1 hl
    rw [List.foldl_cons, ih hl]
    cases o with
    | loadText t => rw [patsOf, List.foldl_append]; rfl
    | excText t =>
      -- nothing after an insert loads: the rest contributes exceptions only
      rw [excsOf, List.foldl_append, show patsOf (.excText t :: l) = patsOf l from rfl,
        patsOf_eq_nil l fun o' ho' => ho o' ho' rfl]
      rfl
    | exc e =>
      rw [show patsOf (.exc e :: l) = patsOf l from rfl, patsOf_eq_nil l fun o' ho' => ho o' ho' rfl]
      rfl
    | query w => rfl

theorem history_state (A B : List Op) (hA : ∀ o ∈ A, o.isExc = false)
    (hB : ∀ o ∈ B, o.isLoad = false) :
    (A ++ B).foldl (applyOpG true) {} = cBuild (patsOf (A ++ B)) (excsOf (A ++ B)) := by
  refine foldl_ordered _ (List.pairwise_append.2 ⟨?_, ?_, fun _ _ o' ho' _ => hB o' ho'⟩) {}
  · exact List.pairwise_of_forall_mem_list fun o ho _ _ he =>
      absurd ((hA o ho).symm.trans he) Bool.false_ne_true
  · exact List.pairwise_of_forall_mem_list fun _ _ o' ho' _ => hB o' ho'

end C13
