/-! C20 — three facts about `l[i]?` and `++`. -/
namespace C20

theorem getElem?_concat_eq_some {α : Type} (l : List α) (a b : α) (i : Nat) :
    (l ++ [a])[i]? = some b ↔ l[i]? = some b ∨ (i = l.length ∧ a = b) := by
  rw [List.getElem?_append]
  split
  · next hi => exact ⟨Or.inl, fun h => h.resolve_right fun h' => Nat.ne_of_lt hi h'.1⟩
  · next hi =>
    -- by hand, since `omega` would make every user depend on `Classical.choice`
    have hle := Nat.le_of_not_lt hi
    rw [List.getElem?_eq_none hle, List.getElem?_singleton]
    constructor
    · intro h
      split at h
      · next h0 => exact .inr ⟨Nat.le_antisymm (Nat.sub_eq_zero_iff_le.1 h0) hle, Option.some.inj h⟩
      · cases h
    · rintro (h | ⟨rfl, rfl⟩)
      · cases h
      · rw [Nat.sub_self, if_pos rfl]

theorem getElem?_append_some {α : Type} (l extra : List α) (i : Nat) (x : α)
    (h : l[i]? = some x) : (l ++ extra)[i]? = some x :=
  (List.getElem?_append_left (List.getElem?_eq_some_iff.mp h).1).trans h

theorem getElem?_split {α : Type} {l : List α} {i : Nat} {x : α} (h : l[i]? = some x) :
    ∃ a b, l = a ++ x :: b ∧ a.length = i := by
  obtain ⟨hi, rfl⟩ := List.getElem?_eq_some_iff.mp h
  exact ⟨l.take i, l.drop (i + 1), by rw [List.getElem_cons_drop, List.take_append_drop],
    List.length_take_of_le (Nat.le_of_lt hi)⟩

end C20
