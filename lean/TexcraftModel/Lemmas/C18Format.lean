import TexcraftModel.Lemmas.C18Render

/-! C18: formatting at the text level. The CST parser keeps printability of the tokens, so
`lex ∘ render` can be applied to whatever was parsed from a text. -/
namespace C18

theorem toksOk_cons (t : BTok) (l : List BTok) : toksOk (t :: l) = (tokOk t && toksOk l) := rfl

theorem toksOk_skipComma (l : List BTok) (h : toksOk l = true) : toksOk (skipComma l) = true := by
  unfold skipComma
  split
  · simp only [toksOk_cons, Bool.and_eq_true] at h; exact h.2
  · exact h

mutual
theorem parseCalls_keeps : ∀ (f : Nat) (toks : List BTok) (cs : List Call) (rest : List BTok),
    parseCalls f toks = some (cs, rest) → toksOk toks = true → callsOk cs = true ∧ toksOk rest = true
  | 0, _, _, _, h, _ => nomatch h
  | f + 1, toks, cs, rest, h, ht => by
    simp only [parseCalls] at h
    split at h
    · next name t =>
      simp only [toksOk_cons, Bool.and_eq_true] at ht
      split at h
      · next args t' ha =>
        have h1 := parseArgs_keeps f t args t' ha ht.2.2
        split at h
        · next cs' t'' hc =>
          have h2 := parseCalls_keeps f t' cs' t'' hc h1.2
          cases h
          simp only [callsOk, callOk, Bool.and_eq_true]
          exact ⟨⟨⟨ht.1, h1.1⟩, h2.1⟩, h2.2⟩
        · cases h
      · cases h
    · cases h
      exact ⟨rfl, ht⟩

theorem parseArgs_keeps : ∀ (f : Nat) (toks : List BTok) (as : List Arg) (rest : List BTok),
    parseArgs f toks = some (as, rest) → toksOk toks = true → argsOk as = true ∧ toksOk rest = true
  | 0, _, _, _, h, _ => nomatch h
  | f + 1, toks, as, rest, h, ht => by
    simp only [parseArgs] at h
    split at h
    · cases h
      simp only [toksOk_cons, Bool.and_eq_true] at ht
      exact ⟨rfl, ht.2⟩
    · next k t =>
      simp only [toksOk_cons, Bool.and_eq_true] at ht
      split at h
      · next v t' hv =>
        have h1 := parseVal_keeps f t v t' hv ht.2.2
        split at h
        · next as' t'' ha =>
          have h2 := parseArgs_keeps f _ as' t'' ha (toksOk_skipComma _ h1.2)
          cases h
          simp only [argsOk, argOk, Bool.and_eq_true]
          exact ⟨⟨⟨ht.1, h1.1⟩, h2.1⟩, h2.2⟩
        · cases h
      · cases h
    · split at h
      · next v t' hv =>
        have h1 := parseVal_keeps f toks v t' hv ht
        split at h
        · next as' t'' ha =>
          have h2 := parseArgs_keeps f _ as' t'' ha (toksOk_skipComma _ h1.2)
          cases h
          simp only [argsOk, argOk, Bool.and_eq_true]
          exact ⟨⟨h1.1, h2.1⟩, h2.2⟩
        · cases h
      · cases h

theorem parseVal_keeps : ∀ (f : Nat) (toks : List BTok) (v : Val) (rest : List BTok),
    parseVal f toks = some (v, rest) → toksOk toks = true → valOk v = true ∧ toksOk rest = true
  | 0, _, _, _, h, _ => nomatch h
  | f + 1, toks, v, rest, h, ht => by
    simp only [parseVal] at h
    split at h
    all_goals try simp only [toksOk_cons, Bool.and_eq_true] at ht
    · cases h; exact ht
    · cases h; exact ht
    · cases h; exact ht
    · cases h; exact ⟨rfl, ht.2⟩
    · next t =>
      split at h
      · next cs t' hc =>
        have h1 := parseCalls_keeps f t cs _ hc ht.2
        cases h
        simp only [toksOk_cons, Bool.and_eq_true] at h1
        exact ⟨h1.1, h1.2.2⟩
      · cases h
    · cases h
end

theorem parseSource_callsOk (toks : List BTok) (cs : List Call) (h : parseSource toks = some cs)
    (ht : toksOk toks = true) : callsOk cs = true := by
  unfold parseSource at h
  split at h
  · next cs' hp =>
    cases h
    exact (parseCalls_keeps _ toks _ _ hp ht).1
  · cases h

theorem formatToks_some {toks toks' : List BTok} (h : formatToks toks = some toks') :
    ∃ cs, parseSource toks = some cs ∧ toks' = printCalls cs := by
  obtain ⟨cs, hp, hc⟩ := Option.map_eq_some_iff.1 h
  exact ⟨cs, hp, hc.symm⟩

theorem formatText_ok {raw : Char → Bool} {src out : List Char} (h : formatText raw src = .ok out) :
    ∃ toks cs, lex src = .ok toks ∧ parseSource toks = some cs ∧ callsOk cs = true ∧
      out = renderCalls raw 0 cs := by
  unfold formatText at h
  split at h
  · next toks hl =>
    have hs := lex_spec src
    rw [hl] at hs
    split at h
    · next cs hp =>
      cases h
      exact ⟨toks, cs, hl, hp, parseSource_callsOk toks cs hp hs, rfl⟩
    · cases h
  · cases h
  · cases h

end C18
