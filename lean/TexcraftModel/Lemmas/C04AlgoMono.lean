import TexcraftModel.Lemmas.C04AlgoDefs

/-!
`monotone x = true` unpacked into its specification, and `lineWidth` only depends on the
line class `lkey`.
-/
namespace C04

/-- The fold in `monotone`, with `o b` for `overfull x a L b`. -/
theorem mono_fold (o : Nat → Bool) : ∀ (l : List Nat) (ok seen : Bool),
    (l.foldl (fun (st : Bool × Bool) b => (st.1 && (!st.2 || o b), st.2 || o b)) (ok, seen)).1 = true →
    ok = true ∧ (seen = true → ∀ b ∈ l, o b = true) ∧
      l.Pairwise (fun b b' => o b = true → o b' = true) := by
  intro l
  induction l with
  | nil =>
    intro ok seen h
    refine ⟨by simpa using h, ?_, List.Pairwise.nil⟩
    intro _ b hb
    cases hb
  | cons c t ih =>
    intro ok seen h
    rw [List.foldl_cons] at h
    obtain ⟨h1, h2, h3⟩ := ih _ _ h
    simp only [Bool.and_eq_true, Bool.or_eq_true, Bool.not_eq_true'] at h1 h2
    refine ⟨h1.1, ?_, ?_⟩
    · intro hs b hb
      rcases List.mem_cons.mp hb with rfl | hbt
      · rcases h1.2 with h' | h'
        · rw [hs] at h'; cases h'
        · exact h'
      · exact h2 (Or.inl hs) b hbt
    · refine List.Pairwise.cons ?_ h3
      intro b' hb' hc
      exact h2 (Or.inr hc) b' hb'

theorem mono_pairwise_lt {R : Nat → Nat → Prop} {l : List Nat} (hR : l.Pairwise R)
    (hlt : l.Pairwise (· < ·)) : ∀ b ∈ l, ∀ b' ∈ l, b < b' → R b b' := by
  refine List.Pairwise.forall_of_forall_of_flip (R := fun b b' => b < b' → R b b')
    (fun b _ h => absurd h (Nat.lt_irrefl b)) (hR.imp ?_) (hlt.imp ?_)
  · intro _ _ h _; exact h
  · intro _ _ h h'; exact absurd h (Nat.lt_asymm h')

theorem mono_legalBreaks_lt (x : Inst) : (legalBreaks x).Pairwise (· < ·) := by
  unfold legalBreaks
  exact List.Pairwise.filter _ List.pairwise_lt_range

theorem mono_mem_legalBreaks (x : Inst) (b : Nat) :
    b ∈ legalBreaks x ↔ b ≤ x.n ∧ (breakInfo x b).isSome = true := by
  unfold legalBreaks
  rw [List.mem_filter, List.mem_range, Nat.lt_succ_iff]

theorem lt?_trans (a : Option Nat) (b b' : Nat) (hab : lt? a b = true) (hbb : b < b') :
    lt? a b' = true := by
  cases a with
  | none => rfl
  | some a0 =>
    exact decide_eq_true (Nat.lt_trans (of_decide_eq_true hab) hbb)

theorem lineWidth_min (ws : List Int) (L : Nat) :
    lineWidth ws L = lineWidth ws (min L (ws.length - 1)) := by
  rcases Nat.lt_or_ge L ws.length with h | h
  · rw [Nat.min_eq_left (Nat.le_sub_one_of_lt h)]
  · rw [Nat.min_eq_right (Nat.le_trans (Nat.sub_le _ _) h)]
    unfold lineWidth
    rw [List.getElem?_eq_none h, ← List.getLast?_eq_getElem?]
    cases ws.getLast? <;> rfl

theorem lineWidth_lkey (x : Inst) (L : Nat) :
    lineWidth x.p.widths L = lineWidth x.p.widths (lkey x L) :=
  lineWidth_min x.p.widths L

theorem monotone_spec (x : Inst) (hm : monotone x = true) (hW : 0 < x.p.widths.length)
    (a : Option Nat) (L b b' : Nat)
    (ha : a = none ∨ ∃ a0, a = some a0 ∧ a0 ≤ x.n ∧ (breakInfo x a0).isSome)
    (hb : (breakInfo x b).isSome) (hb' : (breakInfo x b').isSome) (hbn' : b' ≤ x.n)
    (hab : lt? a b = true) (hbb : b < b') (ho : overfull x a L b = true) :
    overfull x a L b' = true := by
  -- `monotone` tries one line number of every line class, and `overfull` looks at the class only
  unfold overfull at ho ⊢
  rw [lineWidth_lkey x L] at ho ⊢
  unfold monotone at hm
  simp only [List.all_eq_true] at hm
  have hmem : a ∈ (none : Option Nat) :: (legalBreaks x).map some := by
    rcases ha with rfl | ⟨a0, rfl, h1, h2⟩
    · exact List.mem_cons_self
    · exact List.mem_cons_of_mem _
        (List.mem_map.mpr ⟨a0, (mono_mem_legalBreaks x a0).mpr ⟨h1, h2⟩, rfl⟩)
  have hfold := hm a hmem (lkey x L) (List.mem_range.mpr (by unfold lkey; omega))
  obtain ⟨_, _, hpw⟩ := mono_fold (fun b => overfull x a (lkey x L) b) _ _ _ hfold
  have hlt : ((legalBreaks x).filter (lt? a)).Pairwise (· < ·) :=
    List.Pairwise.filter _ (mono_legalBreaks_lt x)
  have hbm : b ∈ (legalBreaks x).filter (lt? a) :=
    List.mem_filter.mpr ⟨(mono_mem_legalBreaks x b).mpr ⟨Nat.le_trans (Nat.le_of_lt hbb) hbn', hb⟩, hab⟩
  have hbm' : b' ∈ (legalBreaks x).filter (lt? a) :=
    List.mem_filter.mpr ⟨(mono_mem_legalBreaks x b').mpr ⟨hbn', hb'⟩, lt?_trans a b b' hab hbb⟩
  exact mono_pairwise_lt hpw hlt b hbm b' hbm' hbb ho

end C04
