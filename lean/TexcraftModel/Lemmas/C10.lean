import TexcraftModel.Model.C10

/-! The pieces of `RawFile::deserialize`, each against an exact counterpart: `sizesOf` reads back what `headerBytes`
wrote, the checked sums of non-negative terms equal the exact sum `sumI` if that fits, `getSlices` returns
`slicesFrom`, which tiles. `C10Checks` puts them together. -/
namespace C10

/-- The range of an `i16`; reducible, so that `omega` reads it as the two inequalities. -/
abbrev InI16 (x : Int) : Prop := -32768 ≤ x ∧ x ≤ 32767

theorem i16OfBytes_range (hi lo : Nat) : InI16 (i16OfBytes hi lo) := by
  unfold i16OfBytes
  have h1 := Nat.mod_lt hi (by decide : 256 > 0)
  have h2 := Nat.mod_lt lo (by decide : 256 > 0)
  generalize hi % 256 = a at h1
  generalize lo % 256 = b at h2
  simp only []
  split <;> omega

theorem bytes_join (w : Nat) (h : w < 256 * 256) : w / 256 % 256 * 256 + w % 256 % 256 = w := by
  rw [Nat.mod_eq_of_lt (Nat.div_lt_of_lt_mul h), Nat.mod_mod, Nat.div_add_mod']

theorem i16OfBytes_i16ToBytes (x : Int) (h : InI16 x) :
    i16OfBytes ((x % 65536).toNat / 256) ((x % 65536).toNat % 256) = x := by
  have hw : ((x % 65536).toNat : Int) = x % 65536 := Int.toNat_of_nonneg (Int.emod_nonneg _ (by decide))
  have hlt : x % 65536 < 65536 := Int.emod_lt_of_pos _ (by decide)
  generalize (x % 65536).toNat = w at hw
  unfold i16OfBytes
  simp only []
  rw [bytes_join w (by omega)]
  split <;> omega

theorem words_spec : ∀ (n : Nat) (l : List Nat), 2 * n ≤ l.length →
    ∃ r, words n l = some r ∧ r.length = n ∧ ∀ x ∈ r, InI16 x
  | 0, _, _ => ⟨[], rfl, rfl, nofun⟩
  | n + 1, hi :: lo :: t, h => by
    obtain ⟨r, hr, hl, hx⟩ := words_spec n t (by simp only [List.length_cons] at h; omega)
    exact ⟨i16OfBytes hi lo :: r, by simp only [words, hr], congrArg (· + 1) hl,
      List.forall_mem_cons.mpr ⟨i16OfBytes_range hi lo, hx⟩⟩
  | n + 1, [], h => by simp only [List.length_nil] at h; omega
  | n + 1, [_], h => by simp only [List.length_cons, List.length_nil] at h; omega

theorem words_flatMap_i16ToBytes : ∀ xs : List Int, (∀ x ∈ xs, InI16 x) →
    words xs.length (xs.flatMap i16ToBytes) = some xs
  | [], _ => rfl
  | x :: xs, h => by
    obtain ⟨hx, hxs⟩ := List.forall_mem_cons.mp h
    simp only [List.flatMap_cons, i16ToBytes, List.cons_append, List.nil_append, List.length_cons, words,
      words_flatMap_i16ToBytes xs hxs, i16OfBytes_i16ToBytes x hx]

/-- All twelve fields are sixteen-bit values. -/
def Sizes.InRange (s : Sizes) : Prop := ∀ x ∈ s.toList, InI16 x

theorem Sizes.inRange_iff (s : Sizes) : s.InRange ↔ InI16 s.lf ∧ InI16 s.lh ∧ InI16 s.bc ∧ InI16 s.ec ∧ InI16 s.nw ∧
    InI16 s.nh ∧ InI16 s.nd ∧ InI16 s.ni ∧ InI16 s.nl ∧ InI16 s.nk ∧ InI16 s.ne ∧ InI16 s.np := by
  simp only [Sizes.InRange, Sizes.toList, List.forall_mem_cons, List.not_mem_nil, false_imp_iff, implies_true, and_true]

theorem sizesOf_eq_some (hdr : List Nat) (s : Sizes) : sizesOf hdr = some s ↔ words 12 hdr = some s.toList := by
  unfold sizesOf
  constructor
  · intro h
    split at h
    · cases h; assumption
    · cases h
  · intro h
    rw [h]
    rfl

theorem Sizes.exists_toList : ∀ r : List Int, r.length = 12 → ∃ s : Sizes, s.toList = r
  | [lf, lh, bc, ec, nw, nh, nd, ni, nl, nk, ne, np], _ => ⟨⟨lf, lh, bc, ec, nw, nh, nd, ni, nl, nk, ne, np⟩, rfl⟩

theorem sizesOf_some (hdr : List Nat) (h : 24 ≤ hdr.length) : ∃ s, sizesOf hdr = some s ∧ s.InRange := by
  obtain ⟨r, hr, hl, hx⟩ := words_spec 12 hdr (by omega)
  obtain ⟨s, rfl⟩ := Sizes.exists_toList r hl
  exact ⟨s, (sizesOf_eq_some _ _).mpr hr, hx⟩

theorem sizesOf_lf (b0 b1 : Nat) (t : List Nat) (s : Sizes) (h : sizesOf (b0 :: b1 :: t) = some s) :
    s.lf = i16OfBytes b0 b1 := by
  rw [sizesOf_eq_some, words] at h
  split at h
  · simp only [Sizes.toList, Option.some.injEq, List.cons.injEq] at h
    exact h.1.symm
  · cases h

theorem headerBytes_eq (s : Sizes) : headerBytes s = s.toList.flatMap i16ToBytes := by
  simp [headerBytes, Sizes.toList]

theorem headerBytes_length (s : Sizes) : (headerBytes s).length = 24 := by
  simp [headerBytes, i16ToBytes]

/-- `SubFileSizes::from` undoes `SubFileSizes::into`. -/
theorem sizesOf_headerBytes (s : Sizes) (h : s.InRange) : sizesOf (headerBytes s) = some s := by
  rw [sizesOf_eq_some, headerBytes_eq]
  exact words_flatMap_i16ToBytes s.toList h

theorem addW_some (lim a b : Int) (h : -lim ≤ a + b ∧ a + b < lim) : addW lim a b = some (a + b) := by
  simp [addW, h]

theorem addW_eq (lim a b r : Int) (h : addW lim a b = some r) : r = a + b := by
  unfold addW at h
  simp only [] at h
  split at h <;> simp at h
  exact h.symm

/-- The exact sum, which the checked sums `sumW` and `validLf` are compared with. -/
def sumI : List Int → Int
  | [] => 0
  | x :: xs => x + sumI xs

theorem sumI_nonneg : ∀ (us : List Int), (∀ u ∈ us, 0 ≤ u) → 0 ≤ sumI us
  | [], _ => Int.le_refl 0
  | u :: us, h => by
    obtain ⟨h1, h2⟩ := List.forall_mem_cons.mp h
    have := sumI_nonneg us h2
    simp only [sumI]
    omega

theorem sumW_of_nonneg (lim : Int) : ∀ (xs : List Int) (acc : Int), 0 ≤ acc → (∀ x ∈ xs, 0 ≤ x) →
    acc + sumI xs < lim → sumW lim acc xs = some (acc + sumI xs)
  | [], acc, _, _, _ => by simp [sumW, sumI]
  | x :: xs, acc, ha, hx, hs => by
    obtain ⟨h1, h2⟩ := List.forall_mem_cons.mp hx
    have := sumI_nonneg xs h2
    simp only [sumI] at hs ⊢
    rw [sumW, addW_some lim acc x (by omega)]
    simp only []
    rw [sumW_of_nonneg lim xs (acc + x) (by omega) h2 (by omega)]
    exact congrArg some (by omega)

theorem numChars_eq (lim : Int) (s : Sizes) (h0 : -lim ≤ s.ec - s.bc) (h1 : s.ec - s.bc + 1 < lim) :
    numChars lim s = some (s.ec - s.bc + 1) := by
  unfold numChars
  rw [addW_some lim s.ec (-s.bc) (by omega)]
  simp only []
  rw [addW_some lim _ 1 (by omega)]
  exact congrArg some (by omega)

theorem sumI_parts (s : Sizes) :
    sumI s.parts = 6 + s.lh + (s.ec - s.bc + 1) + s.nw + s.nh + s.nd + s.ni + s.nl + s.nk + s.ne + s.np := by
  simp only [Sizes.parts, sumI]; omega

theorem Sizes.parts_nonneg_iff (s : Sizes) : (∀ u ∈ s.parts, 0 ≤ u) ↔ 0 ≤ s.lh ∧ 0 ≤ s.ec - s.bc + 1 ∧ 0 ≤ s.nw ∧
    0 ≤ s.nh ∧ 0 ≤ s.nd ∧ 0 ≤ s.ni ∧ 0 ≤ s.nl ∧ 0 ≤ s.nk ∧ 0 ≤ s.ne ∧ 0 ≤ s.np := by
  simp only [Sizes.parts, List.forall_mem_cons, List.not_mem_nil, false_imp_iff, implies_true, and_true]
  exact and_iff_right (by decide)

theorem validLf_eq (lim : Int) (s : Sizes) (h0 : ∀ u ∈ s.parts, 0 ≤ u) (h1 : sumI s.parts < lim) :
    validLf lim s = some (sumI s.parts) := by
  unfold validLf
  unfold Sizes.parts at h0 h1 ⊢
  -- only the first three terms matter; the tail of the sum stays folded
  generalize [s.nw, s.nh, s.nd, s.ni, s.nl, s.nk, s.ne, s.np] = tl at h0 h1 ⊢
  simp only [List.forall_mem_cons] at h0
  obtain ⟨_, hlh, hnc, h0⟩ := h0
  have := sumI_nonneg tl h0
  simp only [sumI] at h1 ⊢
  rw [addW_some lim 6 s.lh (by omega), numChars_eq lim s (by omega) (by omega)]
  simp only []
  rw [sumW_of_nonneg lim _ (6 + s.lh) (by omega) (List.forall_mem_cons.mpr ⟨hnc, h0⟩) (by simp only [sumI]; omega)]
  exact congrArg some (by simp only [sumI]; omega)

theorem getSlices_eq (len : Nat) : ∀ (us : List Int) (pos : Nat), (∀ u ∈ us, 0 ≤ u) →
    (pos : Int) + 4 * sumI us ≤ len → getSlices len pos us = some (slicesFrom pos us)
  | [], _, _, _ => rfl
  | u :: us, pos, hn, hs => by
    obtain ⟨h1, hn'⟩ := List.forall_mem_cons.mp hn
    have h2 := sumI_nonneg us hn'
    simp only [sumI] at hs
    have ih := getSlices_eq len us (pos + u.toNat * 4) hn' (by omega)
    simp only [getSlices, slicesFrom, ih, if_neg (Int.not_lt.mpr h1),
      if_neg (by omega : ¬ len < pos + u.toNat * 4)]

theorem slicesFrom_tiles : ∀ (us : List Int) (pos : Nat), (∀ u ∈ us, 0 ≤ u) →
    Tiles pos (slicesFrom pos us) us ∧ (lastStop pos (slicesFrom pos us) : Int) = pos + 4 * sumI us
  | [], pos, _ => by simp [Tiles, slicesFrom, lastStop, sumI]
  | u :: us, pos, hn => by
    obtain ⟨h1, hn'⟩ := List.forall_mem_cons.mp hn
    obtain ⟨t1, t2⟩ := slicesFrom_tiles us (pos + u.toNat * 4) hn'
    simp only [slicesFrom, Tiles, lastStop, sumI]
    exact ⟨⟨trivial, by omega, h1, t1⟩, by omega⟩

theorem slicesFrom_length : ∀ (us : List Int) (pos : Nat), (slicesFrom pos us).length = us.length
  | [], _ => rfl
  | _ :: us, pos => by simp [slicesFrom, slicesFrom_length us]

theorem tilesB_iff : ∀ (pos : Nat) (sl : List Slice) (ns : List Int), tilesB pos sl ns = true ↔ Tiles pos sl ns
  | _, [], [] | _, [], _ :: _ | _, _ :: _, [] => by simp [tilesB, Tiles]
  | pos, s :: sl, n :: ns => by
    simp [tilesB, Tiles, tilesB_iff s.stop sl ns, and_assoc]

end C10
