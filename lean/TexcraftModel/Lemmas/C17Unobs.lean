import TexcraftModel.Lemmas.C17Text
/-! Mutant 08 of the sweep (`mutants/C17/08-parse-neg-true.diff`) changes the reader's sign loop
without being observable through print ∘ read, since a printed number has at most one minus sign:
`sign_mutant_all`. (Mutant 02, the other one of this kind, is an `example` in `Props/C17.lean`.) -/
namespace C17

/-- The reader's sign loop with mutant 08 (`negative = true` instead of `negative = !negative`). -/
def readSignsT : List Char → Bool → Bool × List Char
  | c :: t, neg =>
    if c = '+' ∨ c = ' ' then readSignsT t neg
    else if c = '-' then readSignsT t true
    else (neg, c :: t)
  | [], neg => (neg, [])

theorem readSignsT_printed (neg : Bool) (c : Char) (t : List Char) (hc : isDig c = true) :
    readSignsT ((if neg then ['-'] else []) ++ c :: t) false = (neg, c :: t) := by
  obtain ⟨h1, _, h2, h3⟩ := isDig_not_sign c hc
  cases neg <;> simp [readSignsT, h1, h2, h3]

theorem sign_mutant_all (v : Int) : readSignsT (printFix v) false = readSigns (printFix v) false := by
  obtain ⟨c, t, hc, hp⟩ := printMag_shape v.natAbs
  have hT := readSignsT_printed (decide (v < 0)) c t hc
  have hR := readSigns_printed (decide (v < 0)) c t hc
  simp only [decide_eq_true_eq] at hT hR
  rw [printFix_eq, hp, hT, hR]

end C17
