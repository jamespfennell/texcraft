import TexcraftModel.Lemmas.C06Mut
import TexcraftModel.Model.C06Dec

/-!
C06 — the facts about one fraction value `0 ≤ fr < 2^16` behind the print/scan theorems: why
`print_scaled` (TeX §103) and `round_decimals` (§102) are inverse, why `print_scaled` prints a
shortest decimal, and why two comparison variants of the digit loop print the same.

`round_decimals` of digits of value `V` over `P = 10^n` answers `fr` exactly when
`(2fr-1)·P ≤ 2^17·V < (2fr+1)·P` (`round_half_iff`). The print loop from `s = 10·fr + 5` stops as soon as
the remainder `s·10^m - 10·2^16·D` after `m` digits of value `D` is at most `10^(m+1)`, which is that
inequality (`Window`); the fifth digit is rounded so that it stops there at the latest.
The file ends with `dec5`, the decimal digits of the integer part, by the recursion of `Nat.toDigits`.
-/
namespace C06

/-- Value of a digit string, most significant digit first. -/
def digitsVal : List Nat → Nat
  | [] => 0
  | d :: ds => d * 10 ^ ds.length + digitsVal ds

theorem rdAcc_eq (ds : List Nat) :
    rdAcc ds = ((131072 * digitsVal ds / 10 ^ ds.length : Nat) : Int) := by
  induction ds with
  | nil => rfl
  | cons d ds ih =>
    have hp : 0 < 10 ^ ds.length := Nat.pow_pos (by decide)
    have e : 131072 * (d * 10 ^ ds.length + digitsVal ds) / (10 ^ ds.length * 10)
        = (131072 * digitsVal ds / 10 ^ ds.length + d * 131072) / 10 := by
      rw [← Nat.div_div_eq_div_mul, Nat.mul_add, Nat.add_comm, ← Nat.mul_assoc,
        Nat.mul_comm 131072 d, Nat.add_mul_div_right _ _ hp]
    simp only [rdAcc, ih, digitsVal, List.length_cons, Nat.pow_succ, e]
    omega

theorem fromDecimalDigits_eq (ds : List Nat) :
    fromDecimalDigits ds = (((131072 * digitsVal ds / 10 ^ ds.length + 1) / 2 : Nat) : Int) := by
  unfold fromDecimalDigits
  rw [rdAcc_eq]
  omega

theorem rdAcc_append_zeros (ds : List Nat) (k : Nat) : rdAcc (ds ++ List.replicate k 0) = rdAcc ds := by
  induction ds with
  | nil =>
    induction k with
    | zero => rfl
    | succ k ih => simp only [List.nil_append] at ih; simp [List.replicate_succ, rdAcc, ih]
  | cons d ds ih => simp only [List.cons_append, rdAcc, ih]

theorem fromDecimalDigits_pad17 (ds : List Nat) : fromDecimalDigits (pad17 ds) = fromDecimalDigits ds := by
  unfold fromDecimalDigits pad17; rw [rdAcc_append_zeros]

theorem round_half_iff (W P f : Nat) (hP : 0 < P) :
    (W / P + 1) / 2 = f ↔ 2 * (f * P) ≤ W + P ∧ W < 2 * (f * P) + P := by
  -- rounding to `f` says the quotient is `2f - 1` or `2f`, and a bound on a quotient is a bound on `W`
  have a : 2 * f ≤ W / P + 1 ↔ 2 * (f * P) ≤ W + P := by
    rw [← Nat.add_div_right W hP, Nat.le_div_iff_mul_le hP, Nat.mul_assoc]
  have b : W / P < 2 * f + 1 ↔ W < 2 * (f * P) + P := by
    rw [Nat.div_lt_iff_lt_mul hP, Nat.add_mul, Nat.one_mul, Nat.mul_assoc]
  omega

/-- A state of the digit loop of `print_scaled` on a fraction: `delta` is `10^j` for the `j`-th
digit, the fuel `k` covers the `6 - j` digits that may follow, `s` is below ten units and, from
the second digit on, above `delta` (the loop was not left). Up to the fourth digit `s` is divisible by
`2^(j-1)` and not by `2^j`, so it never equals `delta`. -/
structure Loop (k s delta : Nat) : Prop where
  stage : delta = 10 ∧ 5 ≤ k ∧ s % 2 = 1 ∨ delta = 100 ∧ 4 ≤ k ∧ s % 4 = 2 ∨
    delta = 1000 ∧ 3 ≤ k ∧ s % 8 = 4 ∨ delta = 10000 ∧ 2 ≤ k ∧ s % 16 = 8 ∨ delta = 100000 ∧ 1 ≤ k
  lt : s < 655360
  gt : 10 < delta → delta < s

theorem Loop.init (fr k : Nat) (h : fr < 65536) (hk : 5 ≤ k) : Loop k (10 * fr + 5) 10 :=
  ⟨.inl ⟨rfl, hk, by omega⟩, by omega, fun h => absurd h (by decide)⟩

theorem Loop.next {k s delta : Nat} (h : Loop (k + 1) s delta) (hd : delta ≠ 100000)
    (hs : ¬ 10 * (s % 65536) ≤ delta * 10) : Loop k (10 * (s % 65536)) (delta * 10) := by
  obtain ⟨h1, h2, h3⟩ := h
  refine ⟨?_, by omega, by omega⟩
  rcases h1 with ⟨rfl, _, _⟩ | ⟨rfl, _, _⟩ | ⟨rfl, _, _⟩ | ⟨rfl, _, _⟩ | ⟨rfl, _⟩
  · exact .inr (.inl ⟨rfl, by omega, by omega⟩)
  · exact .inr (.inr (.inl ⟨rfl, by omega, by omega⟩))
  · exact .inr (.inr (.inr (.inl ⟨rfl, by omega, by omega⟩)))
  · exact .inr (.inr (.inr (.inr ⟨rfl, by omega⟩)))
  · exact absurd rfl hd

theorem printLoop_succ_of_le (k s delta : Nat) (h : delta ≤ 65536) :
    Spec.printLoop (k + 1) s delta =
      if 10 * (s % 65536) ≤ delta * 10 then [s / 65536]
      else s / 65536 :: Spec.printLoop k (10 * (s % 65536)) (delta * 10) := by
  have e : (if delta > 65536 then s + 32768 - 50000 else s) = s := if_neg (by omega)
  rw [Spec.printLoop]
  simp only [e]

theorem printLoop_last (k s : Nat) (h1 : 100000 < s) (h2 : s < 655360) :
    Spec.printLoop (k + 1) s 100000 = [(s - 17232) / 65536] := by
  have e : (if 100000 > 65536 then s + 32768 - 50000 else s) = s - 17232 := by
    rw [if_pos (by decide)]; omega
  rw [Spec.printLoop]
  simp only [e]
  exact if_pos (by omega)

/-- What the digit loop prints from a state `s`, `delta`: `n` digits of value `D` that meet the window,
`0 < s·10^n - 10·2^16·D ≤ delta·10^n`, while after fewer digits the remainder was still above it. -/
structure Window (s delta : Nat) (L : List Nat) : Prop where
  pos : 1 ≤ L.length
  len : delta * 10 ^ L.length ≤ 1000000
  digit : ∀ d ∈ L, d < 10
  lo : 655360 * digitsVal L < s * 10 ^ L.length
  hi : s * 10 ^ L.length ≤ 655360 * digitsVal L + delta * 10 ^ L.length
  early : ∀ m, 1 ≤ m → m < L.length → delta * 10 ^ m < s * 10 ^ m % 655360

theorem Window.single {s delta q : Nat} (hq : q < 10) (hd : delta ≤ 100000) (lo : 655360 * q < s * 10)
    (hi : s * 10 ≤ 655360 * q + delta * 10) : Window s delta [q] :=
  ⟨Nat.le_refl _, by simp only [List.length_singleton, Nat.pow_one]; omega,
    fun d h => by rw [List.mem_singleton] at h; omega,
    by simp only [digitsVal, List.length_nil, List.length_singleton, Nat.pow_zero, Nat.pow_one]; omega,
    by simp only [digitsVal, List.length_nil, List.length_singleton, Nat.pow_zero, Nat.pow_one]; omega,
    fun m h1 h2 => by rw [List.length_singleton] at h2; omega⟩

theorem Window.cons {delta q r : Nat} {rest : List Nat} (hq : q < 10) (hr : 10 * r < 655360)
    (hgo : delta * 10 < 10 * r) (h : Window (10 * r) (delta * 10) rest) :
    Window (65536 * q + r) delta (q :: rest) := by
  -- the remainder after `m + 1` digits from `2^16·q + r` is the remainder after `m` digits from `10·r`
  have key : ∀ m, (65536 * q + r) * 10 ^ (m + 1) = 655360 * (q * 10 ^ m) + 10 * r * 10 ^ m := by
    intro m
    rw [Nat.pow_succ, Nat.add_mul, Nat.mul_assoc 65536 q, ← Nat.mul_assoc q, ← Nat.mul_assoc 65536,
      Nat.mul_comm (10 ^ m) 10, ← Nat.mul_assoc r, Nat.mul_comm r 10]
    omega
  have p : ∀ m, delta * 10 ^ (m + 1) = delta * 10 * 10 ^ m := by
    intro m; rw [Nat.pow_succ, Nat.mul_assoc, Nat.mul_comm (10 ^ m)]
  have lo := h.lo; have hi := h.hi
  refine ⟨by simp, ?_, ?_, ?_, ?_, ?_⟩
  · rw [List.length_cons, p]; exact h.len
  · intro d hd
    rcases List.mem_cons.mp hd with rfl | hd
    · exact hq
    · exact h.digit d hd
  · rw [List.length_cons, key, digitsVal, Nat.mul_add]; omega
  · rw [List.length_cons, key, p, digitsVal, Nat.mul_add]; omega
  · intro m hm1 hm2
    rw [List.length_cons] at hm2
    obtain ⟨m, rfl⟩ : ∃ m', m = m' + 1 := ⟨m - 1, by omega⟩
    rw [key, p, Nat.mul_add_mod]
    by_cases hm0 : m = 0
    · subst hm0; rw [Nat.pow_zero, Nat.mul_one, Nat.mul_one, Nat.mod_eq_of_lt hr]; exact hgo
    · exact h.early m (by omega) (by omega)

theorem printLoop_window : ∀ (k s delta : Nat), Loop k s delta → Window s delta (Spec.printLoop k s delta) := by
  intro k
  induction k with
  | zero => intro s delta h; have := h.stage; omega
  | succ k ih =>
    intro s delta h
    have hst := h.stage; have hlt := h.lt
    by_cases hd : delta = 100000
    · subst hd
      have hgt : 100000 < s := h.gt (by decide)
      rw [printLoop_last k s hgt hlt]
      exact .single (by omega) (by omega) (by omega) (by omega)
    · rw [printLoop_succ_of_le k s delta (by omega)]
      by_cases hs : 10 * (s % 65536) ≤ delta * 10
      · rw [if_pos hs]
        exact .single (by omega) (by omega) (by omega) (by omega)
      · rw [if_neg hs]
        have := Window.cons (q := s / 65536) (by omega) (by omega) (by omega) (ih _ _ (h.next hd hs))
        rwa [Nat.div_add_mod] at this

theorem printFracLoop_eq_V : ∀ (k : Nat) (f delta : Int),
    printFracLoop k f delta = printFracLoopV false false k f delta := by
  intro k
  induction k with
  | zero => intro f delta; rfl
  | succ k ih => intro f delta; simp [printFracLoop, printFracLoopV, ih]

/-- One turn of the implementation's loop on a non-negative `s1` below ten units, the rounding
correction already applied. The turn does not depend on the two comparison variants as long as
`delta` is not `2^16` (which settles `s1`) and the new remainder is not the new `delta`. -/
theorem printFracLoopV_succ (ge lt : Bool) (k s1 delta : Nat) (f : Int)
    (hadj : (if (if ge then (delta : Int) ≥ 65536 else (delta : Int) > 65536) then f + (32768 - 50000) else f)
      = (s1 : Int))
    (h1 : s1 < 655360) (hne : 10 * (s1 % 65536) ≠ delta * 10) :
    printFracLoopV ge lt (k + 1) f (delta : Int) =
      if 10 * (s1 % 65536) ≤ delta * 10 then some [s1 / 65536]
      else (printFracLoopV ge lt k ((10 * (s1 % 65536) : Nat) : Int) ((delta * 10 : Nat) : Int)).map
        (s1 / 65536 :: ·) := by
  have e1 : Int.tdiv (s1 : Int) 65536 = ((s1 / 65536 : Nat) : Int) := by
    rw [Int.tdiv_eq_ediv_of_nonneg (by omega)]; omega
  have e2 : Int.tmod (s1 : Int) 65536 * 10 = ((10 * (s1 % 65536) : Nat) : Int) := by
    rw [Int.tmod_eq_emod_of_nonneg (by omega)]; omega
  have e3 : (delta : Int) * 10 = ((delta * 10 : Nat) : Int) := by omega
  rw [printFracLoopV]
  simp only [hadj, e1, e2, e3, Int.toNat_natCast]
  rw [if_neg (by omega)]
  have c : (if lt then ((10 * (s1 % 65536) : Nat) : Int) < ((delta * 10 : Nat) : Int)
      else ((10 * (s1 % 65536) : Nat) : Int) ≤ ((delta * 10 : Nat) : Int)) ↔ 10 * (s1 % 65536) ≤ delta * 10 := by
    cases lt <;> simp only [Bool.false_eq_true, if_false, if_true] <;> omega
  simp only [c]

theorem printFracLoopV_eq (ge lt : Bool) : ∀ (k k' s delta : Nat), Loop k s delta → Loop k' s delta →
    printFracLoopV ge lt k (s : Int) (delta : Int) = some (Spec.printLoop k' s delta) := by
  intro k
  induction k with
  | zero => intro k' s delta h; have := h.stage; omega
  | succ k ih =>
    intro k' s delta h h'
    obtain ⟨k', rfl⟩ : ∃ j, k' = j + 1 := ⟨k' - 1, by have := h'.stage; omega⟩
    have hst := h.stage; have hlt := h.lt
    by_cases hd : delta = 100000
    · subst hd
      have hgt : 100000 < s := h.gt (by decide)
      rw [printLoop_last k' s hgt hlt,
        printFracLoopV_succ ge lt k (s - 17232) 100000 s (by cases ge <;> simp <;> omega) (by omega) (by omega),
        if_pos (by omega)]
    · rw [printLoop_succ_of_le k' s delta (by omega),
        printFracLoopV_succ ge lt k s delta s (by cases ge <;> simp <;> omega) hlt (by omega)]
      by_cases hs : 10 * (s % 65536) ≤ delta * 10
      · rw [if_pos hs, if_pos hs]
      · rw [if_neg hs, if_neg hs, ih k' _ _ (h.next hd hs) (h'.next hd hs)]
        rfl

theorem printFracV_eq (ge lt : Bool) (fr : Nat) (h : fr < 65536) :
    printFracV ge lt (fr : Int) = some (Spec.printLoop 17 (10 * fr + 5) 10) := by
  have := printFracLoopV_eq ge lt 8 17 (10 * fr + 5) 10 (Loop.init fr 8 h (by decide))
    (Loop.init fr 17 h (by decide))
  rw [printFracV, show (fr : Int) * 10 + 5 = ((10 * fr + 5 : Nat) : Int) by omega]
  exact this

theorem printFrac_eq (fr : Nat) (h : fr < 65536) :
    printFrac (fr : Int) = some (Spec.printLoop 17 (10 * fr + 5) 10) := by
  rw [printFrac, printFracLoop_eq_V]
  exact printFracV_eq false false fr h

theorem digitsVal_lt (ds : List Nat) (h : ∀ d ∈ ds, d < 10) : digitsVal ds < 10 ^ ds.length := by
  induction ds with
  | nil => simp [digitsVal]
  | cons d ds ih =>
    have h1 := ih (fun x hx => h x (List.mem_cons_of_mem _ hx))
    have h2 : d * 10 ^ ds.length ≤ 9 * 10 ^ ds.length :=
      Nat.mul_le_mul_right _ (by have := h d (List.mem_cons_self ..); omega)
    simp only [digitsVal, List.length_cons, Nat.pow_succ]
    omega

theorem fromDecimalDigits_bound (ds : List Nat) (h : ∀ d ∈ ds, d < 10) :
    0 ≤ fromDecimalDigits ds ∧ fromDecimalDigits ds ≤ 65536 := by
  have hV := digitsVal_lt ds h
  have : 131072 * digitsVal ds / 10 ^ ds.length < 131072 :=
    (Nat.div_lt_iff_lt_mul (Nat.pow_pos (by decide))).2 (by omega)
  rw [fromDecimalDigits_eq]
  generalize 131072 * digitsVal ds / 10 ^ ds.length = w at this ⊢
  omega

/-- What `display_no_units` prints for a fraction: at least one and at most five decimal digits,
exactly Knuth's, which `from_decimal_digits` reads back as the same fraction. -/
theorem printFrac_spec (fr : Nat) (h : fr < 65536) :
    printFrac (fr : Int) = some (Spec.printLoop 17 (10 * fr + 5) 10) ∧
      (Spec.printLoop 17 (10 * fr + 5) 10).length ≤ 5 ∧ 1 ≤ (Spec.printLoop 17 (10 * fr + 5) 10).length ∧
      (∀ d ∈ Spec.printLoop 17 (10 * fr + 5) 10, d < 10) ∧
      fromDecimalDigits (pad17 (Spec.printLoop 17 (10 * fr + 5) 10)) = (fr : Int) := by
  have w := printLoop_window 17 _ 10 (Loop.init fr 17 h (by decide))
  refine ⟨printFrac_eq fr h, ?_, w.pos, w.digit, ?_⟩
  · apply Nat.le_of_not_lt; intro hc
    have := Nat.pow_le_pow_right (n := 10) (by decide) hc
    have := w.len
    omega
  · have a := w.lo; have b := w.hi
    rw [Nat.add_mul, Nat.mul_assoc] at a b
    rw [fromDecimalDigits_pad17, fromDecimalDigits_eq,
      (round_half_iff _ _ fr (Nat.pow_pos (by decide))).2 ⟨by omega, by omega⟩]

/-- The facts of `printFrac_spec` about one fraction value packed into one Boolean (`fracOK_all`):
the form in which `meta/C18.json` cites them. -/
def fracOK (fr : Nat) : Bool :=
  match printFrac (fr : Int) with
  | none => false
  | some ds =>
    decide (ds.length ≤ 5) && decide (1 ≤ ds.length) && ds.all (· < 10)
      && decide (fromDecimalDigits (pad17 ds) = (fr : Int))
      && decide (Spec.printLoop 17 (10 * fr + 5) 10 = ds)

theorem fracOK_all (fr : Nat) (h : fr < 65536) : fracOK fr = true := by
  obtain ⟨h1, h2, h3, h4, h5⟩ := printFrac_spec fr h
  unfold fracOK
  rw [h1]
  simp only [h2, h3, h5, decide_true, Bool.and_true, Bool.true_and, List.all_eq_true, decide_eq_true_eq]
  exact h4

/-- A digit string `l` that scans to the fraction `f < 2^16` is never shorter than what is
printed for `f` (when it scans to `2^16` the value is an integer plus one: printed `.0`). -/
def shortOK (l : List Nat) : Bool :=
  let f := fromDecimalDigits (pad17 l)
  decide (f = 65536) ||
    (match printFrac f with
     | some ds => decide (ds.length ≤ max 1 l.length)
     | none => false)

/-- Knuth's guarantee for `print_scaled`: a digit string that scans to `f` is never shorter than
what is printed for `f`: the truncation of `(2f+1)/2^17` to as many digits is at least the string's
value, so its remainder is within the window and the loop has stopped by then. A string that scans
to `0` or to `2^16` stands for an integer, printed `.0`. -/
theorem printLoop_shortest (l : List Nat) (hd : ∀ d ∈ l, d < 10) (f : Nat) (hf : fromDecimalDigits l = (f : Int)) :
    (Spec.printLoop 17 (10 * (f % 65536) + 5) 10).length ≤ max 1 l.length := by
  by_cases hz : f % 65536 = 0
  · rw [hz]; exact Nat.le_trans (by decide) (Nat.le_max_left 1 _)
  have hf65 : f ≤ 65536 := by have := fromDecimalDigits_bound l hd; omega
  have h0 : l ≠ [] := fun h0 => by
    subst h0
    have : fromDecimalDigits [] = 0 := by decide
    omega
  have hm : max 1 l.length = l.length := by have := List.length_pos_iff.2 h0; omega
  have hp : 0 < 10 ^ l.length := Nat.pow_pos (by decide)
  rw [fromDecimalDigits_eq] at hf
  have hw := (round_half_iff (131072 * digitsVal l) _ f hp).1 (by omega)
  rw [hm, Nat.mod_eq_of_lt (by omega)]
  apply Nat.le_of_not_lt; intro hc
  have a := (printLoop_window 17 _ 10 (Loop.init f 17 (by omega) (by decide))).early l.length (by omega) hc
  rw [Nat.add_mul, Nat.mul_assoc] at a
  omega

theorem shortOK_all (l : List Nat) (hd : ∀ d ∈ l, d < 10) (hl : l.length ≤ 4) : shortOK l = true := by
  have hb := fromDecimalDigits_bound l hd
  obtain ⟨f, hf⟩ : ∃ f : Nat, fromDecimalDigits l = (f : Int) := ⟨_, (Int.toNat_of_nonneg hb.1).symm⟩
  have hs := printLoop_shortest l hd f hf
  unfold shortOK
  rw [fromDecimalDigits_pad17, hf]
  by_cases h65 : f = 65536
  · simp [h65]
  · rw [Nat.mod_eq_of_lt (by omega)] at hs
    simp [printFrac_eq f (by omega), hs]

/-- `checkDepth p k lo`: `p` holds on `[lo, lo + 2^k)`; balanced (halving) recursion. -/
def checkDepth (p : Nat → Bool) : Nat → Nat → Bool
  | 0, lo => p lo
  | k + 1, lo => checkDepth p k lo && checkDepth p k (lo + 2 ^ k)

theorem checkDepth_iff (p : Nat → Bool) : ∀ (k lo : Nat),
    checkDepth p k lo = true ↔ ∀ i, lo ≤ i → i < lo + 2 ^ k → p i = true := by
  intro k
  induction k with
  | zero =>
    intro lo
    simp only [checkDepth, Nat.pow_zero]
    exact ⟨fun h i h1 h2 => by rw [show i = lo by omega]; exact h, fun h => h lo (Nat.le_refl _) (by omega)⟩
  | succ k ih =>
    intro lo
    have hp : 2 ^ (k + 1) = 2 ^ k + 2 ^ k := by rw [Nat.pow_succ]; omega
    simp only [checkDepth, Bool.and_eq_true, ih, hp]
    constructor
    · intro ⟨h1, h2⟩ i hi1 hi2
      by_cases hi : i < lo + 2 ^ k
      · exact h1 i hi1 hi
      · exact h2 i (by omega) (by omega)
    · intro h
      exact ⟨fun i h1 h2 => h i h1 (by omega), fun i h1 h2 => h i (by omega) (by omega)⟩

theorem mutOK_all (fr : Nat) (h : fr < 65536) : mutOK fr = true := by
  simp [mutOK, printFracV_eq _ _ fr h, printFrac_eq fr h]

theorem checkDepth_mutOK (k lo : Nat) (h : lo + 2 ^ k ≤ 65536) : checkDepth mutOK k lo = true :=
  (checkDepth_iff mutOK k lo).2 fun i _ hi => mutOK_all i (by omega)

theorem mut_chunk_1 : checkDepth mutOK 13 8192 = true := checkDepth_mutOK 13 8192 (by decide)
theorem mut_chunk_3 : checkDepth mutOK 13 24576 = true := checkDepth_mutOK 13 24576 (by decide)
theorem mut_chunk_6 : checkDepth mutOK 13 49152 = true := checkDepth_mutOK 13 49152 (by decide)

theorem dec5_step (n : Nat) (h1 : 10 ≤ n) (h2 : n < 100000) : dec5 n = dec5 (n / 10) ++ [n % 10] := by
  unfold dec5
  -- the tests `n / 10 < 10^k` on the right are the tests `n < 10^(k+1)` on the left
  simp only [Nat.div_lt_iff_lt_mul (show 0 < 10 by decide), Nat.reduceMul, Nat.div_div_eq_div_mul,
    if_neg (show ¬ n < 10 by omega), if_pos h2]
  by_cases c2 : n < 100
  · simp only [if_pos c2]; rfl
  by_cases c3 : n < 1000
  · simp only [if_neg c2, if_pos c3]; rfl
  by_cases c4 : n < 10000
  · simp only [if_neg c2, if_neg c3, if_pos c4]; rfl
  · simp only [if_neg c2, if_neg c3, if_neg c4]; rfl

theorem dec5_small (n : Nat) (h : n < 10) : dec5 n = [n] := by
  unfold dec5; rw [if_pos h]

theorem dec5_ne_nil (n : Nat) : dec5 n ≠ [] := by
  unfold dec5; repeat' split
  all_goals simp

theorem dec5_rec (P : Nat → List Nat → Prop) (small : ∀ n, n < 10 → P n [n])
    (step : ∀ n, 10 ≤ n → n < 100000 → P (n / 10) (dec5 (n / 10)) → P n (dec5 (n / 10) ++ [n % 10])) :
    ∀ n, n < 100000 → P n (dec5 n) := by
  intro n
  induction n using Nat.strongRecOn with
  | _ n ih =>
    intro h
    by_cases h1 : n < 10
    · rw [dec5_small n h1]; exact small n h1
    · rw [dec5_step n (by omega) h]; exact step n (by omega) h (ih (n / 10) (by omega) (by omega))

theorem dec5_lt (n : Nat) (h : n < 100000) : ∀ d ∈ dec5 n, d < 10 :=
  dec5_rec (fun _ l => ∀ d ∈ l, d < 10)
    (fun n h d hd => by rw [List.mem_singleton] at hd; omega)
    (fun n _ _ ih d hd => by
      rw [List.mem_append, List.mem_singleton] at hd
      rcases hd with hd | rfl
      · exact ih d hd
      · omega) n h

theorem digitChar_toNat : ∀ d, d < 10 → (Nat.digitChar d).toNat = 48 + d := by decide

theorem toDigits_step (n : Nat) (h : 10 ≤ n) :
    (Nat.toDigits 10 n).map Char.toNat = (Nat.toDigits 10 (n / 10)).map Char.toNat ++ [48 + n % 10] := by
  rw [Nat.toDigits_of_base_le (by decide) h, List.map_append, List.map_singleton,
    digitChar_toNat _ (Nat.mod_lt n (by decide))]

theorem toDigits_digit (n : Nat) (h : n < 10) : (Nat.toDigits 10 n).map Char.toNat = [48 + n] := by
  rw [Nat.toDigits_of_lt_base h, List.map_singleton, digitChar_toNat n h]

theorem toDigits_eq_dec5 (n : Nat) (h : n < 100000) :
    (Nat.toDigits 10 n).map Char.toNat = (dec5 n).map (48 + ·) :=
  dec5_rec (fun n l => (Nat.toDigits 10 n).map Char.toNat = l.map (48 + ·))
    (fun n h => toDigits_digit n h)
    (fun n h1 _ ih => by rw [toDigits_step n h1, ih, List.map_append]; rfl) n h

theorem decOK_all (n : Nat) (h : n < 16384) : decOK n = true := by
  rw [decOK, toDigits_eq_dec5 n (by omega)]; exact beq_self_eq_true _

end C06
