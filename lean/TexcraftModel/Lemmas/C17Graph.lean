import TexcraftModel.Model.C17
import TexcraftModel.Util.Assoc
/-! The graph theory of the next-larger chains (C17), free of the algorithm. The main fact: once
the largest node of every cycle has lost its link (`cutNxt`), no walk in a finite functional graph
has more steps than the graph has edges: a longer one passes some node twice (pigeonhole), and the
largest node of that closed walk is one that `isCut` marks. `Topo`: a duplicate-free list in which
every node stands after its predecessors (what Kahn's algorithm in `C17NLLoop` builds) carries no
closed walk. -/
namespace C17

theorem it_add (s : Nat → Option Nat) (a b c : Nat) :
    it s (a + b) c = (it s a c).bind (it s b) := by
  induction b with
  | zero => simp [it]
  | succ b ih =>
    have : a + (b + 1) = (a + b) + 1 := by omega
    rw [this, it, ih, Option.bind_assoc]
    rfl

theorem it_succ_left (s : Nat → Option Nat) (k c : Nat) : it s (k + 1) c = (s c).bind (it s k) := by
  rw [Nat.add_comm, it_add]
  simp [it]

theorem it_succ_some {s : Nat → Option Nat} {m c y : Nat} :
    it s (m + 1) c = some y ↔ ∃ z, it s m c = some z ∧ s z = some y :=
  Option.bind_eq_some_iff

theorem it_prefix (s : Nat → Option Nat) {n c y : Nat} (h : it s n c = some y) {m : Nat}
    (hm : m ≤ n) : ∃ z, it s m c = some z := by
  obtain ⟨b, rfl⟩ := Nat.le.dest hm
  rw [it_add] at h
  cases h' : it s m c with
  | none => simp [h'] at h
  | some z => exact ⟨z, rfl⟩

theorem it_add_some {s : Nat → Option Nat} {a c z : Nat} (h : it s a c = some z) (b : Nat) :
    it s (a + b) c = it s b z := by
  rw [it_add, h]; rfl

theorem it_mod (s : Nat → Option Nat) (p c : Nat) (hp : 1 ≤ p) (h : it s p c = some c) (m : Nat) :
    it s m c = it s (m % p) c := by
  induction m using Nat.strongRecOn with
  | _ m ih =>
    by_cases hm : m < p
    · rw [Nat.mod_eq_of_lt hm]
    · rw [Nat.mod_eq_sub_mod (Nat.le_of_not_lt hm), ← ih (m - p) (by omega), ← it_add_some h (m - p),
        Nat.add_sub_cancel' (Nat.le_of_not_lt hm)]

theorem it_mono {s s' : Nat → Option Nat} (h : ∀ a b, s a = some b → s' a = some b) {m c y : Nat}
    (hy : it s m c = some y) : it s' m c = some y := by
  induction m generalizing y with
  | zero => exact hy
  | succ m ih =>
    obtain ⟨z, hz, hzy⟩ := it_succ_some.1 hy
    exact it_succ_some.2 ⟨z, ih hz, h z y hzy⟩

theorem it_agree (s s' : Nat → Option Nat) (c : Nat) : ∀ m,
    (∀ k z, k < m → it s k c = some z → s' z = s z) → it s' m c = it s m c := by
  intro m
  induction m with
  | zero => intro _; rfl
  | succ m ih =>
    intro h
    rw [it, it, ih fun k z hk => h k z (Nat.lt_succ_of_lt hk)]
    cases hz : it s m c with
    | none => rfl
    | some z => exact h m z (Nat.lt_succ_self m) hz

theorem nxt_eq (g : List (Nat × Nat)) (c : Nat) : nxt g c = g.lookup c :=
  Assoc.lookup_unique _ (fun _ => rfl) (fun _ _ _ _ => rfl) g c

theorem mem_of_nxt (g : List (Nat × Nat)) (a b : Nat) (h : nxt g a = some b) : (a, b) ∈ g :=
  Assoc.mem_of_lookup_eq_some (nxt_eq g a ▸ h)

theorem nxt_mem_keys (g : List (Nat × Nat)) (a b : Nat) (h : nxt g a = some b) :
    a ∈ g.map Prod.fst :=
  List.mem_map.2 ⟨(a, b), mem_of_nxt g a b h, rfl⟩

theorem cutNxt_cut {g : List (Nat × Nat)} {c : Nat} (h : isCut g c = true) : cutNxt g c = none :=
  if_pos h

theorem cutNxt_keep {g : List (Nat × Nat)} {c : Nat} (h : ¬ isCut g c = true) : cutNxt g c = nxt g c :=
  if_neg h

theorem cutNxt_sub (g : List (Nat × Nat)) (c d : Nat) (h : cutNxt g c = some d) : nxt g c = some d := by
  by_cases hc : isCut g c = true
  · rw [cutNxt_cut hc] at h; cases h
  · rwa [cutNxt_keep hc] at h

/-- A topological order with the latest node first: when a node was put in front, all its
predecessors under `s` were in the list already. -/
def Topo (s : Nat → Option Nat) : List Nat → Prop
  | [] => True
  | c :: t => (∀ y, s y = some c → y ∈ t) ∧ Topo s t

section
variable {s : Nat → Option Nat}

theorem Topo.mid {pre : List Nat} {c : Nat} {t : List Nat} (h : Topo s (pre ++ c :: t)) :
    ∀ y, s y = some c → y ∈ t := by
  induction pre with
  | nil => exact h.1
  | cons _ _ ih => exact ih h.2

theorem Topo.mono {s' : Nat → Option Nat} (hs : ∀ a b, s' a = some b → s a = some b) :
    ∀ {l : List Nat}, Topo s l → Topo s' l
  | [], _ => trivial
  | _ :: _, h => ⟨fun y hy => h.1 y (hs y _ hy), Topo.mono hs h.2⟩

theorem Topo.before {l pre t : List Nat} {c par : Nat} (hT : Topo s l) (hn : l.Nodup)
    (e : l = pre ++ c :: t) (hc : s c = some par) (hp : par ∈ l) : par ∈ pre := by
  subst e
  rcases List.mem_append.1 hp with h | h
  · exact h
  · -- otherwise `c`, a predecessor of `par`, comes once more after `par`
    obtain ⟨t1, t2, e2⟩ := List.append_of_mem h
    have hc2 : c ∈ t2 := Topo.mid (pre := pre ++ t1) (by rw [List.append_assoc, ← e2]; exact hT) c hc
    have hct : c ∈ t := by
      cases t1 with
      | nil => cases e2; exact hc2
      | cons _ t1 => cases e2; exact List.mem_append_right _ (List.mem_cons_of_mem _ hc2)
    exact absurd hct (List.nodup_cons.1 (List.nodup_append.1 hn).2.1).1

theorem Topo.ancestors {pre t : List Nat} {c : Nat} (hT : Topo s (pre ++ c :: t)) :
    ∀ m y, it s (m + 1) y = some c → y ∈ t := by
  intro m
  induction m generalizing pre c t with
  | zero => intro y h; exact hT.mid y (by simpa [it] using h)
  | succ m ih =>
    intro y h
    rw [it_succ_left] at h
    obtain ⟨y1, hy, h⟩ := Option.bind_eq_some_iff.1 h
    obtain ⟨t1, t2, e2⟩ := List.append_of_mem (ih hT y1 h)
    subst e2
    have : y ∈ t2 := Topo.mid (pre := pre ++ c :: t1) (by simpa using hT) y hy
    exact List.mem_append_right _ (List.mem_cons_of_mem _ this)

theorem Topo.no_cycle {l : List Nat} (hT : Topo s l) (hn : l.Nodup) (c : Nat) (hc : c ∈ l) (m : Nat) :
    it s (m + 1) c ≠ some c := by
  intro h
  obtain ⟨pre, t, e⟩ := List.append_of_mem hc
  subst e
  exact (List.nodup_cons.1 (List.nodup_append.1 hn).2.1).1 (hT.ancestors m c h)

end

theorem orbit_getElem? (g : List (Nat × Nat)) (n c k : Nat) (hk : k < n) :
    (orbit g n c)[k]? = it (nxt g) (k + 1) c := by
  fun_induction orbit g n c generalizing k with
  | case1 => omega
  | case2 n c h => rw [it_succ_left, h]; rfl
  | case3 n c d h ih =>
    rw [it_succ_left, h, Option.bind_some]
    cases k with
    | zero => rfl
    | succ k => exact ih k (by omega)

theorem length_orbit_le (g : List (Nat × Nat)) (n c : Nat) : (orbit g n c).length ≤ n := by
  fun_induction orbit g n c <;> simp <;> omega

theorem takeWhile_ne (l : List Nat) (c : Nat) : l.takeWhile (· != c) = l.take (l.idxOf c) := by
  rw [List.takeWhile_eq_take_findIdx_not, List.idxOf]
  congr 2
  funext a
  rw [bne, Bool.not_not]

theorem idxOf_le_of_getElem? (l : List Nat) (c i : Nat) (h : l[i]? = some c) : l.idxOf c ≤ i := by
  refine Nat.le_of_not_lt fun hlt => ?_
  have := List.not_of_lt_findIdx (p := (· == c)) (xs := l) hlt
  rw [(List.getElem?_eq_some_iff.1 h).2] at this
  simp at this

theorem isCut_iff (g : List (Nat × Nat)) (c : Nat) : isCut g c = true ↔
    ∃ p, 1 ≤ p ∧ p ≤ g.length ∧ it (nxt g) p c = some c ∧
      ∀ m y, m < p → it (nxt g) m c = some y → y ≤ c := by
  simp only [isCut, Bool.and_eq_true, List.contains_iff_mem, List.all_eq_true, decide_eq_true_eq,
    takeWhile_ne]
  -- position `k` of the orbit holds the iterate `k + 1`; the first `c` sits at `idxOf c`
  have hget := orbit_getElem? g g.length c
  constructor
  · rintro ⟨hmem, hle⟩
    have hi := List.idxOf_lt_length_iff.2 hmem
    have hlen := length_orbit_le g g.length c
    refine ⟨(orbit g g.length c).idxOf c + 1, by omega, by omega, ?_, ?_⟩
    · rw [← hget _ (by omega), List.getElem?_eq_getElem hi, List.getElem_idxOf hi]
    · intro m y hm hy
      cases m with
      | zero => cases hy; exact Nat.le_refl _
      | succ m =>
        rw [← hget m (by omega)] at hy
        exact hle y (List.mem_of_getElem? (i := m) (by rw [List.getElem?_take_of_lt (by omega)]; exact hy))
  · rintro ⟨p, p1, p2, p3, p4⟩
    have hc : (orbit g g.length c)[p - 1]? = some c := by
      rw [hget _ (by omega), Nat.sub_add_cancel p1, p3]
    refine ⟨List.mem_of_getElem? hc, ?_⟩
    intro z hz
    obtain ⟨j, hj⟩ := List.getElem?_of_mem hz
    have hjlt : j < _ := (List.getElem?_eq_some_iff.1 hj).1
    rw [List.length_take] at hjlt
    have := idxOf_le_of_getElem? _ c _ hc
    rw [List.getElem?_take_of_lt (by omega), hget j (by omega)] at hj
    exact p4 (j + 1) z (by omega) hj

theorem isCut_all_le (g : List (Nat × Nat)) (c : Nat) (h : isCut g c = true) :
    ∀ m y, it (nxt g) m c = some y → y ≤ c := by
  obtain ⟨p, p1, _, p2, p3⟩ := (isCut_iff g c).1 h
  intro m y hy
  rw [it_mod _ p c p1 p2] at hy
  exact p3 _ y (Nat.mod_lt _ p1) hy

theorem exists_max (f : Nat → Nat) (n : Nat) (h : 0 < n) : ∃ k0, k0 < n ∧ ∀ k, k < n → f k ≤ f k0 := by
  cases hm : ((List.range n).map f).max? with
  | none =>
    simp only [List.max?_eq_none_iff, List.map_eq_nil_iff, List.range_eq_nil] at hm
    omega
  | some a =>
    obtain ⟨ha, hle⟩ := List.max?_eq_some_iff.1 hm
    obtain ⟨k0, hk0, rfl⟩ := List.mem_map.1 ha
    exact ⟨k0, List.mem_range.1 hk0, fun k hk => hle _ (List.mem_map.2 ⟨k, List.mem_range.2 hk, rfl⟩)⟩

theorem closed_max (s : Nat → Option Nat) (c p : Nat) (hp : 1 ≤ p) (hc : it s p c = some c) :
    ∃ k w, k < p ∧ it s k c = some w ∧ it s p w = some w ∧ ∀ m y, it s m w = some y → y ≤ w := by
  let f : Nat → Nat := fun k => (it s k c).getD 0
  have hf : ∀ k, k < p → it s k c = some (f k) := by
    intro k hk
    obtain ⟨z, hz⟩ := it_prefix s hc (Nat.le_of_lt hk)
    simp [f, hz]
  obtain ⟨k0, hk0, hmax⟩ := exists_max f p hp
  refine ⟨k0, f k0, hk0, hf k0 hk0, ?_, ?_⟩
  · rw [← it_add_some (hf k0 hk0) p, Nat.add_comm, it_add_some hc k0]
    exact hf k0 hk0
  · -- a successor of `f k0` is a node of the walk: reduce the number of steps modulo `p`
    intro m y hy
    rw [← it_add_some (hf k0 hk0) m, it_mod s p c hp hc, hf _ (Nat.mod_lt _ hp)] at hy
    cases hy
    exact hmax _ (Nat.mod_lt _ hp)

theorem pigeon (ks : List Nat) (f : Nat → Nat) (n : Nat) (hn : ks.length < n)
    (hf : ∀ m, m < n → f m ∈ ks) : ∃ i j, i < j ∧ j < n ∧ f i = f j := by
  apply Classical.byContradiction
  intro hno
  have hnd : ((List.range n).map f).Nodup := by
    rw [List.nodup_iff_pairwise_ne, List.pairwise_iff_getElem]
    intro a b ha hb hab e
    simp only [List.length_map, List.length_range] at ha hb
    simp only [List.getElem_map, List.getElem_range] at e
    exact hno ⟨a, b, hab, hb, e⟩
  have hsub : (List.range n).map f ⊆ ks := by
    intro x hx
    simp only [List.mem_map, List.mem_range] at hx
    obtain ⟨m, hm, rfl⟩ := hx
    exact hf m hm
  have := hnd.length_le_of_subset hsub
  simp at this
  omega

theorem it_repeat (s : Nat → Option Nat) (ks : List Nat) (c n : Nat) (hn : ks.length < n)
    (h : ∀ m, m < n → ∃ y ∈ ks, it s m c = some y) :
    ∃ i p z, 1 ≤ p ∧ i + p < n ∧ it s i c = some z ∧ it s p z = some z := by
  let f : Nat → Nat := fun k => (it s k c).getD 0
  have hf : ∀ k, k < n → f k ∈ ks ∧ it s k c = some (f k) := by
    intro k hk
    obtain ⟨y, hy, e⟩ := h k hk
    simp [f, e, hy]
  obtain ⟨i, j, hij, hj, he⟩ := pigeon ks f n hn (fun m hm => (hf m hm).1)
  refine ⟨i, j - i, f i, by omega, by omega, (hf i (by omega)).2, ?_⟩
  rw [← it_add_some (hf i (by omega)).2 (j - i), Nat.add_sub_cancel' (Nat.le_of_lt hij), (hf j hj).2, he]

theorem no_long_walk (g : List (Nat × Nat)) (c : Nat) : it (cutNxt g) (g.length + 1) c = none := by
  cases hN : it (cutNxt g) (g.length + 1) c with
  | none => rfl
  | some y =>
    exfalso
    have hkeys : ∀ m, m < g.length + 1 → ∃ y ∈ g.map Prod.fst, it (cutNxt g) m c = some y := by
      intro m hm
      obtain ⟨z', hz'⟩ := it_prefix _ hN (Nat.succ_le_of_lt hm)
      obtain ⟨z, hz, hzz'⟩ := it_succ_some.1 hz'
      exact ⟨z, nxt_mem_keys g z z' (cutNxt_sub g z z' hzz'), hz⟩
    -- a closed walk of the cut graph, and on it a node that `isCut` marks: it has no link there
    obtain ⟨i, p, z, hp, hip, _, hz⟩ := it_repeat (cutNxt g) _ c _ (by simp) hkeys
    obtain ⟨k, w, _, _, hw, hmax⟩ := closed_max (cutNxt g) z p hp hz
    have hcut : isCut g w = true := by
      refine (isCut_iff g w).2 ⟨p, hp, by omega, it_mono (cutNxt_sub g) hw, ?_⟩
      intro m y hm hy
      obtain ⟨y', hy'⟩ := it_prefix _ hw (Nat.le_of_lt hm)
      rw [it_mono (cutNxt_sub g) hy'] at hy
      cases hy
      exact hmax m y hy'
    rw [← Nat.sub_add_cancel hp, it_succ_left, cutNxt_cut hcut] at hw
    cases hw

theorem it_chain_length (g : List (Nat × Nat)) (n c : Nat) :
    ∃ y, it (cutNxt g) (chain g n c).length c = some y := by
  fun_induction chain g n c with
  | case1 c => exact ⟨c, rfl⟩
  | case2 _ c h => exact ⟨c, rfl⟩
  | case3 _ c d h ih =>
    obtain ⟨y, hy⟩ := ih
    exact ⟨y, by rw [List.length_cons, it_succ_left, h]; exact hy⟩

theorem chain_length_le (g : List (Nat × Nat)) (n c : Nat) : (chain g n c).length ≤ g.length := by
  refine Nat.le_of_not_lt fun h => ?_
  obtain ⟨y, hy⟩ := it_chain_length g n c
  obtain ⟨z, hz⟩ := it_prefix _ hy h
  rw [no_long_walk] at hz
  simp at hz

theorem chain_stops (g : List (Nat × Nat)) (n c : Nat) (hlt : (chain g n c).length < n) :
    cutNxt g ((chain g n c).getLastD c) = none := by
  fun_induction chain g n c with
  | case1 => simp at hlt
  | case2 _ c h => exact h
  | case3 n c d h ih =>
    have := ih (by simpa using hlt)
    simpa [List.getLast?_cons] using this

theorem chain_links (g : List (Nat × Nat)) (n c : Nat) : Linked (cutNxt g) (c :: chain g n c) := by
  fun_induction chain g n c with
  | case1 => trivial
  | case2 => trivial
  | case3 _ c d h ih => exact ⟨h, ih⟩

theorem linked_mono {s s' : Nat → Option Nat} (h : ∀ a b, s a = some b → s' a = some b) :
    ∀ {l : List Nat}, Linked s l → Linked s' l
  | [], _ => trivial
  | [_], _ => trivial
  | _ :: _ :: _, hl => ⟨h _ _ hl.1, linked_mono h hl.2⟩

theorem chain_stable (g : List (Nat × Nat)) (n c : Nat) (hlt : (chain g n c).length < n) :
    chain g (n + 1) c = chain g n c := by
  fun_induction chain g n c with
  | case1 => simp at hlt
  | case2 _ c h => simp [chain, h]
  | case3 n c d h ih =>
    have := ih (by simpa using hlt)
    rw [chain]
    simp only [h, this]

theorem chain_fuel (g : List (Nat × Nat)) (c : Nat) {n : Nat} (h : g.length + 1 ≤ n) :
    chain g n c = nlGet g c := by
  induction h with
  | refl => rfl
  | @step n h ih => rw [chain_stable g n c (Nat.lt_of_le_of_lt (chain_length_le g n c) h), ih]

theorem nxt_filter_key (g : List (Nat × Nat)) (q : Nat → Bool) (c : Nat) :
    nxt (g.filter (fun e => q e.1)) c = if q c = true then nxt g c else none := by
  rw [nxt_eq, nxt_eq, Assoc.lookup_filter_key]

theorem nxt_cutList (g : List (Nat × Nat)) (c : Nat) : nxt (cutList g) c = cutNxt g c := by
  rw [cutList, nxt_filter_key g (fun a => !isCut g a) c, cutNxt]
  cases isCut g c <;> rfl

theorem chainL_eq_chain (cl g : List (Nat × Nat)) (h : ∀ c, nxt cl c = cutNxt g c) :
    ∀ n c, chainL cl n c = chain g n c := by
  intro n c
  fun_induction chain g n c with
  | case1 => rfl
  | case2 n c hc => simp only [chainL, h, hc]
  | case3 n c d hc ih => simp only [chainL, h, hc, ih]

theorem nlGetFast_eq (g : List (Nat × Nat)) (c : Nat) : nlGetFast g (cutList g) c = nlGet g c :=
  chainL_eq_chain (cutList g) g (nxt_cutList g) _ c

theorem nlLoops_some (g : List (Nat × Nat)) (c : Nat) (b : Nat × Nat)
    (h : (if isCut g c then (nxt g c).map (fun d => (c, d)) else none) = some b) :
    b.1 = c ∧ isCut g c = true ∧ nxt g c = some b.2 := by
  split at h
  · rename_i hcut
    obtain ⟨d, h1, rfl⟩ := Option.map_eq_some_iff.1 h
    exact ⟨rfl, hcut, h1⟩
  · cases h

theorem mem_nlLoops (g : List (Nat × Nat)) (n : Nat) (e : Nat × Nat) :
    e ∈ nlLoops g n ↔ e.1 ≤ n ∧ isCut g e.1 = true ∧ nxt g e.1 = some e.2 := by
  simp only [nlLoops, List.mem_filterMap, List.mem_range]
  constructor
  · rintro ⟨c, hc, hce⟩
    obtain ⟨h1, h2⟩ := nlLoops_some g c e hce
    rw [h1]
    exact ⟨by omega, h2⟩
  · rintro ⟨h1, h2, h3⟩
    exact ⟨e.1, by omega, by simp [h2, h3]⟩

theorem nlLoops_sorted (g : List (Nat × Nat)) (n : Nat) :
    (nlLoops g n).Pairwise (fun a b => a.1 < b.1) := by
  refine List.Pairwise.filterMap _ ?_ (List.pairwise_lt_range (n := n + 1))
  intro a a' haa b hb b' hb'
  rw [(nlLoops_some g a b hb).1, (nlLoops_some g a' b' hb').1]
  exact haa

end C17
