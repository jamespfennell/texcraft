import TexcraftModel.Lemmas.C18LexTok

/-! C18: the lexer inverts the printer's concrete text: `lex (renderCalls raw d cs) =
printCalls cs` for every CST whose names are words and whose numbers the language can
express — whatever the indentation depth, the layout (one line / one argument per line) and
the characters left unescaped. -/
namespace C18

/-- `Res.cons` for a whole list: the tokens `l` in front of a result. -/
def Res.prepend {α} (l : List α) : Res (List α) → Res (List α)
  | .ok t => .ok (l ++ t)
  | .err e => .err e
  | .unsupported => .unsupported

theorem Res.prepend_nil {α} (r : Res (List α)) : r.prepend [] = r := by
  cases r <;> rfl

theorem Res.cons_eq_prepend {α} (a : α) (r : Res (List α)) : r.cons a = r.prepend [a] := by
  cases r <;> rfl

theorem Res.prepend_prepend {α} (a b : List α) (r : Res (List α)) :
    (r.prepend b).prepend a = r.prepend (a ++ b) := by
  cases r <;> simp [Res.prepend]

theorem Res.cons_prepend {α} (a : α) (l : List α) (r : Res (List α)) :
    (r.prepend l).cons a = r.prepend (a :: l) := by
  cases r <;> rfl

mutual
/-- The leaves of a CST are values the text level can carry. -/
def valOk : Val → Bool
  | .int n => intOk n
  | .dim s => dimOk s
  | .inf s _ => intOk s
  | .str _ => true
  | .list cs => callsOk cs
def argOk : Arg → Bool
  | .mk none v => valOk v
  | .mk (some k) v => isWord k && valOk v
def argsOk : List Arg → Bool
  | [] => true
  | a :: r => argOk a && argsOk r
def callOk : Call → Bool
  | .mk name args => isWord name && argsOk args
/-- A printable CST: every function and argument name is a word, every leaf is `valOk`. -/
def callsOk : List Call → Bool
  | [] => true
  | c :: r => callOk c && callsOk r
end

/-- What may follow a value: text that continues neither a number nor a word (in the printed
text `,` or `)`, see `afterVal_comma`, `afterVal_rparen`). -/
def AfterVal (rest : List Char) : Prop := Terminated rest ∧ WordEnd rest

theorem afterVal_comma (r : List Char) : AfterVal (',' :: r) :=
  ⟨⟨by decide, by decide, by decide⟩, ⟨by decide, by decide⟩⟩
theorem afterVal_rparen (r : List Char) : AfterVal (')' :: r) :=
  ⟨⟨by decide, by decide, by decide⟩, ⟨by decide, by decide⟩⟩

theorem wordEnd_lparen (r : List Char) : WordEnd ('(' :: r) := ⟨by decide, by decide⟩
theorem wordEnd_eq (r : List Char) : WordEnd ('=' :: r) := ⟨by decide, by decide⟩

mutual
theorem lex_renderVal (H : ScaledRoundTrip) (raw : Char → Bool) : ∀ (v : Val) (d : Nat) (rest : List Char),
    valOk v = true → AfterVal rest →
    lex (renderVal raw d v ++ rest) = (lex rest).prepend (printVal v)
  | .int n, d, rest, hv, hr => by
    simp only [valOk] at hv
    simp only [renderVal, printVal]
    rw [lex_int n rest (intOk_range hv) hr.1, Res.cons_eq_prepend]
  | .dim s, d, rest, hv, hr => by
    simp only [valOk] at hv
    simp only [renderVal, printVal]
    rw [lex_dim H s rest (dimOk_range hv) hr.2, Res.cons_eq_prepend]
  | .inf s o, d, rest, hv, hr => by
    simp only [valOk] at hv
    simp only [renderVal, printVal, List.append_assoc]
    rw [lex_inf H s o rest (intOk_range hv) hr.2, Res.cons_eq_prepend]
  | .str s, d, rest, hv, hr => by
    simp only [renderVal, printVal]
    rw [lex_str, Res.cons_eq_prepend]
  | .list cs, d, rest, hv, hr => by
    simp only [valOk] at hv
    simp only [renderVal, printVal, List.cons_append, List.append_assoc]
    rw [lex_lbrack]
    cases cs with
    | nil =>
      simp only [List.nil_append, printCalls]
      rw [lex_rbrack]
      simp only [Res.cons_eq_prepend, Res.prepend_prepend, List.cons_append, List.nil_append]
    | cons c cs' =>
      simp only [List.cons_append, List.append_assoc]
      rw [lex_newline, lex_renderCalls H raw (c :: cs') (d + 4) _ hv]
      simp only [indent]
      rw [lex_indent]
      simp only [List.nil_append]
      rw [lex_rbrack]
      simp only [Res.cons_eq_prepend, Res.prepend_prepend, List.cons_append, List.nil_append]

theorem lex_renderArg (H : ScaledRoundTrip) (raw : Char → Bool) : ∀ (a : Arg) (d : Nat) (rest : List Char),
    argOk a = true → AfterVal rest →
    lex (renderArg raw d a ++ rest) = (lex rest).prepend (printArg a)
  | .mk none v, d, rest, ha, hr => by
    simp only [argOk] at ha
    simp only [renderArg, printArg]
    exact lex_renderVal H raw v d rest ha hr
  | .mk (some k) v, d, rest, ha, hr => by
    simp only [argOk, Bool.and_eq_true] at ha
    simp only [renderArg, printArg, List.append_assoc, List.cons_append]
    rw [lex_kw k _ ha.1 (wordEnd_eq _), lex_eq, lex_renderVal H raw v d rest ha.2 hr]
    simp only [Res.cons_eq_prepend, Res.prepend_prepend, List.cons_append, List.nil_append]

theorem lex_renderArgsMulti (H : ScaledRoundTrip) (raw : Char → Bool) : ∀ (as : List Arg) (d : Nat) (rest : List Char),
    argsOk as = true →
    lex (renderArgsMulti raw d as ++ rest) = (lex rest).prepend (printArgsMulti as)
  | [], d, rest, ha => by
    simp [renderArgsMulti, printArgsMulti, Res.prepend_nil]
  | a :: r, d, rest, ha => by
    simp only [argsOk, Bool.and_eq_true] at ha
    simp only [renderArgsMulti, printArgsMulti, List.cons_append, List.append_assoc, indent]
    rw [lex_newline, lex_indent, lex_space, lex_space,
      lex_renderArg H raw a d _ ha.1 (afterVal_comma _), lex_comma,
      lex_renderArgsMulti H raw r d rest ha.2]
    simp only [Res.cons_eq_prepend, Res.prepend_prepend, List.cons_append, List.nil_append]

theorem lex_renderArgsSingle (H : ScaledRoundTrip) (raw : Char → Bool) : ∀ (as : List Arg) (d : Nat) (rest : List Char),
    argsOk as = true → AfterVal rest →
    lex (renderArgsSingle raw d as ++ rest) = (lex rest).prepend (printArgsSingle as)
  | [], d, rest, ha, hr => by
    simp [renderArgsSingle, printArgsSingle, Res.prepend_nil]
  | a :: r, d, rest, ha, hr => by
    simp only [argsOk, Bool.and_eq_true] at ha
    cases r with
    | nil =>
      simp only [renderArgsSingle, printArgsSingle, List.append_nil]
      exact lex_renderArg H raw a d rest ha.1 hr
    | cons b r' =>
      simp only [renderArgsSingle, printArgsSingle, List.cons_append, List.append_assoc]
      rw [lex_renderArg H raw a d _ ha.1 (afterVal_comma _), lex_comma, lex_space]
      have := lex_renderArgsSingle H raw (b :: r') d rest ha.2 hr
      simp only [renderArgsSingle, printArgsSingle, List.append_assoc] at this
      rw [this]
      simp only [Res.cons_eq_prepend, Res.prepend_prepend, List.cons_append, List.nil_append]

theorem lex_renderCalls (H : ScaledRoundTrip) (raw : Char → Bool) : ∀ (cs : List Call) (d : Nat) (rest : List Char),
    callsOk cs = true →
    lex (renderCalls raw d cs ++ rest) = (lex rest).prepend (printCalls cs)
  | [], d, rest, hc => by
    simp [renderCalls, printCalls, Res.prepend_nil]
  | .mk name args :: r, d, rest, hc => by
    simp only [callsOk, callOk, Bool.and_eq_true] at hc
    obtain ⟨⟨hn, ha⟩, hr⟩ := hc
    simp only [renderCalls, renderCall, printCalls, printCall, List.append_assoc, List.cons_append,
      List.nil_append, indent]
    rw [lex_indent, lex_kw name _ hn (wordEnd_lparen _), lex_lparen]
    by_cases hm : multiline args = true
    · simp only [hm, ↓reduceIte, List.append_assoc, List.cons_append]
      rw [lex_renderArgsMulti H raw args d _ ha, lex_newline, lex_indent, lex_rparen, lex_newline,
        lex_renderCalls H raw r d rest hr]
      simp only [Res.cons_eq_prepend, Res.prepend_prepend, List.cons_append, List.nil_append]
    · have hm' : multiline args = false := by simpa using hm
      simp only [hm', Bool.false_eq_true, ↓reduceIte]
      rw [lex_renderArgsSingle H raw args d _ ha (afterVal_rparen _), lex_rparen, lex_newline,
        lex_renderCalls H raw r d rest hr]
      simp only [Res.cons_eq_prepend, Res.prepend_prepend, List.cons_append, List.nil_append]
end

theorem lex_render (H : ScaledRoundTrip) (raw : Char → Bool) (cs : List Call) (hc : callsOk cs = true) :
    lex (renderCalls raw 0 cs) = .ok (printCalls cs) := by
  simpa only [List.append_nil, lex_nil, Res.prepend] using lex_renderCalls H raw cs 0 [] hc

theorem parseText_of_lex {m : Mode} {src : List Char} {toks : List BTok} {l : List Node}
    (hl : lex src = .ok toks) (hp : parseToks m toks = some l) : parseText m src = .ok l := by
  simp only [parseText, hl, hp]

end C18
