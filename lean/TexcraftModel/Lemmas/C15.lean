import TexcraftModel.Model.C15

/-! `max0` and `texOrder` characterised, the loop of `HBox::pack` computes the declarative totals,
and `hpack` and `texHpack` as an explicit box in each regime of TeX §657–§665. -/
namespace C15

theorem max0_nonneg (l : List Int) : 0 ≤ max0 l := by
  induction l with
  | nil => exact Int.le_refl 0
  | cons x l ih => exact Int.le_trans ih (Int.le_max_right _ _)

theorem le_max0 (l : List Int) : ∀ x ∈ l, x ≤ max0 l := by
  induction l with
  | nil => simp
  | cons y l ih =>
    intro x hx
    rcases List.mem_cons.mp hx with h | h
    · exact h ▸ Int.le_max_left _ _
    · exact Int.le_trans (ih x h) (Int.le_max_right _ _)

theorem max0_attained (l : List Int) : max0 l = 0 ∨ max0 l ∈ l := by
  induction l with
  | nil => exact Or.inl rfl
  | cons y l ih =>
    simp only [max0]
    rcases Int.le_total y (max0 l) with h | h
    · rw [Int.max_eq_right h]
      exact ih.imp_right (List.mem_cons_of_mem _)
    · rw [Int.max_eq_left h]; exact Or.inr List.mem_cons_self

theorem max0_map_spec {α : Type} (f : α → Int) (l : List α) :
    0 ≤ max0 (l.map f) ∧ (∀ x ∈ l, f x ≤ max0 (l.map f)) ∧
    (max0 (l.map f) = 0 ∨ ∃ x ∈ l, f x = max0 (l.map f)) :=
  ⟨max0_nonneg _, fun _ hx => le_max0 _ _ (List.mem_map_of_mem hx),
    (max0_attained _).imp_right List.mem_map.mp⟩

theorem ite_gt_eq_max (a x : Int) : (if x > a then x else a) = max a x := by omega

theorem Item.whd_cases (i : Item) :
    i.whd = some (i.natWidth, i.boxHeight, i.boxDepth) ∨
    i.whd = none ∧ i.natWidth = 0 ∧ i.boxHeight = 0 ∧ i.boxDepth = 0 := by
  cases i with
  | char w h d =>
    cases w with
    | none => exact Or.inr ⟨rfl, rfl, rfl, rfl⟩
    | some w => cases h <;> cases d <;> exact Or.inl rfl
  | inert => exact Or.inr ⟨rfl, rfl, rfl, rfl⟩
  | _ => exact Or.inl rfl

/-- `step` reads the item through `whd` only, apart from the glue arm, and that arm leaves
`natW`, `h`, `d` alone. -/
theorem step_eq (a : Acc) (i : Item) : ∃ g : Acc,
    step a i = (match i.whd with
      | none => g
      | some (w, h, d) => { g with natW := g.natW + w, h := if h > g.h then h else g.h,
                                   d := if d > g.d then d else g.d }) ∧
    g.natW = a.natW ∧ g.h = a.h ∧ g.d = a.d := by
  cases i <;> exact ⟨_, rfl, rfl, rfl, rfl⟩

/-- `max · 0` is the identity on `h`, `d ≥ 0`, which is where an item without a width needs
the hypotheses. -/
theorem step_dims (a : Acc) (i : Item) :
    (step a i).natW = a.natW + i.natWidth ∧
    (0 ≤ a.h → (step a i).h = max a.h i.boxHeight) ∧
    (0 ≤ a.d → (step a i).d = max a.d i.boxDepth) := by
  obtain ⟨g, e, e1, e2, e3⟩ := step_eq a i
  rw [e]
  rcases i.whd_cases with hw | ⟨hw, z1, z2, z3⟩
  · rw [hw]
    exact ⟨congrArg (· + _) e1, fun _ => e2 ▸ ite_gt_eq_max _ _, fun _ => e3 ▸ ite_gt_eq_max _ _⟩
  · rw [hw, z1, z2, z3, e1, e2, e3]
    exact ⟨(Int.add_zero _).symm, fun h => (Int.max_eq_left h).symm, fun h => (Int.max_eq_left h).symm⟩

theorem Totals.get_add (t : Totals) (o o' : Order) (v : Int) :
    (t.add o v).get o' = t.get o' + (if o = o' then v else 0) := by
  cases o <;> cases o' <;> simp [Totals.add, Totals.get]

theorem step_totals (a : Acc) (i : Item) (o : Order) :
    (step a i).st.get o = a.st.get o + i.stretchAt o ∧
    (step a i).sh.get o = a.sh.get o + i.shrinkAt o := by
  have idle : a.st.get o = a.st.get o + 0 ∧ a.sh.get o = a.sh.get o + 0 :=
    ⟨(Int.add_zero _).symm, (Int.add_zero _).symm⟩
  cases i with
  | glue g => exact ⟨Totals.get_add .., Totals.get_add ..⟩
  | char w h d => cases w <;> exact idle
  | _ => exact idle

/-! ### the loop: every accumulator is a sum or a maximum over the list -/

theorem loop_sum {proj : Acc → Int} {f : Item → Int} (h0 : proj {} = 0)
    (hstep : ∀ a i, proj (step a i) = proj a + f i) (l : List Item) :
    proj (loop {} l) = sum (l.map f) := by
  have gen : ∀ l a, proj (loop a l) = proj a + sum (l.map f) := by
    intro l
    induction l with
    | nil => intro a; exact (Int.add_zero _).symm
    | cons i l ih =>
      intro a
      show proj (loop (step a i) l) = proj a + (f i + sum (l.map f))
      rw [ih, hstep, Int.add_assoc]
  rw [gen, h0, Int.zero_add]

theorem loop_max {proj : Acc → Int} {f : Item → Int} (h0 : proj {} = 0)
    (hstep : ∀ a i, 0 ≤ proj a → proj (step a i) = max (proj a) (f i)) (l : List Item) :
    proj (loop {} l) = max0 (l.map f) := by
  have gen : ∀ l a, 0 ≤ proj a → proj (loop a l) = max (proj a) (max0 (l.map f)) := by
    intro l
    induction l with
    | nil => intro a ha; exact (Int.max_eq_left ha).symm
    | cons i l ih =>
      intro a ha
      have h1 := hstep a i ha
      have h2 : 0 ≤ proj (step a i) := by rw [h1]; omega
      show proj (loop (step a i) l) = max (proj a) (max (f i) (max0 (l.map f)))
      rw [ih _ h2, h1, Int.max_assoc]
  rw [gen _ _ (Int.le_of_eq h0.symm), h0, Int.max_eq_right (max0_nonneg _)]

theorem loop_init (l : List Item) :
    (loop {} l).natW = natWidth l ∧ (loop {} l).h = boxHeight l ∧ (loop {} l).d = boxDepth l ∧
    (loop {} l).st.get = totalStretch l ∧ (loop {} l).sh.get = totalShrink l :=
  ⟨loop_sum (proj := Acc.natW) rfl (fun a i => (step_dims a i).1) l,
    loop_max (proj := Acc.h) rfl (fun a i => (step_dims a i).2.1) l,
    loop_max (proj := Acc.d) rfl (fun a i => (step_dims a i).2.2) l,
    funext fun o => loop_sum (proj := fun a => a.st.get o) (by cases o <;> rfl)
      (fun a i => (step_totals a i o).1) l,
    funext fun o => loop_sum (proj := fun a => a.sh.get o) (by cases o <;> rfl)
      (fun a i => (step_totals a i o).2) l⟩

theorem dominating_eq (t : Totals) : t.dominating = texOrder t.get := rfl

theorem hpack_eq (l : List Item) (pw : PackWidth) :
    hpack l pw =
      setGlue (boxHeight l) (boxDepth l) (natWidth l)
        (totalStretch l (texOrder (totalStretch l))) (texOrder (totalStretch l))
        (totalShrink l (texOrder (totalShrink l))) (texOrder (totalShrink l)) pw := by
  obtain ⟨h1, h2, h3, h4, h5⟩ := loop_init l
  unfold hpack finish
  simp only [dominating_eq, h1, h2, h3, h4, h5]

section
variable (h d n st : Int) (so : Order) (sh : Int) (sho : Order) (pw : PackWidth)

theorem setGlue_dims :
    (setGlue h d n st so sh sho pw).height = h ∧ (setGlue h d n st so sh sho pw).depth = d ∧
    (setGlue h d n st so sh sho pw).width = pw.width n := by
  simp only [setGlue, apply_ite HBox.height, apply_ite HBox.depth, apply_ite HBox.width, ite_self,
    and_self]

theorem setGlue_shrink_unset (hx : pw.width n - n < 0) (hs : sh = 0) :
    setGlue h d n st so sh sho pw = ⟨h, pw.width n, d, sho, 0, ONE⟩ := by
  simp [setGlue, hx, hs]

end

section
variable {h d n st : Int} {so : Order} {sh : Int} {sho : Order} {pw : PackWidth}

theorem setGlue_exact (hx : pw.width n - n = 0) :
    setGlue h d n st so sh sho pw = ⟨h, pw.width n, d, .normal, 0, 1⟩ := by
  simp [setGlue, hx]

theorem setGlue_stretch (hx : 0 < pw.width n - n) (hs : st ≠ 0) :
    setGlue h d n st so sh sho pw = ⟨h, pw.width n, d, so, pw.width n - n, st⟩ := by
  simp [setGlue, Int.lt_asymm hx, Int.ne_of_gt hx, hs]

theorem setGlue_stretch_unset (hx : 0 < pw.width n - n) (hs : st = 0) :
    setGlue h d n st so sh sho pw = ⟨h, pw.width n, d, .normal, 0, 1⟩ := by
  simp [setGlue, Int.lt_asymm hx, Int.ne_of_gt hx, hs]

theorem setGlue_overfull (hx : pw.width n - n < 0) (ho : sho = .normal) (hlt : sh < -(pw.width n - n))
    (hs : sh ≠ 0) : setGlue h d n st so sh sho pw = ⟨h, pw.width n, d, .normal, -ONE, ONE⟩ := by
  simp [setGlue, hx, ho, hlt, hs]

theorem setGlue_shrink (hx : pw.width n - n < 0) (hno : ¬ (sho = .normal ∧ sh < -(pw.width n - n)))
    (hs : sh ≠ 0) : setGlue h d n st so sh sho pw = ⟨h, pw.width n, d, sho, pw.width n - n, sh⟩ := by
  simp [setGlue, hx, hno, hs]

end

theorem Order.toNat_eq_zero (o : Order) : o.toNat = 0 ↔ o = .normal := by
  cases o <;> simp [Order.toNat]

theorem texOrder_highest (f : Order → Int) : IsHighestNonzero f (texOrder f) := by
  unfold texOrder
  by_cases h3 : f .filll ≠ 0
  · rw [if_pos h3]
    exact ⟨Or.inl h3, fun o' ho' => by cases o' <;> exact absurd ho' (by decide)⟩
  rw [if_neg h3]
  replace h3 : f .filll = 0 := Decidable.not_not.mp h3
  by_cases h2 : f .fill ≠ 0
  · rw [if_pos h2]
    refine ⟨Or.inl h2, fun o' ho' => ?_⟩
    cases o' with
    | filll => exact h3
    | _ => exact absurd ho' (by decide)
  rw [if_neg h2]
  replace h2 : f .fill = 0 := Decidable.not_not.mp h2
  by_cases h1 : f .fil ≠ 0
  · rw [if_pos h1]
    refine ⟨Or.inl h1, fun o' ho' => ?_⟩
    cases o' with
    | filll => exact h3
    | fill => exact h2
    | _ => exact absurd ho' (by decide)
  rw [if_neg h1]
  refine ⟨Or.inr rfl, fun o' ho' => ?_⟩
  cases o' with
  | filll => exact h3
  | fill => exact h2
  | fil => exact Decidable.not_not.mp h1
  | normal => exact absurd ho' (by decide)

theorem texOrder_zero (f : Order → Int) (h : f (texOrder f) = 0) : texOrder f = .normal :=
  (texOrder_highest f).1.resolve_left (fun hne => hne h)

theorem hpack_dims (l : List Item) (pw : PackWidth) :
    (hpack l pw).height = boxHeight l ∧ (hpack l pw).depth = boxDepth l ∧
    (hpack l pw).width = pw.width (natWidth l) := by
  rw [hpack_eq]; exact setGlue_dims ..

section regimes
variable {l : List Item} {pw : PackWidth}

theorem hpack_exact (hx : excess l pw = 0) :
    hpack l pw = ⟨boxHeight l, pw.width (natWidth l), boxDepth l, .normal, 0, 1⟩ := by
  rw [hpack_eq]; exact setGlue_exact hx

theorem hpack_stretch (hx : 0 < excess l pw) (hs : totalStretch l (texOrder (totalStretch l)) ≠ 0) :
    hpack l pw = ⟨boxHeight l, pw.width (natWidth l), boxDepth l, texOrder (totalStretch l),
      excess l pw, totalStretch l (texOrder (totalStretch l))⟩ := by
  rw [hpack_eq]; exact setGlue_stretch hx hs

theorem hpack_stretch_unset (hx : 0 < excess l pw)
    (hs : totalStretch l (texOrder (totalStretch l)) = 0) :
    hpack l pw = ⟨boxHeight l, pw.width (natWidth l), boxDepth l, .normal, 0, 1⟩ := by
  rw [hpack_eq]; exact setGlue_stretch_unset hx hs

theorem hpack_overfull (hov : Overfull l pw) (hs : totalShrink l .normal ≠ 0) :
    hpack l pw = ⟨boxHeight l, pw.width (natWidth l), boxDepth l, .normal, -ONE, ONE⟩ := by
  obtain ⟨hx, ho, hlt⟩ := hov
  rw [hpack_eq, ho]; exact setGlue_overfull hx rfl hlt hs

theorem hpack_shrink_unset (hx : excess l pw < 0)
    (hs : totalShrink l (texOrder (totalShrink l)) = 0) :
    hpack l pw = ⟨boxHeight l, pw.width (natWidth l), boxDepth l, .normal, 0, ONE⟩ := by
  rw [hpack_eq, setGlue_shrink_unset _ _ _ _ _ _ _ _ hx hs, texOrder_zero _ hs]

theorem hpack_shrink (hx : excess l pw < 0) (hov : ¬ Overfull l pw)
    (hs : totalShrink l (texOrder (totalShrink l)) ≠ 0) :
    hpack l pw = ⟨boxHeight l, pw.width (natWidth l), boxDepth l, texOrder (totalShrink l),
      excess l pw, totalShrink l (texOrder (totalShrink l))⟩ := by
  rw [hpack_eq]
  exact setGlue_shrink hx (fun hc => hov ⟨hx, hc.1, hc.1 ▸ hc.2⟩) hs

theorem hpack_order_pos (hx : 0 < excess l pw) : (hpack l pw).order = texOrder (totalStretch l) := by
  by_cases hs : totalStretch l (texOrder (totalStretch l)) = 0
  · rw [hpack_stretch_unset hx hs, texOrder_zero _ hs]
  · rw [hpack_stretch hx hs]

theorem hpack_order_neg (hx : excess l pw < 0) : (hpack l pw).order = texOrder (totalShrink l) := by
  by_cases hs : totalShrink l (texOrder (totalShrink l)) = 0
  · rw [hpack_shrink_unset hx hs, texOrder_zero _ hs]
  · by_cases hov : Overfull l pw
    · rw [hpack_overfull hov (hov.2.1 ▸ hs), hov.2.1]
    · rw [hpack_shrink hx hov hs]

theorem width_sub_natWidth (l : List Item) (pw : PackWidth) :
    pw.width (natWidth l) - natWidth l = excess l pw := rfl

theorem texHpack_exact (hx : excess l pw = 0) :
    texHpack l pw = ⟨boxHeight l, pw.width (natWidth l), boxDepth l, .normal, .normal, 0, 1⟩ := by
  simp [texHpack, width_sub_natWidth, hx]

theorem texHpack_stretch (hx : 0 < excess l pw) (hs : totalStretch l (texOrder (totalStretch l)) ≠ 0) :
    texHpack l pw = ⟨boxHeight l, pw.width (natWidth l), boxDepth l, .stretching,
      texOrder (totalStretch l), excess l pw, totalStretch l (texOrder (totalStretch l))⟩ := by
  simp [texHpack, width_sub_natWidth, Int.ne_of_gt hx, hx, hs]

theorem texHpack_stretch_unset (hx : 0 < excess l pw)
    (hs : totalStretch l (texOrder (totalStretch l)) = 0) :
    texHpack l pw = ⟨boxHeight l, pw.width (natWidth l), boxDepth l, .normal,
      texOrder (totalStretch l), 0, 1⟩ := by
  simp [texHpack, width_sub_natWidth, Int.ne_of_gt hx, hx, hs]

/-- Shrinkability in an overfull box means a non-empty list, the condition under which §664
reports the box and sets the ratio to one. -/
theorem texHpack_overfull (hov : Overfull l pw) (hs : totalShrink l .normal ≠ 0) :
    texHpack l pw = ⟨boxHeight l, pw.width (natWidth l), boxDepth l, .shrinking, .normal, 1, 1⟩ := by
  obtain ⟨hx, ho, hlt⟩ := hov
  have hl : l ≠ [] := fun h => hs (h ▸ rfl)
  simp [texHpack, width_sub_natWidth, Int.ne_of_lt hx, Int.lt_asymm hx, ho, hlt, hs, hl]

/-- With nothing to shrink TeX leaves the glue sign normal, whether or not it calls the box
overfull (ratio one) on the way. -/
theorem texHpack_shrink_unset (hx : excess l pw < 0)
    (hs : totalShrink l (texOrder (totalShrink l)) = 0) :
    ∃ num, texHpack l pw = ⟨boxHeight l, pw.width (natWidth l), boxDepth l, .normal,
      texOrder (totalShrink l), num, 1⟩ := by
  simp only [texHpack, width_sub_natWidth, gt_iff_lt, if_neg (Int.ne_of_lt hx),
    if_neg (Int.lt_asymm hx), hs, ne_eq, not_true_eq_false, if_false]
  split
  · exact ⟨1, rfl⟩
  · exact ⟨0, rfl⟩

theorem texHpack_shrink (hx : excess l pw < 0) (hov : ¬ Overfull l pw)
    (hs : totalShrink l (texOrder (totalShrink l)) ≠ 0) :
    texHpack l pw = ⟨boxHeight l, pw.width (natWidth l), boxDepth l, .shrinking,
      texOrder (totalShrink l), -excess l pw, totalShrink l (texOrder (totalShrink l))⟩ := by
  have hno : ¬ (totalShrink l (texOrder (totalShrink l)) < -excess l pw ∧
      texOrder (totalShrink l) = .normal ∧ l ≠ []) :=
    fun hc => hov ⟨hx, hc.2.1, hc.2.1 ▸ hc.1⟩
  simp [texHpack, width_sub_natWidth, Int.ne_of_lt hx, Int.lt_asymm hx, hs, hno]

end regimes

theorem ONE_ne_zero : ONE ≠ 0 := by decide

theorem sum_map_zero (l : List Item) (f : Item → Int) (h : ∀ i ∈ l, f i = 0) : sum (l.map f) = 0 := by
  induction l with
  | nil => rfl
  | cons i l ih =>
    simp only [List.map, sum]
    rw [h i List.mem_cons_self, ih (fun j hj => h j (List.mem_cons_of_mem _ hj))]; rfl

theorem natWidth_append (l₁ l₂ : List Item) : natWidth (l₁ ++ l₂) = natWidth l₁ + natWidth l₂ := by
  induction l₁ with
  | nil => exact (Int.zero_add _).symm
  | cons i l ih =>
    show i.natWidth + natWidth (l ++ l₂) = i.natWidth + natWidth l + natWidth l₂
    rw [ih, Int.add_assoc]

theorem fill_key (n w t : Int) : n * t + (w - n) * t = w * t := by
  rw [← Int.add_mul]; congr 1; omega

end C15
