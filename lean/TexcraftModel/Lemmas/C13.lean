import TexcraftModel.Lemmas.C13Walk

/-! C13: what `build` puts into the trie. Loading a pattern or an exception is `addItem` of an
`Item` (`build_eq`), and after any list of items a vertex holds the stream of the newest item with
its key (`Inv`, `val_eq`). Then what those streams decode to: a pattern's is `patOps_stream` of
`C13Ops`, an exception's comes from `excScan_sem` (`excItem_*`). -/
namespace C13

/-- What one `load_patterns` iteration or one `insert_exception` call adds: a trie key and an op
stream. -/
structure Item where
  key : List Edge
  ops : List Nat

/-- `loadPattern` / `insertException` without the `holds_exception` test. -/
def addItem (h : Hyph) (it : Item) : Hyph :=
  { data := h.data ++ it.ops,
    trie := if it.key = [] then h.trie else (it.key, h.data.length) :: h.trie }

def patItem (p : List Char) : Item := ⟨(patOps p).2, (patOps p).1⟩
def excItem (e : List Char) : Item :=
  ⟨(excScan e [excNo] [.start]).2 ++ [.stop], (excScan e [excNo] [.start]).1 ++ [10]⟩

theorem lookup_addItem (h : Hyph) (it : Item) (π : List Edge) :
    lookup (addItem h it).trie π
      = if it.key ≠ [] ∧ it.key = π then some h.data.length else lookup h.trie π := by
  unfold addItem
  by_cases hk : it.key = []
  · simp [hk]
  · simp [hk, lookup]

theorem patItem_stream (p : List Char) : PatStream p (patItem p).ops := patOps_stream p

theorem patOps_head (p : List Char) :
    ∃ x rest, (patItem p).ops = x :: rest ∧ x % 16 < 12 :=
  (patItem_stream p).head

/-- Every value in the trie points into the data, at a pattern's stream. -/
def PatOnly (h : Hyph) : Prop :=
  ∀ π o, lookup h.trie π = some o → o < h.data.length ∧ isExcAt h.data o = false

theorem patOnly_empty : PatOnly {} := by intro π o h; simp [lookup] at h

theorem patOnly_holdsExc (h : Hyph) (hp : PatOnly h) (π : List Edge) : holdsExc h π = false := by
  unfold holdsExc
  cases hl : lookup h.trie π with
  | none => rfl
  | some o => exact (hp π o hl).2

theorem loadPattern_of_not_holdsExc (h : Hyph) (p : List Char)
    (hf : holdsExc h (patOps p).2 = false) : loadPattern h p = addItem h (patItem p) := by
  by_cases hk : (patOps p).2 = [] <;> simp [loadPattern, addItem, patItem, hf, hk]

/-- While only patterns have been loaded the `holds_exception` test never fires. -/
theorem loadPattern_eq (h : Hyph) (p : List Char) (hp : PatOnly h) :
    loadPattern h p = addItem h (patItem p) :=
  loadPattern_of_not_holdsExc h p (patOnly_holdsExc h hp _)

theorem insertException_eq (h : Hyph) (e : List Char) :
    insertException h e = addItem h (excItem e) := by
  simp [insertException, addItem, excItem]

theorem insertExceptions_eq (h : Hyph) (es : List (List Char)) :
    insertExceptions h es = (es.map excItem).foldl addItem h := by
  simp only [insertExceptions, List.foldl_map, ← insertException_eq]

/-- The items `build ps es` adds, in order. -/
def itemsOf (ps es : List (List Char)) : List Item := ps.map patItem ++ es.map excItem

theorem mem_itemsOf {ps es : List (List Char)} {it : Item} :
    it ∈ itemsOf ps es ↔ (∃ p ∈ ps, patItem p = it) ∨ ∃ e ∈ es, excItem e = it := by
  simp only [itemsOf, List.mem_append, List.mem_map]

def buildItems (its : List Item) : Hyph := its.foldl addItem {}

theorem buildItems_concat (its : List Item) (it : Item) :
    buildItems (its ++ [it]) = addItem (buildItems its) it := by
  simp [buildItems, List.foldl_append]

/-- The last item with key `π`. -/
def newest : List Item → List Edge → Option Item
  | [], _ => none
  | it :: r, π =>
    match newest r π with
    | some x => some x
    | none => if it.key = π then some it else none

theorem newest_eq_find (l : List Item) (π : List Edge) :
    newest l π = l.reverse.find? (fun it => decide (it.key = π)) := by
  induction l with
  | nil => rfl
  | cons it l ih =>
    rw [newest, ih, List.reverse_cons, List.find?_append]
    cases l.reverse.find? (fun it => decide (it.key = π)) with
    | some x => rfl
    | none => by_cases hk : it.key = π <;> simp [hk]

theorem newest_append (a b : List Item) (π : List Edge) :
    newest (a ++ b) π = (newest b π).or (newest a π) := by
  simp only [newest_eq_find, List.reverse_append, List.find?_append]

theorem newest_mem (l : List Item) (π : List Edge) (it : Item) (h : newest l π = some it) :
    it ∈ l ∧ it.key = π := by
  rw [newest_eq_find] at h
  exact ⟨List.mem_reverse.1 (List.mem_of_find?_eq_some h), by simpa using List.find?_some h⟩

theorem newest_eq_none_iff (l : List Item) (π : List Edge) :
    newest l π = none ↔ ∀ it ∈ l, it.key ≠ π := by
  simp [newest_eq_find]

theorem newest_none (l : List Item) (π : List Edge) (h : newest l π = none) :
    ∀ it ∈ l, it.key ≠ π :=
  (newest_eq_none_iff l π).1 h

theorem newest_nodup (l : List Item) (hnd : (l.map Item.key).Nodup) (it : Item) (hit : it ∈ l) :
    newest l it.key = some it := by
  induction l with
  | nil => cases hit
  | cons x l ih =>
    simp only [List.map_cons, List.nodup_cons, List.mem_map, not_exists, not_and] at hnd
    simp only [List.mem_cons] at hit
    rcases hit with rfl | hit
    · simp only [newest]
      rw [(newest_eq_none_iff l it.key).2 (fun y hy h => hnd.1 y hy h)]
      simp
    · simp only [newest, ih hnd.2 hit]

theorem newest_comm (a b : List Item) (π : List Edge)
    (hdis : ∀ x ∈ a, ∀ y ∈ b, x.key ≠ y.key) : newest (a ++ b) π = newest (b ++ a) π := by
  rw [newest_append, newest_append]
  cases ha : newest a π with
  | none => cases newest b π <;> rfl
  | some x =>
    cases hb : newest b π with
    | none => rfl
    | some y =>
      exfalso
      obtain ⟨hx, kx⟩ := newest_mem _ _ _ ha
      obtain ⟨hy, ky⟩ := newest_mem _ _ _ hb
      exact hdis x hx y hy (by rw [kx, ky])

theorem findException_eq_find (es : List (List Char)) (lw : List Char) :
    findException es lw = es.reverse.find? (fun e => decide (stripHyphens e = lw)) := by
  induction es with
  | nil => rfl
  | cons e es ih =>
    rw [findException, ih, List.reverse_cons, List.find?_append]
    cases es.reverse.find? (fun e => decide (stripHyphens e = lw)) with
    | some x => rfl
    | none => by_cases hk : stripHyphens e = lw <;> simp [hk]

theorem findException_strip (es : List (List Char)) (ls e : List Char)
    (h : findException es ls = some e) : stripHyphens e = ls := by
  rw [findException_eq_find] at h
  simpa using List.find?_some h

theorem findException_none (es : List (List Char)) (ls : List Char)
    (h : findException es ls = none) : ∀ e ∈ es, stripHyphens e ≠ ls := by
  simpa [findException_eq_find] using h

/-- The stream ends by itself: what follows it in `Hyphenator.data` is never read. -/
def Term (ops : List Nat) : Prop := ∀ rest, decodeOps (ops ++ rest) = decodeOps ops

/-- The trie after adding `items` in order: a stored value is the offset of the stream of the newest
item with that key, and every non-empty key of an item has a value. -/
def Inv (h : Hyph) (items : List Item) : Prop :=
  (∀ π o, lookup h.trie π = some o →
    o ≤ h.data.length ∧ π ≠ [] ∧
      ∃ it rest, newest items π = some it ∧ h.data.drop o = it.ops ++ rest) ∧
  (∀ π, π ≠ [] → newest items π ≠ none → lookup h.trie π ≠ none)

theorem inv_empty : Inv {} [] := by
  constructor
  · intro π o h; simp [lookup] at h
  · intro π _ h; simp [newest] at h

theorem inv_add (h : Hyph) (items : List Item) (it : Item) (hI : Inv h items) :
    Inv (addItem h it) (items ++ [it]) := by
  have hnew : ∀ π, newest (items ++ [it]) π = if it.key = π then some it else newest items π := by
    intro π; rw [newest_append]; simp only [newest]
    by_cases hk : it.key = π <;> simp [hk]
  have hdata : (addItem h it).data = h.data ++ it.ops := rfl
  constructor
  · intro π o hl
    rw [lookup_addItem] at hl
    split at hl
    next hk =>
      cases hl
      exact ⟨by simp [hdata], hk.2 ▸ hk.1, it, [], by rw [hnew, if_pos hk.2], by simp [hdata]⟩
    next hk =>
      obtain ⟨h1, h2, it', rest, h3, h4⟩ := hI.1 π o hl
      have hne : it.key ≠ π := fun e => hk ⟨e ▸ h2, e⟩
      refine ⟨by rw [hdata, List.length_append]; omega, h2, it', rest ++ it.ops, ?_, ?_⟩
      · rw [hnew, if_neg hne, h3]
      · rw [hdata, List.drop_append_of_le_length h1, h4, List.append_assoc]
  · intro π hπ hn
    rw [lookup_addItem]
    split
    · simp
    next hk =>
      have hne : it.key ≠ π := fun e => hk ⟨e ▸ hπ, e⟩
      rw [hnew, if_neg hne] at hn
      exact hI.2 π hπ hn

theorem inv_buildItems (its : List Item) : Inv (buildItems its) its := by
  suffices ∀ (l : List Item) (h : Hyph) (done : List Item), Inv h done →
      Inv (l.foldl addItem h) (done ++ l) by
    simpa [buildItems] using this its {} [] inv_empty
  intro l
  induction l with
  | nil => intro h done hI; simpa using hI
  | cons it l ih =>
    intro h done hI
    simpa using ih (addItem h it) (done ++ [it]) (inv_add h done it hI)

/-- `holds_exception` reads the first byte of the newest stream with that key. -/
theorem holdsExc_false (h : Hyph) (its : List Item) (hI : Inv h its) (π : List Edge)
    (hπ : ∀ it ∈ its, it.key = π → ∃ x rest, it.ops = x :: rest ∧ x % 16 < 12) :
    holdsExc h π = false := by
  unfold holdsExc
  cases hl : lookup h.trie π with
  | none => rfl
  | some o =>
    obtain ⟨_, _, it, rest, hn, hdrop⟩ := hI.1 π o hl
    obtain ⟨hmem, hkey⟩ := newest_mem _ _ _ hn
    obtain ⟨x, r, hx, hx12⟩ := hπ it hmem hkey
    show decide (12 ≤ h.data.getD o 0 % 16) = false
    rw [show h.data.getD o 0 = (h.data.drop o).getD 0 0 by simp [List.getD_eq_getElem?_getD],
      hdrop, hx]
    simp; omega

theorem loadPatterns_buildItems (ps : List (List Char)) (its : List Item)
    (hps : ∀ p ∈ ps, ∀ it ∈ its, it.key = (patItem p).key →
      ∃ x rest, it.ops = x :: rest ∧ x % 16 < 12) :
    ps.foldl loadPattern (buildItems its) = buildItems (its ++ ps.map patItem) := by
  induction ps generalizing its with
  | nil => simp
  | cons p ps ih =>
    have hf : holdsExc (buildItems its) (patOps p).2 = false :=
      holdsExc_false _ its (inv_buildItems its) _ (hps p (by simp))
    rw [List.foldl_cons, loadPattern_of_not_holdsExc _ p hf, ← buildItems_concat, ih]
    · simp
    · intro q hq it hit hk
      rcases List.mem_append.1 hit with h | h
      · exact hps q (by simp [hq]) it h hk
      · obtain rfl : it = patItem p := by simpa using h
        exact patOps_head p

theorem build_eq (ps es : List (List Char)) : build ps es = buildItems (itemsOf ps es) := by
  unfold build loadPatterns itemsOf
  rw [insertExceptions_eq, show ({} : Hyph) = buildItems [] from rfl,
    loadPatterns_buildItems ps [] nofun]
  simp only [buildItems, List.nil_append, List.foldl_append, List.foldl_map]

theorem inv_build (ps es : List (List Char)) : Inv (build ps es) (itemsOf ps es) := by
  rw [build_eq]; exact inv_buildItems _

theorem val_eq (h : Hyph) (items : List Item) (hI : Inv h items)
    (hT : ∀ it ∈ items, Term it.ops) (π : List Edge) :
    val h π = if π = [] then []
      else ((newest items π).map (fun it => decodeOps it.ops)).getD [] := by
  unfold val
  cases hl : lookup h.trie π with
  | none =>
    by_cases hπ : π = []
    · simp [hπ]
    · cases hn : newest items π with
      | none => simp [hπ]
      | some it => exact absurd hl (hI.2 π hπ (by simp [hn]))
  | some o =>
    obtain ⟨_, h2, it, rest, h3, h4⟩ := hI.1 π o hl
    simp only [h2, if_false, h3, Option.map_some, Option.getD_some, h4]
    exact hT it (newest_mem _ _ _ h3).1 rest

theorem val_cases (h : Hyph) (items : List Item) (hI : Inv h items)
    (hT : ∀ it ∈ items, Term it.ops) (π : List Edge) :
    val h π = [] ∨ ∃ it ∈ items, it.key = π ∧ newest items π = some it ∧
      val h π = decodeOps it.ops := by
  rw [val_eq h items hI hT π]
  by_cases hπ : π = []
  · exact Or.inl (if_pos hπ)
  · rw [if_neg hπ]
    cases hn : newest items π with
    | none => exact Or.inl rfl
    | some it => exact Or.inr ⟨it, (newest_mem _ _ _ hn).1, (newest_mem _ _ _ hn).2, rfl, rfl⟩

theorem bounded_of_inv (h : Hyph) (its : List Item) (hI : Inv h its)
    (hT : ∀ it ∈ its, Term it.ops)
    (hb : ∀ it ∈ its, (decodeOps it.ops).length ≤ chCount it.key + 1) : Bounded h := by
  intro π
  rcases val_cases _ _ hI hT π with h0 | ⟨it, hit, rfl, _, h2⟩
  · rw [h0]; simp
  · rw [h2]; exact hb it hit

theorem patItem_key (p : List Char) :
    (patItem p).key = enc (parsePat p).anchorStart (parsePat p).letters (parsePat p).anchorEnd := by
  rw [parsePat_letters]
  show (patOps p).2 = _
  unfold patOps
  simp only [scan_path, enc, parsePat]
  by_cases h1 : p.head? = some '.' <;> by_cases h2 : p.getLast? = some '.' <;> simp [h1, h2]

theorem patItem_key' (p : List Char) : (patItem p).key = (parsePat p).key := by
  rw [patItem_key]; rfl

theorem patItem_digitAt (p : List Char) (hwf : wellFormed p = true) (o i : Nat) :
    digitAt (decodeOps (patItem p).ops) o i = digitAt (parsePat p).digits o i := by
  obtain ⟨k, hk⟩ := (patItem_stream p).roundtrip hwf
  simp only [digitAt, ← hk, getD_append_zeros _ _ (fun d hd => (List.mem_replicate.1 hd).2)]

/-- The score an exception writes at a position: 13 = hyphen here, 12 = no hyphen here. -/
def code (b : Bool) : Nat := if b then excHyph else excNo

theorem le_code (b : Bool) : 12 ≤ code b := by cases b <;> decide

theorem nonTerm_codes (l : List Bool) : NonTerm (l.map code) := by
  intro b hb
  simp only [List.mem_map] at hb
  obtain ⟨x, _, rfl⟩ := hb
  cases x <;> simp [code, excHyph, excNo]

theorem decodeOps_codes (l : List Bool) : decodeOps (l.map code) = l.map code := by
  induction l with
  | nil => rfl
  | cons x l ih => cases x <;> simp [decodeOps, code, excHyph, excNo, ih]

theorem oddIdx_codes (l : List Bool) (k : Nat) : oddIdx k (l.map code) = trueIdx k l := by
  induction l generalizing k with
  | nil => rfl
  | cons b l ih => cases b <;> simp [oddIdx, trueIdx, code, excNo, excHyph, ih]

theorem excScan_sem (e : List Char) (ops : List Nat) (path : List Edge) (pre : List Nat)
    (pend : Bool) (hops : ops = pre ++ [code pend]) :
    ∃ pend', excScan e ops path
      = (pre ++ (marks e pend).map code ++ [code pend'], path ++ (stripHyphens e).map Edge.ch) := by
  fun_induction excScan e ops path generalizing pre pend with
  | case1 ops path => exact ⟨pend, by simp [hops, marks, stripHyphens]⟩
  | case2 cs ops path ih =>
    obtain ⟨p', hp'⟩ := ih pre true (by rw [hops, List.dropLast_concat]; rfl)
    exact ⟨p', by rw [hp']; simp [marks, stripHyphens]⟩
  | case3 c cs ops path hc ih =>
    obtain ⟨p', hp'⟩ := ih (pre ++ [code pend]) false (by rw [hops]; rfl)
    exact ⟨p', by rw [hp']; simp [marks, stripHyphens, hc]⟩

theorem marks_length (e : List Char) (pend : Bool) :
    (marks e pend).length = (stripHyphens e).length := by
  fun_induction marks e pend with
  | case1 => rfl
  | case2 cs pend ih => simpa [stripHyphens] using ih
  | case3 c cs pend hc ih => simp [stripHyphens, hc, ih]

theorem excItem_spec (e : List Char) :
    ∃ pend', (excItem e).ops = (marks e false ++ [pend']).map code ++ [10] ∧
      (excItem e).key = enc true (stripHyphens e) true := by
  obtain ⟨p', hp'⟩ := excScan_sem e [excNo] [.start] [] false rfl
  exact ⟨p', by simp [excItem, hp'], by simp [excItem, hp', enc]⟩

theorem excItem_key (e : List Char) : (excItem e).key = enc true (stripHyphens e) true := by
  obtain ⟨_, _, h⟩ := excItem_spec e; exact h

theorem newest_exc (es : List (List Char)) (ls : List Char) :
    newest (es.map excItem) (enc true ls true) = (findException es ls).map excItem := by
  rw [newest_eq_find, findException_eq_find, ← List.map_reverse, List.find?_map]
  congr 2
  funext e
  simp only [Function.comp, excItem_key]
  exact decide_eq_decide.2 ⟨fun h => (enc_inj h).2.1, fun h => by rw [h]⟩

theorem excItem_decode (e : List Char) :
    ∃ pend', decodeOps (excItem e).ops = (marks e false).map code ++ [code pend'] ∧
      Term (excItem e).ops := by
  obtain ⟨p', h1, _⟩ := excItem_spec e
  have hd : ∀ rest, decodeOps ((excItem e).ops ++ rest) = (marks e false ++ [p']).map code := by
    intro rest
    rw [h1, List.append_assoc, decodeOps_append _ _ (nonTerm_codes _), decodeOps_codes]
    simp [decodeOps]
  exact ⟨p', by simpa using hd [], fun rest => by rw [hd rest, ← hd [], List.append_nil]⟩

end C13
