import TexcraftModel.Lemmas.C15

/-! C15: under TeX's size discipline (`Small`) no intermediate value of `pack` leaves `i32`. -/
namespace C15

theorem iabs_bounds (x : Int) : -iabs x ≤ x ∧ x ≤ iabs x ∧ 0 ≤ iabs x := by
  unfold iabs; split <;> omega

theorem sum_map_bounds {α : Type} {f g : α → Int} (h : ∀ x, -g x ≤ f x ∧ f x ≤ g x) (l : List α) :
    -sum (l.map g) ≤ sum (l.map f) ∧ sum (l.map f) ≤ sum (l.map g) := by
  induction l with
  | nil => exact ⟨Int.le_refl 0, Int.le_refl 0⟩
  | cons x l ih => have := h x; simp only [List.map, sum]; omega

theorem Item.glue_bounds (i : Item) (o : Order) :
    (-i.absStretch ≤ i.stretchAt o ∧ i.stretchAt o ≤ i.absStretch) ∧
    (-i.absShrink ≤ i.shrinkAt o ∧ i.shrinkAt o ≤ i.absShrink) := by
  have ite_bounds : ∀ (c : Prop) [Decidable c] (x : Int),
      -iabs x ≤ (if c then x else 0) ∧ (if c then x else 0) ≤ iabs x := by
    intro c _ x; have := iabs_bounds x; split <;> omega
  cases i with
  | glue g => exact ⟨ite_bounds _ _, ite_bounds _ _⟩
  | _ => exact ⟨⟨Int.le_refl 0, Int.le_refl 0⟩, ⟨Int.le_refl 0, Int.le_refl 0⟩⟩

/-- The first sum of `Small`: what the list can add, in absolute value, to the natural width. -/
def SW (l : List Item) : Int := sum (l.map fun i => iabs i.natWidth)
/-- The second sum of `Small`: the same for each of the four stretch totals. -/
def SS (l : List Item) : Int := sum (l.map Item.absStretch)
/-- The third sum of `Small`: the same for each of the four shrink totals. -/
def SK (l : List Item) : Int := sum (l.map Item.absShrink)

theorem small_iff {l : List Item} {pw : PackWidth} : Small l pw = true ↔
    l.all Item.whdOk = true ∧ SW l ≤ maxDimen ∧ SS l ≤ maxDimen ∧ SK l ≤ maxDimen ∧
      iabs pw.amount ≤ maxDimen := by
  simp only [Small, SW, SS, SK, Bool.and_eq_true, decide_eq_true_eq, and_assoc]

theorem natWidth_bounds (l : List Item) : -SW l ≤ natWidth l ∧ natWidth l ≤ SW l :=
  sum_map_bounds (f := Item.natWidth) (g := fun i => iabs i.natWidth)
    (fun i => ⟨(iabs_bounds i.natWidth).1, (iabs_bounds i.natWidth).2.1⟩) l

theorem SW_nonneg (l : List Item) : 0 ≤ SW l := by
  have := natWidth_bounds l; omega

theorem SS_nonneg (l : List Item) : 0 ≤ SS l := by
  have := sum_map_bounds (fun i => (Item.glue_bounds i .normal).1) l; unfold SS; omega

theorem SK_nonneg (l : List Item) : 0 ≤ SK l := by
  have := sum_map_bounds (fun i => (Item.glue_bounds i .normal).2) l; unfold SK; omega

/-- The loop invariant, for each accumulator `v` with `R` the absolute amount the rest of the
list can still add to it: `v` stays within `max_dimen` whatever part of `R` comes in. -/
def Room (R v : Int) : Prop := -(maxDimen - R) ≤ v ∧ v ≤ maxDimen - R

theorem room_zero {R : Int} (h : R ≤ maxDimen) : Room R 0 :=
  ⟨Int.neg_nonpos_of_nonneg (Int.sub_nonneg_of_le h), Int.sub_nonneg_of_le h⟩

theorem room_step {g R v x : Int} (hv : Room (g + R) v) (hx : -g ≤ x ∧ x ≤ g) : Room R (v + x) := by
  have e : maxDimen - (g + R) + g = maxDimen - R := by
    rw [Int.add_comm g R, ← Int.sub_sub, Int.sub_add_cancel]
  have lo := Int.add_le_add hv.1 hx.1
  have hi := Int.add_le_add hv.2 hx.2
  rw [← Int.neg_add, e] at lo
  rw [e] at hi
  exact ⟨lo, hi⟩

/-- `2 · max_dimen = 2^31 − 2`. -/
theorem i32_of_abs_le {x : Int} (h : -(2 * maxDimen) ≤ x ∧ x ≤ 2 * maxDimen) : i32 x = true := by
  simp only [maxDimen] at h
  simp only [i32, decide_eq_true_eq]; omega

theorem room_i32 {R v : Int} (h : Room R v) (hR : 0 ≤ R) : i32 v = true :=
  have hM : maxDimen - R ≤ maxDimen := Int.sub_le_self _ hR
  i32_of_abs_le ⟨Int.le_trans (by decide) (Int.le_trans (Int.neg_le_neg hM) h.1),
    Int.le_trans h.2 (Int.le_trans hM (by decide))⟩

theorem Totals.ok_of_get (t : Totals) (h : ∀ o, i32 (t.get o) = true) : t.ok = true := by
  simp only [Totals.ok, Bool.and_eq_true]
  exact ⟨⟨⟨h .normal, h .fil⟩, h .fill⟩, h .filll⟩

theorem loopRange_of_bounds (l : List Item) : ∀ a : Acc,
    l.all Item.whdOk = true → Room (SW l) a.natW →
    (∀ o, Room (SS l) (a.st.get o)) → (∀ o, Room (SK l) (a.sh.get o)) →
    loopRange a l = true := by
  induction l with
  | nil => intros; rfl
  | cons i l ih =>
    intro a hall hw hs hk
    rw [List.all_cons, Bool.and_eq_true] at hall
    have bw := iabs_bounds i.natWidth
    have w' : Room (SW l) (step a i).natW := (step_dims a i).1 ▸ room_step hw ⟨bw.1, bw.2.1⟩
    have s' : ∀ o, Room (SS l) ((step a i).st.get o) :=
      fun o => (step_totals a i o).1 ▸ room_step (hs o) (i.glue_bounds o).1
    have k' : ∀ o, Room (SK l) ((step a i).sh.get o) :=
      fun o => (step_totals a i o).2 ▸ room_step (hk o) (i.glue_bounds o).2
    simp only [loopRange, Bool.and_eq_true]
    exact ⟨⟨⟨⟨hall.1, room_i32 w' (SW_nonneg l)⟩,
      Totals.ok_of_get _ fun o => room_i32 (s' o) (SS_nonneg l)⟩,
      Totals.ok_of_get _ fun o => room_i32 (k' o) (SK_nonneg l)⟩, ih _ hall.2 w' s' k'⟩

theorem loopRange_init (l : List Item) (hall : l.all Item.whdOk = true)
    (hw : SW l ≤ maxDimen) (hs : SS l ≤ maxDimen) (hk : SK l ≤ maxDimen) :
    loopRange {} l = true := by
  refine loopRange_of_bounds l {} hall (room_zero hw) (fun o => ?_) (fun o => ?_)
  · cases o <;> exact room_zero hs
  · cases o <;> exact room_zero hk

theorem PackWidth.width_bounds (pw : PackWidth) {n B : Int} (hn : -B ≤ n ∧ n ≤ B)
    (ha : iabs pw.amount ≤ B) :
    (-(2 * B) ≤ pw.width n ∧ pw.width n ≤ 2 * B) ∧
    (-(2 * B) ≤ pw.width n - n ∧ pw.width n - n ≤ 2 * B) := by
  have hb := iabs_bounds pw.amount
  have hw : pw.width n = pw.amount ∨ pw.width n = n + pw.amount := by
    cases pw
    · exact Or.inl rfl
    · exact Or.inr rfl
  omega

end C15
