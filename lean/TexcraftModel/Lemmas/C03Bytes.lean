import TexcraftModel.Model.C03Bytes
import TexcraftModel.Lemmas.C03

/-! C03 — the byte-level `RawLexer` never slices off a character boundary and is the
character-level one: `Rep` (offsets are byte lengths of whole prefixes), one refinement lemma per
method, then the `Lexer` on top. At the end the two surviving mutants of the sweep as definitions
(`traceLoop25`, `BRaw.startNewLine23`); `traceLoop25_eq` sets the first against the original, `equiv_mutant_23`
(`Props/C03.lean`) the second. -/
namespace C03
namespace Bytes

theorem sliceFrom_cons (c : Char) (t : List Char) (p : Nat) (h : utf8Len c ≤ p) :
    sliceFrom (c :: t) p = sliceFrom t (p - utf8Len c) := by
  have := utf8Len_pos c
  cases p with
  | zero => omega
  | succ p => simp only [sliceFrom]; rw [if_neg (by omega)]

theorem sliceFrom_append (pre post : List Char) : sliceFrom (pre ++ post) (byteLen pre) = some post := by
  induction pre with
  | nil => cases post <;> simp [byteLen, sliceFrom]
  | cons c t ih =>
    simp only [List.cons_append, byteLen]
    rw [sliceFrom_cons _ _ _ (by omega), show utf8Len c + byteLen t - utf8Len c = byteLen t by omega, ih]

theorem sliceFrom_step {l : List Char} {p : Nat} {c : Char} {t : List Char}
    (h : sliceFrom l p = some (c :: t)) : sliceFrom l (p + utf8Len c) = some t := by
  fun_induction sliceFrom l p with
  | case1 l =>
    cases h
    rw [sliceFrom_cons _ _ _ (by omega)]; simp [sliceFrom]
  | case2 => cases h
  | case3 d l p hlt => cases h
  | case4 d l p hge ih =>
    rw [sliceFrom_cons _ _ _ (by omega), ← ih h]; congr 1; omega

theorem takeBytes_append (a b : List Char) : takeBytes (a ++ b) (byteLen a) = some a := by
  induction a with
  | nil => cases b <;> simp [byteLen, takeBytes]
  | cons c t ih =>
    have := utf8Len_pos c
    simp only [List.cons_append, byteLen]
    cases h : utf8Len c + byteLen t with
    | zero => omega
    | succ n =>
      simp only [takeBytes]
      rw [if_neg (by omega), show n + 1 - utf8Len c = byteLen t by omega, ih]; rfl

theorem sliceRange_append (pre a b : List Char) :
    sliceRange (pre ++ (a ++ b)) (byteLen pre) (byteLen pre + byteLen a) = some a := by
  unfold sliceRange
  rw [if_neg (by omega), sliceFrom_append]
  simp only [Option.bind_some, show byteLen pre + byteLen a - byteLen pre = byteLen a by omega]
  exact takeBytes_append a b

theorem charAt_append (done line : List Char) : charAt (done ++ line) (byteLen done) = some line.head? := by
  simp [charAt, sliceFrom_append]

theorem writeAscii_append (done : List Char) (c : Char) (t : List Char) (m : Char) (h : utf8Len c = 1) :
    writeAscii (done ++ c :: t) (byteLen done) m = some (done ++ m :: t) := by
  induction done with
  | nil => simp [byteLen, writeAscii, h]
  | cons d t' ih =>
    have := utf8Len_pos d
    simp only [List.cons_append, byteLen]
    cases hh : utf8Len d + byteLen t' with
    | zero => omega
    | succ n =>
      simp only [writeAscii]
      rw [if_neg (by omega), show n + 1 - utf8Len d = byteLen t' by omega, ih]; rfl

theorem byteLen_replicate_space (p : Nat) : byteLen (List.replicate p ' ') = p := by
  induction p with
  | zero => rfl
  | succ n ih =>
    simp only [List.replicate_succ, byteLen, ih]
    have : utf8Len ' ' = 1 := by decide
    omega

theorem lineLoop_eq (s : List Char) : ∀ (acc : List Char) (p base : Nat),
    lineLoop (base + byteLen acc) p s
      = (base + byteLen (scanLineGo acc p s).1, (scanLineGo acc p s).2.1) := by
  induction s with
  | nil => intros; simp [lineLoop, scanLineGo]
  | cons c t ih =>
    intro acc p base
    simp only [lineLoop, scanLineGo]
    split
    · rfl
    · split
      · exact ih acc (p + 1) base
      · have := ih (acc ++ List.replicate p ' ' ++ [c]) 0 base
        rw [byteLen_append, byteLen_append, byteLen_replicate_space] at this
        simp only [byteLen] at this
        rw [← this]
        congr 1; omega

/-- The byte-level state `b` stands for the character-level state `r`: both offsets are the
byte lengths of whole prefixes. -/
structure Rep (b : BRaw) (r : Raw) : Prop where
  ex : ∃ pre done, b.src = pre ++ r.rest ∧ b.nextLine = byteLen pre ∧
        b.cur = done ++ r.line ∧ b.pos = byteLen done
  key : b.key = r.key
  limit : b.limit = r.limit
  trimmed : b.trimmed = r.trimmed

theorem Rep.slice_src {b : BRaw} {r : Raw} (h : Rep b r) :
    sliceFrom b.src b.nextLine = some r.rest := by
  obtain ⟨⟨pre, done, h1, h2, h3, h4⟩, _⟩ := h
  rw [h1, h2, sliceFrom_append]

theorem Rep.slice_cur {b : BRaw} {r : Raw} (h : Rep b r) : sliceFrom b.cur b.pos = some r.line := by
  obtain ⟨⟨pre, done, h1, h2, h3, h4⟩, _⟩ := h
  rw [h3, h4, sliceFrom_append]

theorem Rep.abs {b : BRaw} {r : Raw} (h : Rep b r) : b.abs = some r := by
  unfold BRaw.abs
  rw [h.slice_src, h.slice_cur, h.key, h.limit, h.trimmed]

theorem Rep.init (src : List Char) : Rep (BRaw.init src) (Lexer.init src).raw :=
  ⟨⟨[], [], rfl, rfl, rfl, rfl⟩, rfl, rfl, rfl⟩

theorem Rep.byteLen_src {b : BRaw} {r : Raw} (h : Rep b r) :
    byteLen b.src = b.nextLine + byteLen r.rest := by
  obtain ⟨pre, _, h1, h2, _⟩ := h.ex
  rw [h1, h2, byteLen_append]

theorem Rep.step {b : BRaw} {r : Raw} {c : Char} {l : List Char} (h : Rep b r) (hl : r.line = c :: l) :
    Rep { b with pos := b.pos + utf8Len c, key := b.key + 1 } { r with line := l, key := r.key + 1 } := by
  obtain ⟨⟨pre, done, h1, h2, h3, h4⟩, hk, hlim, ht⟩ := h
  refine ⟨⟨pre, done ++ [c], h1, h2, ?_, ?_⟩, by simp only [hk], hlim, ht⟩
  · simp [h3, hl]
  · simp only [h4, byteLen_append, byteLen]; omega

theorem next_refines {b : BRaw} {r : Raw} (h : Rep b r) :
    match r.next with
    | .eol => b.next = some .eol
    | .panic => b.next = some .panic
    | .got c k r' => ∃ b', b.next = some (.got c k b') ∧ Rep b' r' := by
  unfold Raw.next BRaw.next
  rw [h.slice_cur]
  cases hline : r.line with
  | nil => rfl
  | cons c l =>
    have hb : (b.key < b.limit) = (r.key < r.limit) := by rw [h.key, h.limit]
    simp only [hb]
    by_cases hk : r.key < r.limit
    · simp only [hk, if_true]; exact ⟨_, by rw [h.key], h.step hline⟩
    · simp only [hk, if_false]

theorem endLine_refines {b : BRaw} {r : Raw} (h : Rep b r) :
    ∃ b', b.endLine = some b' ∧ Rep b' r.endLine := by
  have hs := h.slice_cur
  obtain ⟨⟨pre, done, h1, h2, h3, h4⟩, hk, hl, ht⟩ := h
  refine ⟨{ b with key := b.key + r.line.length, pos := byteLen b.cur }, by simp only [BRaw.endLine, hs]; rfl,
    ⟨⟨pre, b.cur, h1, h2, by simp [Raw.endLine], rfl⟩, ?_, hl, ht⟩⟩
  simp [Raw.endLine, hk]

/-- What `start_new_line` skips between the content of a line and the next line is blanks and at most
the newline, one byte each: every offset it computes is the byte length of a whole prefix. -/
theorem startNewLine_slices {b : BRaw} {r : Raw} (h : Rep b r) {c : Char} {t : List Char}
    (hrest : r.rest = c :: t) :
    ∃ (content rest' pre' : List Char) (nsp : Nat),
      scanLineGo [] 0 (c :: t) = (content, nsp, rest') ∧
      ¬ byteLen b.src ≤ b.nextLine ∧
      lineLoop b.nextLine 0 (c :: t) = (b.nextLine + byteLen content, nsp) ∧
      sliceRange b.src b.nextLine (b.nextLine + byteLen content) = some content ∧
      (nsp = 0 → rest' = []) ∧
      b.src = pre' ++ rest' ∧ b.nextLine + byteLen content + nsp = byteLen pre' := by
  obtain ⟨pre, done, h1, h2, -, -⟩ := h.ex
  have hpos := utf8Len_pos c
  have hloop := lineLoop_eq (c :: t) [] 0 b.nextLine
  obtain ⟨content, rest', q, nl, e1, hd, hnl, -⟩ :=
    scanLineGo_eq (c :: t) [] 0 (by simp [Spec.trimRight]) (by simp)
  simp only [e1, byteLen, Nat.add_zero, List.replicate_zero, List.append_nil, List.nil_append]
    at hloop hd
  have hgap : byteLen (List.replicate q ' ' ++ (if nl then ['\n'] else [])) = q + nl.toNat := by
    rw [byteLen_append, byteLen_replicate_space]; cases nl <;> rfl
  have hd' : c :: t = content ++ ((List.replicate q ' ' ++ (if nl then ['\n'] else [])) ++ rest') := by
    rw [hd]; cases nl <;> simp [hnl]
  refine ⟨content, rest', pre ++ content ++ (List.replicate q ' ' ++ (if nl then ['\n'] else [])), _,
    e1, ?_, hloop, ?_, ?_, ?_, ?_⟩
  · rw [h.byteLen_src, hrest]; simp only [byteLen]; omega
  · rw [h1, h2, hrest, hd']; exact sliceRange_append pre content _
  · intro h0
    cases nl with
    | false => exact hnl rfl
    | true => simp at h0
  · rw [h1, hrest, hd']; simp
  · rw [byteLen_append, byteLen_append, h2, hgap]

theorem startNewLine_refines (cfg : Cfg) {b : BRaw} {r : Raw} (h : Rep b r) :
    ∃ b', b.startNewLine cfg = some ((r.startNewLine cfg).1, b') ∧ Rep b' (r.startNewLine cfg).2 := by
  unfold BRaw.startNewLine Raw.startNewLine
  rw [h.slice_cur]
  simp only []
  have hkey : b.key + r.line.length + b.trimmed = r.key + r.line.length + r.trimmed := by
    rw [h.key, h.trimmed]
  cases hrest : r.rest with
  | nil =>
    obtain ⟨pre, done, h1, h2, -, -⟩ := h.ex
    rw [if_pos (by rw [h.byteLen_src, hrest]; exact Nat.le_refl _)]
    exact ⟨_, rfl, ⟨⟨pre, [], by simp [h1, hrest], h2, rfl, rfl⟩, hkey, h.limit, h.trimmed⟩⟩
  | cons c t =>
    obtain ⟨content, rest', pre', nsp, hgo, hne, hloop, hsr, -, hsrc, hnl⟩ := startNewLine_slices h hrest
    simp only [if_neg hne, h.slice_src, hrest, hloop, hsr, hgo]
    cases cfg.endline with
    | none => exact ⟨_, rfl, ⟨⟨pre', [], hsrc, hnl, rfl, rfl⟩, hkey, h.limit, rfl⟩⟩
    | some e => exact ⟨_, rfl, ⟨⟨pre', [], hsrc, hnl, rfl, rfl⟩, hkey, h.limit, rfl⟩⟩

theorem advance_refines : ∀ (n : Nat) {b : BRaw} {r : Raw}, Rep b r → n ≤ r.line.length →
    (r.key + n ≤ r.limit → ∃ b', b.advance n = some (some b') ∧
        Rep b' { r with line := r.line.drop n, key := r.key + n }) ∧
    (r.limit < r.key + n → 0 < n → b.advance n = some none) := by
  intro n
  induction n with
  | zero =>
    intro b r h _
    exact ⟨fun _ => ⟨b, rfl, h⟩, fun _ h' => by omega⟩
  | succ n ih =>
    intro b r h hn
    cases hline : r.line with
    | nil => rw [hline] at hn; simp at hn
    | cons c l =>
      have ih := ih (h.step hline) (by rw [hline] at hn; simpa using hn)
      simp only [BRaw.advance, h.slice_cur, hline, List.drop_succ_cons]
      rw [show r.key + (n + 1) = r.key + 1 + n by omega]
      by_cases hk : b.key < b.limit
      · rw [if_pos hk]; rw [h.key, h.limit] at hk
        exact ⟨ih.1, fun hlt _ => ih.2 hlt (by omega)⟩
      · rw [if_neg hk]; rw [h.key, h.limit] at hk
        exact ⟨fun hle => by omega, fun _ _ => rfl⟩

/-- The character a code's reduced character is written over is a one-byte character. -/
theorem caretStep_drop {c1 : Char} {l2 : List Char} {n : Nat} {m : Char} {l' : List Char}
    (h : caretStep c1 l2 = some (n, m, l')) : 0 < n ∧ ∃ x, l2.drop n = x :: l' ∧ x.toNat < 128 := by
  unfold caretStep at h
  split at h
  · rename_i c2 c3 l3
    split at h
    · cases h
    · split at h
      · cases h
      · split at h
        · rename_i hi lo hx hy
          cases h
          cases l3 with
          | nil => simp at hy
          | cons c4 l4 => exact ⟨by omega, c4, rfl, hexVal_ascii (by simpa using hy)⟩
        · cases h; exact ⟨by omega, c3, rfl, by omega⟩
  · cases h

theorem advance_write {b : BRaw} {r : Raw} (h : Rep b r) (k : Nat) (m x : Char) (l' : List Char)
    (hd : r.line.drop k = x :: l') (hx : x.toNat < 128) (hk0 : 0 < k) :
    if r.key + k ≤ r.limit then
      ∃ b' cur, b.advance k = some (some b') ∧ writeAscii b'.cur b'.pos m = some cur ∧
        Rep { b' with cur := cur } { r with key := r.key + k, line := m :: l' }
    else b.advance k = some none := by
  have hk : k ≤ r.line.length := by
    have := congrArg List.length hd; simp at this; omega
  have adv := advance_refines k h hk
  split
  · rename_i hle
    obtain ⟨b', e, hrep⟩ := adv.1 hle
    obtain ⟨pre', done', q1, q2, q3, q4⟩ := hrep.ex
    simp only [hd] at q3
    refine ⟨b', done' ++ m :: l', e, by rw [q3, q4, writeAscii_append _ _ _ _ (utf8Len_ascii hx)],
      ⟨⟨pre', done', q1, q2, rfl, q4⟩, hrep.key, hrep.limit, hrep.trimmed⟩⟩
  · exact adv.2 (by omega) hk0

/-- `maybe_apply_caret_notation` peeks at `char_2_start`, `char_3_start` and the offset behind, each one
character behind the one before (`sliceFrom_step`): it sees what `caretStep` sees. -/
theorem BRaw.caret_step {b : BRaw} {r : Raw} (h : Rep b r) (c1 : Char) (consumed : Bool)
    (hb : consumed = false → ∃ t, r.line = c1 :: t) :
    b.caret c1 consumed = match caretStep c1 (r.line.drop (if consumed then 0 else 1)) with
      | none => some .no
      | some (n, m, _) =>
        match b.advance ((if consumed then 0 else 1) + n) with
        | none => none
        | some none => some .panic
        | some (some b') => (writeAscii b'.cur b'.pos m).map fun cur => .yes { b' with cur := cur } := by
  have hs : sliceFrom b.cur (if consumed then b.pos else b.pos + utf8Len c1)
      = some (r.line.drop (if consumed then 0 else 1)) := by
    have hs := h.slice_cur
    cases consumed with
    | true => exact hs
    | false =>
      obtain ⟨t, ht⟩ := hb rfl
      rw [ht] at hs ⊢
      exact sliceFrom_step hs
  unfold BRaw.caret
  generalize r.line.drop (if consumed then 0 else 1) = l2 at hs
  generalize (if consumed then b.pos else b.pos + utf8Len c1) = p at hs
  simp only [charAt, hs, Option.map_some]
  match l2, hs with
  | [], _ => rfl
  | [c2], hs =>
    simp only [List.head?_cons, caretStep]
    by_cases h2 : c2 = c1
    · subst h2; simp [sliceFrom_step hs]
    · simp [h2]
  | c2 :: c3 :: l3, hs =>
    have hs3 := sliceFrom_step hs
    have hs4 := sliceFrom_step hs3
    simp only [List.head?_cons, caretStep, hs3, hs4, Option.map_some]
    by_cases h2 : c2 = c1
    · by_cases h3 : 128 ≤ c3.toNat
      · simp [h2, h3]
      · simp only [h2, ne_eq, not_true_eq_false, if_false, h3]
        cases hexVal c3 <;> cases l3.head?.bind hexVal <;> rfl
    · simp [h2]

theorem caret_refines {b : BRaw} {r : Raw} (h : Rep b r) (c1 : Char) (consumed : Bool)
    (hb : consumed = false → ∃ t, r.line = c1 :: t) :
    match r.caret c1 consumed with
    | .no => b.caret c1 consumed = some .no
    | .panic => b.caret c1 consumed = some .panic
    | .yes r' => ∃ b', b.caret c1 consumed = some (.yes b') ∧ Rep b' r' := by
  rw [Raw.caret_step, BRaw.caret_step h c1 consumed hb]
  cases hc : caretStep c1 (r.line.drop (if consumed then 0 else 1)) with
  | none => rfl
  | some x =>
    obtain ⟨n, m, l'⟩ := x
    obtain ⟨hn, x, hd, hx⟩ := caretStep_drop hc
    have aw := advance_write h ((if consumed then 0 else 1) + n) m x l' (by rw [← List.drop_drop, hd]) hx
      (by omega)
    simp only []
    by_cases hk : r.key + ((if consumed then 0 else 1) + n) ≤ r.limit
    · rw [if_pos hk] at aw ⊢
      obtain ⟨b', cur, e, ew, hrep⟩ := aw
      rw [e]; simp only [ew, Option.map_some]
      exact ⟨_, rfl, hrep⟩
    · rw [if_neg hk] at aw ⊢
      rw [aw]

theorem readLetters_refines (cfg : Cfg) : ∀ (f : Nat) (acc : List Char) {b : BRaw} {r : Raw}, Rep b r →
    match readLetters cfg f acc r with
    | .ok (name, r') => ∃ b', bReadLetters cfg f acc b = some (.ok (name, b')) ∧ Rep b' r'
    | .panic => bReadLetters cfg f acc b = some .panic
    | .fuel => bReadLetters cfg f acc b = some .fuel := by
  intro f
  induction f with
  | zero => intro acc b r _; rfl
  | succ f ih =>
    intro acc b r h
    have hs := h.slice_cur
    simp only [bReadLetters, readLetters, hs]
    cases hline : r.line with
    | nil => exact ⟨_, rfl, h⟩
    | cons c l =>
      simp only [h.key, h.limit]
      by_cases hk : r.limit ≤ r.key
      · simp only [hk, if_true]
      · simp only [hk, if_false]
        cases hc : cfg.cat c
        case letter =>
          have hk' : b.key < b.limit := by rw [h.key, h.limit]; omega
          simp only [BRaw.advance, hs, hline, if_pos hk']
          exact ih (acc ++ [c]) (h.step hline)
        case superscript =>
          simp only []
          have cr := caret_refines h c false (fun _ => ⟨l, hline⟩)
          cases hcr : r.caret c false with
          | no => rw [hcr] at cr; rw [cr]; exact ⟨_, rfl, h⟩
          | panic => rw [hcr] at cr; rw [cr]
          | yes r' =>
            rw [hcr] at cr
            obtain ⟨b', e, hrep⟩ := cr
            rw [e]
            exact ih acc hrep
        all_goals exact ⟨_, rfl, h⟩

theorem readCS_refines (cfg : Cfg) : ∀ (f : Nat) {b : BRaw} {r : Raw}, Rep b r →
    match readCS cfg f r with
    | .ok (name, st, r') => ∃ b', bReadCS cfg f b = some (.ok (name, st, b')) ∧ Rep b' r'
    | .panic => bReadCS cfg f b = some .panic
    | .fuel => bReadCS cfg f b = some .fuel := by
  intro f
  induction f with
  | zero => intro b r _; rfl
  | succ f ih =>
    intro b r h
    have hn := next_refines h
    simp only [bReadCS, readCS]
    cases hnx : r.next with
    | eol => rw [hnx] at hn; rw [hn]; exact ⟨_, rfl, h⟩
    | panic => rw [hnx] at hn; rw [hn]
    | got c k r1 =>
      rw [hnx] at hn
      obtain ⟨b1, e, h1⟩ := hn
      rw [e]
      simp only []
      cases hc : cfg.cat c
      case letter =>
        simp only [h1.slice_cur]
        have hrl := readLetters_refines cfg (r1.line.length + 1) [c] h1
        cases hr : readLetters cfg (r1.line.length + 1) [c] r1 with
        | ok x =>
          rw [hr] at hrl
          obtain ⟨b2, e2, h2⟩ := hrl
          rw [e2]
          exact ⟨_, rfl, h2⟩
        | panic => rw [hr] at hrl; rw [hrl]
        | fuel => rw [hr] at hrl; rw [hrl]
      case superscript =>
        simp only []
        have cr := caret_refines h1 c true (by simp)
        cases hcr : r1.caret c true with
        | no => rw [hcr] at cr; rw [cr]; exact ⟨_, rfl, h1⟩
        | panic => rw [hcr] at cr; rw [cr]
        | yes r' =>
          rw [hcr] at cr
          obtain ⟨b', e', hrep⟩ := cr
          rw [e']
          exact ih hrep
      all_goals exact ⟨_, rfl, h1⟩

/-- `Rep` lifted to the `Lexer` around the `RawLexer`. -/
structure RepL (B : BLexer) (L : Lexer) : Prop where
  raw : Rep B.raw L.raw
  st : B.st = L.st
  started : B.started = L.started

theorem nextF_refines (cfg : Cfg) (rep : Bool) : ∀ (f : Nat) {B : BLexer} {L : Lexer}, RepL B L →
    ∃ B', B.nextF cfg rep f = some ((L.nextF cfg rep f).1, B') ∧ RepL B' (L.nextF cfg rep f).2 := by
  intro f
  induction f with
  | zero => intro B L h; exact ⟨B, rfl, h⟩
  | succ f ih =>
    intro B L h
    have hn := next_refines h.raw
    simp only [BLexer.nextF, Lexer.nextF]
    cases hnx : L.raw.next with
    | eol =>
      rw [hnx] at hn; rw [hn]
      simp only []
      obtain ⟨b', e, hrep⟩ := startNewLine_refines cfg h.raw
      rw [e]
      generalize L.raw.startNewLine cfg = p at hrep
      obtain ⟨more, raw⟩ := p
      simp only [] at hrep ⊢
      cases more with
      | false => exact ⟨_, rfl, hrep, rfl, h.started⟩
      | true =>
        simp only [Bool.not_true, Bool.false_eq_true, if_false]
        cases rep with
        | false =>
          simp only [Bool.false_eq_true, if_false]
          exact ih ⟨hrep, rfl, h.started⟩
        | true =>
          simp only [if_true, h.started]
          cases L.started with
          | true => exact ⟨_, rfl, hrep, rfl, rfl⟩
          | false =>
            simp only [Bool.false_eq_true, if_false]
            exact ih ⟨hrep, rfl, rfl⟩
    | panic => rw [hnx] at hn; rw [hn]; exact ⟨_, rfl, h⟩
    | got c k r1 =>
      rw [hnx] at hn
      obtain ⟨b1, e, h1⟩ := hn
      rw [e]
      simp only []
      have hE := endLine_refines h1
      cases hc : cfg.cat c
      case escape =>
        simp only [h1.slice_cur]
        have hcs := readCS_refines cfg (r1.line.length + 1) h1
        cases hr : readCS cfg (r1.line.length + 1) r1 with
        | ok x =>
          rw [hr] at hcs
          obtain ⟨b2, e2, h2⟩ := hcs
          rw [e2]
          exact ⟨_, rfl, h2, rfl, h.started⟩
        | panic => rw [hr] at hcs; rw [hcs]; exact ⟨_, rfl, h1, h.st, h.started⟩
        | fuel => rw [hr] at hcs; rw [hcs]; exact ⟨_, rfl, h1, h.st, h.started⟩
      case endOfLine =>
        obtain ⟨bE, eE, hEr⟩ := hE
        simp only [eE, h.st]
        cases L.st with
        | newLine => exact ⟨_, rfl, hEr, rfl, h.started⟩
        | midLine => exact ⟨_, rfl, hEr, rfl, h.started⟩
        | skipBlanks => exact ih ⟨hEr, rfl, h.started⟩
      case space =>
        simp only [h.st]
        cases hst : L.st with
        | midLine => exact ⟨_, rfl, h1, rfl, h.started⟩
        | newLine => exact ih ⟨h1, rfl, h.started⟩
        | skipBlanks => exact ih ⟨h1, rfl, h.started⟩
      case superscript =>
        simp only []
        have cr := caret_refines h1 c true (by simp)
        cases hcr : r1.caret c true with
        | no => rw [hcr] at cr; rw [cr]; exact ⟨_, rfl, h1, rfl, h.started⟩
        | panic => rw [hcr] at cr; rw [cr]; exact ⟨_, rfl, h1, h.st, h.started⟩
        | yes r' =>
          rw [hcr] at cr
          obtain ⟨b', e', hrep⟩ := cr
          rw [e']
          exact ih ⟨hrep, h.st, h.started⟩
      case comment =>
        obtain ⟨bE, eE, hEr⟩ := hE
        simp only [eE]
        exact ih ⟨hEr, h.st, h.started⟩
      case ignored => exact ih ⟨h1, h.st, h.started⟩
      case invalid => exact ⟨_, rfl, h1, h.st, h.started⟩
      all_goals exact ⟨_, rfl, h1, rfl, h.started⟩

theorem RepL.mu {B : BLexer} {L : Lexer} (h : RepL B L) : B.mu = L.mu := by
  unfold BLexer.mu Lexer.mu
  rw [h.raw.slice_src, h.raw.slice_cur]

theorem bLexAllF_eq (cfg : Cfg) (rep : Bool) : ∀ (F : Nat) {B : BLexer} {L : Lexer}, RepL B L →
    bLexAllF cfg rep F B = some (lexAllF cfg rep F L) := by
  intro F
  induction F with
  | zero => intros; rfl
  | succ F ih =>
    intro B L h
    obtain ⟨B', e, hrep⟩ := nextF_refines cfg rep (L.mu + 1) h
    simp only [bLexAllF, lexAllF, Lexer.next, h.mu, e]
    generalize Lexer.nextF cfg rep (L.mu + 1) L = p at hrep
    obtain ⟨res, L'⟩ := p
    cases res <;> simp [ih hrep]

end Bytes
end C03

namespace C03

/-- Mutant 25 of the sweep (`mutants/C03/25-…`): the newline step guarded by
`char_index < char_offset` and done before the offset test. -/
def traceLoop25 (off : Nat) : Nat → Nat → Nat → List Char → List Char → Nat × Nat × List Char
  | _, ln, ls, tail, [] => (ln, ls, tail)
  | i, ln, ls, tail, c :: t =>
    let (ln', ls', tail') := if c = '\n' ∧ i < off then (ln + 1, i + 1, t) else (ln, ls, tail)
    if i = off then (ln', ls', tail') else traceLoop25 off (i + 1) ln' ls' tail' t

theorem traceLoop25_eq (off : Nat) : ∀ (rem : List Char) (i ln ls : Nat) (tail : List Char), i ≤ off →
    traceLoop25 off i ln ls tail rem = traceLoop off i ln ls tail rem := by
  intro rem
  induction rem with
  | nil => intros; rfl
  | cons c t ih =>
    intro i ln ls tail hi
    simp only [traceLoop25, traceLoop]
    by_cases h : i = off
    · subst h; simp
    · have hlt : i < off := by omega
      by_cases hc : c = '\n'
      · simp only [hc, hlt, and_self, if_true, h, if_false]; exact ih _ _ _ _ (by omega)
      · simp only [hc, false_and, if_false, h]; exact ih _ _ _ _ (by omega)

namespace Bytes

/-- Mutant 23 of the sweep (`mutants/C03/23-…`): `self.next_line = end + num_spaces.max(1)`. -/
def BRaw.startNewLine23 (cfg : Cfg) (b : BRaw) : Option (Bool × BRaw) :=
  match sliceFrom b.cur b.pos with
  | none => none
  | some tail =>
    let key := b.key + tail.length + b.trimmed
    if byteLen b.src ≤ b.nextLine then some (false, { b with key := key, pos := 0, cur := [] })
    else
      match sliceFrom b.src b.nextLine with
      | none => none
      | some s =>
        match lineLoop b.nextLine 0 s with
        | (e, nsp) =>
          match sliceRange b.src b.nextLine e with
          | none => none
          | some content =>
            match cfg.endline with
            | none =>
              some (true, { b with key := key, pos := 0, cur := content, trimmed := nsp,
                                   nextLine := e + max nsp 1 })
            | some ch =>
              some (true, { b with key := key, pos := 0, cur := content ++ [ch],
                                   trimmed := nsp - 1, nextLine := e + max nsp 1 })

end Bytes
end C03
