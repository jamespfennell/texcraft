import TexcraftModel.Model.C16

/-! Byte-level round trips for C16 (DVI): every fixed-width and variable-width form the writer
produces is read back by the reader of that width. -/
namespace C16

theorem rdU1 (a : Nat) (r : List Nat) : rdU 1 (a :: r) = some (a, r) := rfl

/-- The `n`-byte big-endian form of `u`, for `n ≤ 4`; `be 2` is `be2`. -/
def be (n u : Nat) : List Nat := (be4 u).drop (4 - n)

theorem rdU_be {n u : Nat} (hn : 1 ≤ n ∧ n ≤ 4) (hu : u < 256 ^ n) (r : List Nat) :
    rdU n (be n u ++ r) = some (u, r) := by
  -- Horner's rule on the bytes; each further byte extends the residue by a factor 256
  have key : ∀ {a b c d e f g : Nat}, e = d + 256 * c → f = e + 65536 * b →
      g = f + 16777216 * a → c * 256 + d = e ∧ (b * 256 + c) * 256 + d = f ∧
        ((a * 256 + b) * 256 + c) * 256 + d = g := by omega
  obtain ⟨v2, v3, v4⟩ := key (d := u % 256) (c := u / 256 % 256) (b := u / 65536 % 256)
    (a := u / 16777216 % 256) Nat.mod_mul Nat.mod_mul Nat.mod_mul
  have hm := Nat.mod_eq_of_lt hu
  obtain rfl | rfl | rfl | rfl : n = 1 ∨ n = 2 ∨ n = 3 ∨ n = 4 := by omega
  · exact congrArg (fun x => some (x, r)) hm
  · exact congrArg (fun x => some (x, r)) (v2.trans hm)
  · exact congrArg (fun x => some (x, r)) (v3.trans hm)
  · exact congrArg (fun x => some (x, r)) (v4.trans hm)

theorem rdU2_be2 (u : Nat) (h : u < 65536) (r : List Nat) : rdU 2 (be2 u ++ r) = some (u, r) :=
  rdU_be (n := 2) (by decide) h r

theorem rdU4_be4 (u : Nat) (h : u < 4294967296) (r : List Nat) :
    rdU 4 (be4 u ++ r) = some (u, r) :=
  rdU_be (n := 4) (by decide) h r

theorem rdI_be {n u : Nat} {i : Int} (hn : 1 ≤ n ∧ n ≤ 4)
    (h : u < 256 ^ n ∧ signedOf n u = i) (r : List Nat) : rdI n (be n u ++ r) = some (i, r) := by
  simp only [rdI, rdU_be hn h.1, h.2]

/-- The values of an `n`-byte two's complement number: the range of `Int.bmod · (256 ^ n)`.
`InS 4 i` is `fitsI32 i`, and the tests of `i32var` are `InS 1 i`, `InS 2 i`, `InS 3 i`, by evaluation. -/
def InS (n : Nat) (i : Int) : Prop :=
  -(((256 ^ n : Nat) : Int) / 2) ≤ i ∧ i < (((256 ^ n : Nat) : Int) + 1) / 2

theorem InS.mono {n m : Nat} {i : Int} (h : InS n i) (hnm : n ≤ m) : InS m i := by
  have : 256 ^ n ≤ 256 ^ m := Nat.pow_le_pow_right (by decide) hnm
  unfold InS at *
  omega

theorem InS.fits {n : Nat} {i : Int} (h : InS n i) (hn : n ≤ 4) : fitsI32 i := h.mono hn

theorem signedOf_eq_bmod {n u : Nat} (hn : 1 ≤ n) (hu : u < 256 ^ n) :
    signedOf n u = (u : Int).bmod (256 ^ n) := by
  have e1 : 2 ^ (8 * n) = 256 ^ n := Nat.pow_mul 2 8 n
  have e2 : 2 ^ (8 * n) = 2 * 2 ^ (8 * n - 1) := by
    rw [← Nat.pow_succ', Nat.succ_eq_add_one, Nat.sub_add_cancel (by omega)]
  rw [Int.bmod_def, Int.emod_eq_of_lt (Int.natCast_nonneg u) (Int.ofNat_lt.2 hu), signedOf, e1]
  -- `signedOf` compares with `2 ^ (8 * n - 1)`, `bmod` with `(256 ^ n + 1) / 2`: the same number
  have : ((256 ^ n : Nat) : Int) = 2 * (2 ^ (8 * n - 1) : Nat) := by omega
  have : ((2 ^ (8 * n - 1) : Nat) : Int) = (((256 ^ n : Nat) : Int) + 1) / 2 := by omega
  simp only [← Int.ofNat_lt (n := u), this]

theorem signedOf_range {n u : Nat} (hn : 1 ≤ n) (hu : u < 256 ^ n) : InS n (signedOf n u) := by
  rw [signedOf_eq_bmod hn hu]
  exact ⟨Int.le_bmod (Nat.pow_pos (by decide)), Int.bmod_lt (Nat.pow_pos (by decide))⟩

theorem twos {n : Nat} (hn : 1 ≤ n) {i : Int} (h : InS n i) :
    (i % (256 ^ n : Nat)).toNat < 256 ^ n ∧ signedOf n (i % (256 ^ n : Nat)).toNat = i := by
  have hp : (0 : Int) < (256 ^ n : Nat) := Int.ofNat_lt.2 (Nat.pow_pos (by decide))
  have hlt : (i % (256 ^ n : Nat)).toNat < 256 ^ n :=
    (Int.toNat_lt' (Nat.pow_pos (by decide))).2 (Int.emod_lt_of_pos i hp)
  refine ⟨hlt, ?_⟩
  rw [signedOf_eq_bmod hn hlt, Int.toNat_of_nonneg (Int.emod_nonneg i (Int.ne_of_gt hp)),
    Int.emod_bmod, Int.bmod_eq_of_le h.1 h.2]

theorem toU32_spec (i : Int) (h : fitsI32 i) : toU32 i < 256 ^ 4 ∧ signedOf 4 (toU32 i) = i :=
  twos (n := 4) (by decide) h

theorem rdI4_i32be (i : Int) (h : fitsI32 i) (r : List Nat) :
    rdI 4 (i32be i ++ r) = some (i, r) :=
  rdI_be (n := 4) (by decide) (toU32_spec i h) r

theorem rdI32s_flatten (ps : List Int) (h : ∀ p ∈ ps, fitsI32 p) (r : List Nat) :
    rdI32s ps.length ((ps.map i32be).flatten ++ r) = some (ps, r) := by
  induction ps with
  | nil => rfl
  | cons p ps ih =>
    simp only [List.map_cons, List.flatten_cons, List.length_cons, List.append_assoc, rdI32s,
      rdI4_i32be p (h p List.mem_cons_self), ih fun q hq => h q (List.mem_cons_of_mem _ hq)]

theorem strLen_of_le {s : List Nat} (h : s.length ≤ 255) : strLen s = s.length :=
  Nat.min_eq_left h

theorem rdBytes_take (s r : List Nat) : rdBytes s.length (s ++ r) = some (s, r) := by
  simp [rdBytes]

theorem strip223_replicate (k : Nat) (r : List Nat) (h : r.head? ≠ some 223) :
    strip223 (List.replicate k 223 ++ r) = (k, r) := by
  induction k with
  | zero =>
    cases r with
    | nil => rfl
    | cons a t =>
      have : a ≠ 223 := by simpa using h
      simp [strip223, this]
  | succ k ih => simp [List.replicate_succ, strip223, ih]

theorem byte_ne_zero {u B : Nat} (hB : 0 < B) (h : u < 256 * B) : u / B % 256 ≠ 0 ↔ B ≤ u := by
  rw [Nat.mod_eq_of_lt ((Nat.div_lt_iff_lt_mul hB).2 h), ne_eq, Nat.div_eq_zero_iff_lt hB,
    Nat.not_lt]

theorem u32var_spec (m u : Nat) (h : u < 4294967296) :
    ∃ k bs, k < 4 ∧ u32var m u = (m + k) :: bs ∧ (∀ r, rdU (k + 1) (bs ++ r) = some (u, r)) ∧
      bs.length = k + 1 ∧ (k = 0 ∨ 256 ^ k ≤ u) := by
  unfold u32var
  have e1 := byte_ne_zero (u := u) (B := 16777216) (by decide) h
  by_cases h1 : 16777216 ≤ u
  · exact ⟨3, be 4 u, by decide, if_pos (e1.2 h1), rdU_be (n := 4) (by decide) h, rfl, .inr h1⟩
  have l1 : u < 16777216 := Nat.lt_of_not_le h1
  have e2 := byte_ne_zero (u := u) (B := 65536) (by decide) l1
  by_cases h2 : 65536 ≤ u
  · exact ⟨2, be 3 u, by decide, by rw [if_neg (mt e1.1 h1), if_pos (e2.2 h2)]; rfl,
      rdU_be (n := 3) (by decide) l1, rfl, .inr h2⟩
  have l2 : u < 65536 := Nat.lt_of_not_le h2
  have e3 := byte_ne_zero (u := u) (B := 256) (by decide) l2
  by_cases h3 : 256 ≤ u
  · exact ⟨1, be 2 u, by decide, by rw [if_neg (mt e1.1 h1), if_neg (mt e2.1 h2), if_pos (e3.2 h3)]; rfl,
      rdU_be (n := 2) (by decide) l2, rfl, .inr h3⟩
  exact ⟨0, be 1 u, by decide, by rw [if_neg (mt e1.1 h1), if_neg (mt e2.1 h2), if_neg (mt e3.1 h3)]; rfl,
    rdU_be (n := 1) (by decide) (Nat.lt_of_not_le h3), rfl, .inl rfl⟩

theorem u32var_length_le (m : Nat) {n u : Nat} (hn : 1 ≤ n) (h : u < 256 ^ n)
    (h32 : u < 4294967296) : (u32var m u).length ≤ n + 1 := by
  obtain ⟨k, bs, -, heq, -, hlen, hk⟩ := u32var_spec m u h32
  rw [heq, List.length_cons, hlen]
  rcases hk with rfl | hk
  · omega
  · have : k < n := (Nat.pow_lt_pow_iff_right (by omega)).1 (Nat.lt_of_le_of_lt hk h)
    omega

theorem i32var_spec (m : Nat) (i : Int) (h : fitsI32 i) :
    ∃ k bs, k < 4 ∧ i32var m i = (m + k) :: bs ∧ (∀ r, rdI (k + 1) (bs ++ r) = some (i, r)) ∧
      bs.length = k + 1 ∧ (k = 0 ∨ ¬ InS k i) := by
  unfold i32var
  by_cases h1 : -128 ≤ i ∧ i < 128
  · have T := twos (n := 1) (by decide) h1
    refine ⟨0, be 1 (i % 256).toNat, by decide, ?_, rdI_be (n := 1) (by decide) T, rfl, .inl rfl⟩
    rw [if_pos h1]
    exact congrArg (fun y => [m, y]) (Nat.mod_eq_of_lt T.1).symm
  by_cases h2 : -32768 ≤ i ∧ i < 32768
  · exact ⟨1, be 2 (i % 65536).toNat, by decide, by rw [if_neg h1, if_pos h2]; rfl,
      rdI_be (n := 2) (by decide) (twos (n := 2) (by decide) h2), rfl, .inr h1⟩
  by_cases h3 : -8388608 ≤ i ∧ i < 8388608
  · refine ⟨2, be 3 (if i < 0 then toU32 i - 4278190080 else toU32 i), by decide,
      by rw [if_neg h1, if_neg h2, if_pos h3]; rfl, rdI_be (n := 3) (by decide) ?_, rfl, .inr h2⟩
    -- `toU32 i` is `i` or `i + 2^32`; taking `255 * 2^24` off the latter leaves `i + 2^24`
    have T := toU32_spec i h
    unfold signedOf at *
    generalize toU32 i = w at T ⊢
    split <;> split <;> omega
  · exact ⟨3, be 4 (toU32 i), by decide, by rw [if_neg h1, if_neg h2, if_neg h3]; rfl,
      rdI4_i32be i h, rfl, .inr h3⟩

theorem i32var_length_le (m : Nat) {n : Nat} {i : Int} (hn : 1 ≤ n ∧ n ≤ 4) (h : InS n i) :
    (i32var m i).length ≤ n + 1 := by
  obtain ⟨k, bs, -, heq, -, hlen, hk⟩ := i32var_spec m i (h.fits hn.2)
  rw [heq, List.length_cons, hlen]
  rcases hk with rfl | hk
  · omega
  · have : ¬ n ≤ k := fun hnk => hk (h.mono hnk)
    omega

end C16
