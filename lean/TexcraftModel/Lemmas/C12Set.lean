import TexcraftModel.Model.C12
import TexcraftModel.Lemmas.C15

/-! C12: every line box is set to its width — `lineSetVerdict` holds of C15's model of
`HBox::pack` (`C15.setGlue` on the totals `C15.loop` accumulates). -/
namespace C12

/-- C15's `[Scaled; 4]` totals as the list `lineSetVerdict` reads. -/
def totalsList (t : C15.Totals) : List Int := [t.normal, t.fil, t.fill, t.filll]

theorem highestNonzero_totals (t : C15.Totals) :
    highestNonzero (totalsList t) = t.dominating.toNat ∧
    (totalsList t)[t.dominating.toNat]?.getD 0 = t.get t.dominating := by
  unfold C15.Totals.dominating
  show (if t.filll ≠ 0 then 3 else if t.fill ≠ 0 then 2 else if t.fil ≠ 0 then 1 else 0) = _ ∧ _
  split
  · exact ⟨rfl, rfl⟩
  · split
    · exact ⟨rfl, rfl⟩
    · split <;> exact ⟨rfl, rfl⟩

/-- `lineSetVerdict` asks, regime by regime, what `setGlue` stores. -/
theorem lineSet_setGlue (h d nat : Int) (pw : C15.PackWidth) (st sh : C15.Totals) (b : C15.HBox)
    (hb : b = C15.setGlue h d nat (st.get st.dominating) st.dominating (sh.get sh.dominating)
      sh.dominating pw) :
    lineSetVerdict nat (pw.width nat) (totalsList st) (totalsList sh) b.order.toNat b.num b.den = none := by
  obtain ⟨hs1, hs2⟩ := highestNonzero_totals st
  obtain ⟨hh1, hh2⟩ := highestNonzero_totals sh
  unfold lineSetVerdict
  simp only [hs1, hs2, hh1, hh2, C15.Order.toNat_eq_zero]
  rcases Int.lt_trichotomy (pw.width nat - nat) 0 with hx | hx | hx
  · rw [if_neg (Int.lt_asymm hx), if_pos hx]
    by_cases hsh : sh.get sh.dominating = 0
    · rw [if_pos hsh]
    · rw [if_neg hsh]
      by_cases hov : sh.dominating = .normal ∧ sh.get sh.dominating < -(pw.width nat - nat)
      · rw [if_pos hov]
      · rw [if_neg hov, hb.trans (C15.setGlue_shrink hx hov hsh)]
        simp [hsh, C15.fill_key]
  · rw [hx, if_neg (Int.lt_irrefl 0), if_neg (Int.lt_irrefl 0)]
  · rw [if_pos hx]
    by_cases hst : st.get st.dominating = 0
    · rw [if_pos hst]
    · rw [if_neg hst, hb.trans (C15.setGlue_stretch hx hst)]
      simp [hst, C15.fill_key]

end C12
