import TexcraftModel.Model.C17
import TexcraftModel.Lemmas.C11Dims
/-! Lemmas for `compress` (C17): the greedy interval cover is optimal and monotone in the
tolerance (which is what makes the binary search of the Rust code correct), and the
executable checker `checkCompress` is sound for the specification. -/
namespace C17

theorem head_le {f : Int} {t : List Int} (hs : (f :: t).Pairwise (· ≤ ·)) : ∀ v ∈ f :: t, f ≤ v := by
  intro v hv
  rcases List.mem_cons.1 hv with rfl | h
  · exact Int.le_refl _
  · exact (List.pairwise_cons.1 hs).1 v h

theorem greedyStarts_le_cover (δ : Int) (l : List Int) (r : Int) (C : List Int)
    (h : ∀ v ∈ l, v > r → ∃ c ∈ C, c ≤ v ∧ v ≤ c + δ) : (greedyStarts δ r l).length ≤ C.length := by
  fun_induction greedyStarts δ r l generalizing C with
  | case1 => exact Nat.zero_le _
  | case2 r a t har ih =>
    -- the interval `c` that covers `a` reaches no further than `a + δ`: remove it from `C`
    obtain ⟨c, hc, h1, h2⟩ := h a List.mem_cons_self har
    have := ih (C.erase c) (fun w hw hwr => by
      obtain ⟨c', hc', h3, h4⟩ := h w (List.mem_cons_of_mem _ hw) (by omega)
      have hne : c' ≠ c := fun e =>
        Int.not_le.2 hwr (Int.le_trans (e ▸ h4) (Int.add_le_add_right h1 δ))
      exact ⟨c', (List.mem_erase_of_ne hne).2 hc', h3, h4⟩)
    rw [List.length_erase_of_mem hc] at this
    exact Nat.add_le_of_le_sub (List.length_pos_of_mem hc) this
  | case3 r a t har ih => exact ih C (fun w hw hwr => h w (List.mem_cons_of_mem _ hw) hwr)

theorem greedyStarts_covers (δ : Int) (hδ : 0 ≤ δ) (l : List Int) (r : Int) (hs : l.Pairwise (· ≤ ·)) :
    ∀ v ∈ l, v > r → ∃ c ∈ greedyStarts δ r l, c ≤ v ∧ v ≤ c + δ := by
  fun_induction greedyStarts δ r l with
  | case1 => nofun
  | case2 r a t har ih =>
    have hs' := List.pairwise_cons.1 hs
    intro v hv hvr
    rcases List.mem_cons.1 hv with rfl | hv
    · exact ⟨v, List.mem_cons_self, Int.le_refl _, Int.le_add_of_nonneg_right hδ⟩
    · by_cases hw : v > a + δ
      · obtain ⟨c, hc, h1, h2⟩ := ih hs'.2 v hv hw
        exact ⟨c, List.mem_cons_of_mem _ hc, h1, h2⟩
      · exact ⟨a, List.mem_cons_self, hs'.1 v hv, Int.not_lt.1 hw⟩
  | case3 r a t har ih =>
    intro v hv hvr
    rcases List.mem_cons.1 hv with rfl | hv
    · exact absurd hvr har
    · exact ih (List.pairwise_cons.1 hs).2 v hv hvr

theorem greedyCount_eq (δ : Int) (a : Int) (t : List Int) :
    greedyCount δ (a :: t) = (greedyStarts δ (a - 1) (a :: t)).length := by
  rw [greedyStarts, if_pos (Int.sub_one_lt_of_le (Int.le_refl a)), List.length_cons, Nat.add_comm]
  rfl

theorem greedyCount_le_cover (δ : Int) (vals C : List Int) (h : Covers δ C vals) :
    greedyCount δ vals ≤ C.length := by
  cases vals with
  | nil => exact Nat.zero_le _
  | cons a t =>
    rw [greedyCount_eq]
    exact greedyStarts_le_cover δ (a :: t) (a - 1) C (fun v hv _ => h v hv)

theorem greedyCount_covers (δ : Int) (hδ : 0 ≤ δ) (vals : List Int) (hs : vals.Pairwise (· ≤ ·)) :
    ∃ C, C.length = greedyCount δ vals ∧ Covers δ C vals := by
  cases vals with
  | nil => exact ⟨[], rfl, nofun⟩
  | cons a t =>
    exact ⟨greedyStarts δ (a - 1) (a :: t), (greedyCount_eq δ a t).symm, fun v hv =>
      greedyStarts_covers δ hδ (a :: t) (a - 1) hs v hv (Int.sub_one_lt_of_le (head_le hs v hv))⟩

theorem covers_mono (δ δ' : Int) (h : δ ≤ δ') (C vals : List Int) (hc : Covers δ C vals) :
    Covers δ' C vals := by
  intro v hv
  obtain ⟨c, hc, h1, h2⟩ := hc v hv
  exact ⟨c, hc, h1, Int.le_trans h2 (Int.add_le_add_left h c)⟩

theorem greedyCount_mono (δ δ' : Int) (hδ : 0 ≤ δ) (hδδ : δ ≤ δ') (vals : List Int)
    (hs : vals.Pairwise (· ≤ ·)) : greedyCount δ' vals ≤ greedyCount δ vals := by
  obtain ⟨C, hC, hcov⟩ := greedyCount_covers δ hδ vals hs
  rw [← hC]
  exact greedyCount_le_cover δ' vals C (covers_mono δ δ' hδδ C vals hcov)

/-- `insertD`/`dedupSort` are C11's `insertAsc`/`sortDedup`: both model `dedup_values` of `compress`. -/
theorem insertD_eq (x : Int) (l : List Int) : insertD x l = C11.insertAsc x l := by
  induction l with
  | nil => rfl
  | cons y t ih => simp only [insertD, C11.insertAsc, ih]

theorem dedupSort_eq (l : List Int) : dedupSort l = C11.sortDedup l := by
  induction l with
  | nil => rfl
  | cons y t ih => rw [dedupSort, List.foldr_cons, ← dedupSort, ih, insertD_eq, C11.sortDedup_cons]

theorem mem_insertD (x y : Int) (l : List Int) : y ∈ insertD x l ↔ y = x ∨ y ∈ l := by
  rw [insertD_eq]; exact C11.mem_insertAsc

theorem mem_dedupSort (y : Int) (l : List Int) : y ∈ dedupSort l ↔ y ∈ l := by
  rw [dedupSort_eq]; exact C11.mem_sortDedup

theorem insertD_sorted (x : Int) (l : List Int) (h : l.Pairwise (· < ·)) :
    (insertD x l).Pairwise (· < ·) := by
  rw [insertD_eq]; exact C11.insertAsc_sorted h

theorem dedupSort_sorted (l : List Int) : (dedupSort l).Pairwise (· < ·) := by
  rw [dedupSort_eq]; exact C11.sortDedup_sorted l

theorem listMax_ge_head (x : Int) (t : List Int) : x ≤ listMax (x :: t) := by
  cases t with
  | nil => exact Int.le_refl _
  | cons y t =>
    simp only [listMax]
    split
    · exact Int.le_of_lt ‹_›
    · exact Int.le_refl _

theorem checkCompress_sound (values : List Int) (maxSize : Nat) (table : List Int)
    (m : List (Int × Nat)) (h : checkCompress values maxSize table m = (true, true, true)) :
    CompressSpec values maxSize table m := by
  simp only [checkCompress, Prod.mk.injEq] at h
  obtain ⟨hle, hnear, hmin⟩ := h
  refine ⟨usedTol (dedupSort values) m (table.length - 1), listMax_ge_head 0 _, ?_, ?_, ?_⟩
  · simpa using hle
  · intro v hv
    have := (List.all_eq_true.1 hnear) v ((mem_dedupSort v values).2 hv)
    split at this
    · split at this
      · simp only [Bool.and_eq_true, decide_eq_true_eq] at this
        exact ⟨_, _, ‹_›, this.1.1, ‹_›, this.2⟩
      · simp only [Bool.and_false, Bool.false_eq_true] at this
    · cases this
  · intro δ' C h0 hlt hC hcov
    simp only [Bool.or_eq_true, decide_eq_true_eq] at hmin
    rcases hmin with h | h
    · exact absurd (h ▸ hlt) (Int.not_lt.2 h0)
    · exact Nat.not_lt.2 (Nat.le_trans (greedyCount_le_cover _ _ C
        (covers_mono δ' _ (Int.le_sub_one_of_lt hlt) C _
          (fun v hv => hcov v ((mem_dedupSort v values).1 hv)))) hC) h

end C17
