import TexcraftModel.Lemmas.C10

/-! The central case analysis of C10: on sixteen-bit sizes whose `lf` fits in the file, the repaired `checks` either
returns one of the documented errors or the layout `slicesFrom 0 parts` of an `Accepted` table (`checks_cases`;
`rawDeserialize_spec` for whole files); every `Consistent` table is accepted (`checks_of_consistent`). The converse
fails only for an empty character range (`bc = ec + 1`, or `bc = ec = 32767` by the saturating comparison), where
`ec ≤ 255` is not tested. -/
namespace C10

theorem Consistent.parts_nonneg {s : Sizes} (hc : Consistent s) : ∀ u ∈ s.parts, 0 ≤ u :=
  s.parts_nonneg_iff.mpr (by cases hc; omega)

theorem Consistent.lf_eq {s : Sizes} (hc : Consistent s) : s.lf = sumI s.parts :=
  hc.lf.trans (sumI_parts s).symm

theorem Consistent.inRange {s : Sizes} (hc : Consistent s) : s.InRange :=
  s.inRange_iff.mpr (by cases hc; omega)

/-- A size table the reader accepts for a file of `len` bytes: the reader's side of what `Consistent` is for a writer. -/
structure Sizes.Accepted (len : Nat) (s : Sizes) : Prop where
  lf : s.lf = sumI s.parts
  nonneg : ∀ u ∈ s.parts, 0 ≤ u
  fit : 4 * s.lf ≤ len
  lh : 2 ≤ s.lh
  inRange : s.InRange

theorem finish_eq (len : Nat) (s : Sizes) (bc ec : Nat) (junk : Bool)
    (hnn : ∀ u ∈ s.parts, 0 ≤ u) (hsum : sumI s.parts ≤ 32767) (hfit : 4 * sumI s.parts ≤ len) :
    finish len s bc ec junk = .ok ⟨s, bc, ec, slicesFrom 0 s.parts⟩ junk := by
  have hg := getSlices_eq len s.parts 0 hnn (by omega)
  have := s.parts_nonneg_iff.mp hnn
  rw [sumI_parts] at hsum
  have hnum := numChars_eq lim16 s (by simp only [lim16]; omega) (by simp only [lim16]; omega)
  unfold Sizes.parts at hg
  simp only [finish, hnum, hg, Sizes.parts]

theorem checks_of_consistent (s : Sizes) (hc : Consistent s) (len : Nat) (junk : Bool)
    (hfit : 4 * s.lf ≤ len) : checks false s len junk = .ok (layoutOf s) junk := by
  have hnn := hc.parts_nonneg
  have hlf := hc.lf_eq
  have hv := validLf_eq lim32 s hnn (by have := hc.fits; simp only [lim32]; omega)
  obtain ⟨c1, c2, c3, c3', c4, c5, c6, c7, c8, c9, c10, c11, c12, c13, c14, c15⟩ := hc
  simp only [checks, Bool.false_eq_true, if_false, hv, if_neg (by omega : ¬ s.ec = 32767), lim16]
  rw [if_neg (by omega), if_neg (Int.not_lt.mpr c1), if_neg (Int.not_lt.mpr c3),
    if_neg (fun h => Int.not_lt.mpr c4 h.2), if_neg (by omega), if_neg (by omega),
    if_neg (Int.not_lt.mpr c12), if_neg (by omega),
    finish_eq len s _ _ junk hnn (by omega) (by omega)]
  simp only [layoutOf, Int.lt_add_one_iff]
  split <;> rfl

/-- `o` is a documented error or has the property `P`. -/
def ErrOr (P : Outcome → Prop) (o : Outcome) : Prop := (∃ e j, o = .err e j) ∨ P o

theorem ErrOr.guard {P : Outcome → Prop} {c : Prop} [Decidable c] {e : DeErr} {j : Bool} {o : Outcome}
    (h : ¬ c → ErrOr P o) : ErrOr P (if c then .err e j else o) := by
  by_cases hc : c
  · exact .inl ⟨e, j, if_pos hc⟩
  · rw [if_neg hc]
    exact h hc

theorem checks_cases (s : Sizes) (hr : s.InRange) (len : Nat) (junk : Bool) (hfit : 4 * s.lf ≤ len) :
    ErrOr (fun o => (∃ bc ec, o = .ok ⟨s, bc, ec, slicesFrom 0 s.parts⟩ junk) ∧ s.Accepted len)
      (checks false s len junk) := by
  simp only [checks, Bool.false_eq_true, if_false]
  generalize hec1 : (if s.ec = 32767 then (32767 : Int) else s.ec + 1) = ec1
  refine .guard fun h1 => .guard fun h2 => .guard fun h3 => .guard fun h4 => ?_
  -- the cast of `bc` cannot fail: where it is made, `bc ≤ ec ≤ 255` by the two tests before it
  rw [if_neg (by omega : ¬ (s.bc < ec1 ∧ 255 < s.bc))]
  refine .guard fun h5 => .guard fun h6 => ?_
  have hnn := s.parts_nonneg_iff.mpr (by omega)
  -- the sixteen-bit range is needed only here: the sum of twelve such values fits in 32 bits
  have hr16 := s.inRange_iff.mp hr
  rw [validLf_eq lim32 s hnn (by rw [sumI_parts]; simp only [lim32]; omega)]
  refine .guard fun h8 => ?_
  simp only [lim16] at h8
  clear hr16 h1 h3 h4 h5 h6 hec1
  exact .inr ⟨⟨_, _, finish_eq len s _ _ junk hnn (by omega) (by omega)⟩, by omega, hnn, hfit,
    Int.not_lt.mp h2, hr⟩

theorem rawCore_eq_checks (hdr : List Nat) (len : Nat) (s : Sizes) (hs : sizesOf hdr = some s)
    (h3 : 3 < s.lf) (hfit : 4 * s.lf ≤ len) (h24 : 24 ≤ len) :
    rawCore false hdr len = checks false s len (decide (4 * s.lf < len)) := by
  match hdr, hs with
  | b0 :: b1 :: t, hs =>
    have hlf := sizesOf_lf b0 b1 t s hs
    simp only [rawCore, ← hlf, hs, true_and]
    rw [if_neg (by omega), if_neg (by omega), if_neg (by omega), if_neg (by omega)]
    exact congrArg _ (decide_eq_decide.mpr (by omega))
  | [], hs => simp [sizesOf, words] at hs
  | [_], hs => simp [sizesOf, words] at hs

theorem rawDeserialize_cases (b : List Nat) :
    ErrOr (fun o => ∃ s : Sizes, s.InRange ∧ 4 * s.lf ≤ b.length ∧
      o = checks false s b.length (decide (4 * s.lf < b.length))) (rawDeserialize b) := by
  unfold rawDeserialize
  generalize hh : b.take 24 = hdr
  match hdr, hh with
  | [], _ => exact .inl ⟨_, _, rfl⟩
  | [b0], _ => exact .inl ⟨_, _, rfl⟩
  | b0 :: b1 :: t, hh =>
    simp only [rawCore, true_and]
    refine .guard fun h1 => .guard fun h2 => .guard fun h3 => .guard fun h4 => ?_
    have hlen : 24 ≤ (b0 :: b1 :: t).length := by rw [← hh, List.length_take]; omega
    obtain ⟨s, hs, hr⟩ := sizesOf_some _ hlen
    have hlf := sizesOf_lf b0 b1 t s hs
    simp only [hs]
    exact .inr ⟨s, hr, by omega, congrArg _ (decide_eq_decide.mpr (by omega))⟩

theorem rawDeserialize_spec (b : List Nat) :
    (∃ e j, rawDeserialize b = .err e j) ∨
    (∃ s bc ec, rawDeserialize b = .ok ⟨s, bc, ec, slicesFrom 0 s.parts⟩ (decide (4 * s.lf < b.length)) ∧
      s.Accepted b.length) := by
  rcases rawDeserialize_cases b with h | ⟨s, hr, hfit, h⟩
  · exact .inl h
  · rw [h]
    exact (checks_cases s hr _ _ hfit).imp id fun ⟨⟨bc, ec, hok⟩, ha⟩ => ⟨s, bc, ec, hok, ha⟩

theorem rawDeserialize_ok {b : List Nat} {L : RawLayout} {junk : Bool}
    (h : rawDeserialize b = .ok L junk) :
    ∃ s bc ec, L = ⟨s, bc, ec, slicesFrom 0 s.parts⟩ ∧ junk = decide (4 * s.lf < b.length) ∧
      s.Accepted b.length := by
  rcases rawDeserialize_spec b with ⟨e, j, h'⟩ | ⟨s, bc, ec, h', rest⟩
  · cases h'.symm.trans h
  · cases h'.symm.trans h
    exact ⟨s, bc, ec, rfl, rfl, rest⟩

theorem rawDeserialize_headerBytes (s : Sizes) (hr : s.InRange) (h3 : 3 < s.lf) (body : List Nat)
    (hlen : 4 * s.lf ≤ 24 + body.length) :
    rawDeserialize (headerBytes s ++ body) =
      checks false s (24 + body.length) (decide (4 * s.lf < 24 + body.length)) := by
  have hl := headerBytes_length s
  have htake : (headerBytes s ++ body).take 24 = headerBytes s := hl ▸ List.take_left' rfl
  have hlength : (headerBytes s ++ body).length = 24 + body.length := by rw [List.length_append, hl]
  rw [rawDeserialize, htake, hlength]
  exact rawCore_eq_checks _ _ s (sizesOf_headerBytes s hr) h3 (by omega) (by omega)

end C10
