import TexcraftModel.Model.C06
import TexcraftModel.Model.C06Spec
/-!
C06 — the numeric kernels: what the checked operations answer inside their range, `nx_plus_y`,
`checked_div` and `xn_over_d` against §105–§107, `Scaled::new` as one formula in the unit's conversion
fraction, and integer constants against §444–§445.
-/
namespace C06

theorem chk32_ok (x : Int) (h : -2147483648 ≤ x ∧ x ≤ 2147483647) : chk32 x = .ok x := by
  unfold chk32
  rw [if_pos (by simp [inI32]; omega)]

theorem fromInteger_ok (i : Int) (h : -16384 < i ∧ i < 16384) : fromInteger i = some (65536 * i) := by
  unfold fromInteger
  rw [if_neg (by omega)]

theorem fromInteger_none (i : Int) (h : 16384 ≤ i) : fromInteger i = none := by
  unfold fromInteger
  rw [if_pos (Or.inl h)]

theorem nxPlusY_ok (x n y : Int) (h : -maxDimen ≤ x * n + y ∧ x * n + y ≤ maxDimen) :
    nxPlusY x n y = .ok (x * n + y) := by
  unfold nxPlusY
  by_cases hn : n = 0
  · rw [if_pos hn, hn, Int.mul_zero, Int.zero_add]
  · rw [if_neg hn]
    exact if_pos h

/-- The arithmetic of §107: dividing `2^15·A + t` by `d` in two steps, first `u = A + t div 2^15`,
then the remainder of that with the low 15 bits of `t` appended, is exact division. -/
theorem knuth_core (A t d : Int) (hA : 0 ≤ A) (ht : 0 ≤ t) (hd : 0 < d) (u v : Int)
    (hu : u = A + t / 32768) (hv : v = (u % d) * 32768 + t % 32768) :
    (32768 * A + t) / d = 32768 * (u / d) + v / d ∧ (32768 * A + t) % d = v % d ∧
      v / d < 32768 ∧ 0 ≤ v / d ∧ 0 ≤ u / d := by
  have hu0 : 0 ≤ u := by omega
  have hdne : d ≠ 0 := by omega
  have e1 := Int.emod_add_mul_ediv u d
  have r1 := Int.emod_nonneg u hdne
  have r2 := Int.emod_lt_of_pos u hd
  have q1 : 0 ≤ u / d := Int.ediv_nonneg hu0 (by omega)
  have hv0 : 0 ≤ v := by omega
  have e2 := Int.emod_add_mul_ediv v d
  have r3 := Int.emod_nonneg v hdne
  have r4 := Int.emod_lt_of_pos v hd
  have q2 : 0 ≤ v / d := Int.ediv_nonneg hv0 (by omega)
  have q3 : v / d < 32768 := Int.ediv_lt_of_lt_mul hd (by omega)
  have key : v % d + d * (32768 * (u / d) + v / d) = 32768 * A + t := by
    rw [Int.mul_add, Int.mul_left_comm]
    generalize d * (u / d) = DQ at *
    generalize d * (v / d) = DQ2 at *
    omega
  have := (Int.ediv_emod_unique (r := v % d) (q := 32768 * (u / d) + v / d) hd).mpr ⟨key, r3, r4⟩
  exact ⟨this.1, this.2, q3, q2, q1⟩

theorem xnOverD_eq (x n d : Int) (hn : n ≤ 65536) (hd0 : 0 < d) (hd : d ≤ 65536) :
    xnOverD x n d = if (Int.tdiv (x * n) d).natAbs > 1073741823 then .overflow
      else .ok (Int.tdiv (x * n) d, Int.tmod (x * n) d) := by
  have hM : maxDimen = 1073741823 := rfl
  simp only [xnOverD]
  rw [if_neg (by omega), if_neg (by omega)]
  exact ite_congr (propext (by omega)) (fun _ => rfl) (fun _ => rfl)

theorem xnOverD_nonneg (X n d : Int) (hX : 0 ≤ X) (hn0 : 0 ≤ n) (hn : n ≤ 65536) (hd0 : 0 < d)
    (hd : d ≤ 65536) :
    xnOverD X n d = (if (X * n) / d > maxDimen then .overflow else .ok ((X * n) / d, (X * n) % d)) := by
  have hp : 0 ≤ X * n := Int.mul_nonneg hX hn0
  have hq : 0 ≤ (X * n) / d := Int.ediv_nonneg hp (by omega)
  have hM : maxDimen = 1073741823 := rfl
  rw [xnOverD_eq X n d hn hd0 hd, Int.tdiv_eq_ediv_of_nonneg hp, Int.tmod_eq_emod_of_nonneg hp]
  exact ite_congr (propext (by omega)) (fun _ => rfl) (fun _ => rfl)

/-- `nx_plus_y` for `|y| ≤ max_dimen`: the case `n = 0`, which the code answers unchecked, needs no
clause of its own. -/
theorem nxPlusY_val (x n y : Int) (hy : -maxDimen ≤ y ∧ y ≤ maxDimen) :
    nxPlusY x n y = if -maxDimen ≤ x * n + y ∧ x * n + y ≤ maxDimen then .ok (x * n + y) else .overflow := by
  unfold nxPlusY
  by_cases hn : n = 0
  · subst hn; rw [if_pos rfl, Int.mul_zero, Int.zero_add, if_pos hy]
  · rw [if_neg hn]

/-- §458 on a coefficient `ip + f/2^16 ≥ 0` and a conversion fraction `n/d`, in scaled points; `none` is
"Dimension too large". -/
def convVal (n d ip f : Int) : Option Int :=
  if ip * n / d + (f * n + 65536 * (ip * n % d)) / d / 65536 ≥ 16384 then none
  else some (65536 * (ip * n / d) + (f * n + 65536 * (ip * n % d)) / d)

theorem convVal_parts (n d ip f : Int) (hn : 0 < n) (hd : 0 < d) (hip : 0 ≤ ip) (hf0 : 0 ≤ f) :
    0 ≤ ip * n / d ∧ 0 ≤ ip * n % d ∧ ip * n % d < d ∧ 0 ≤ (f * n + 65536 * (ip * n % d)) / d := by
  have hr0 : 0 ≤ ip * n % d := Int.emod_nonneg _ (by omega)
  have hG : 0 ≤ f * n := Int.mul_nonneg hf0 (by omega)
  exact ⟨Int.ediv_nonneg (Int.mul_nonneg hip (by omega)) (by omega), hr0, Int.emod_lt_of_pos _ hd,
    Int.ediv_nonneg (by omega) (by omega)⟩

/-- `n + d ≤ 2^14` is what makes the two `expect`s of `Scaled::new` unreachable: the remainder is below
`d`, and `f·n + 2^16·rem` stays within `max_dimen`. -/
theorem scaledNew_conv (u : TUnit) (n d ip f : Int) (hu : u.frac = (n, d)) (hsp : u ≠ .sp)
    (hn : 0 < n) (hd : 0 < d) (hnd : n + d ≤ 16384) (hip : 0 ≤ ip) (hf0 : 0 ≤ f) (hf : f ≤ 65536) :
    scaledNew ip f u = match convVal n d ip f with | some x => .ok x | none => .overflow := by
  have hM : maxDimen = 1073741823 := rfl
  obtain ⟨hq, hr0, hr1, hF0⟩ := convVal_parts n d ip f hn hd hip hf0
  have hG : 0 ≤ f * n := Int.mul_nonneg hf0 (by omega)
  have hG2 : f * n ≤ 65536 * n := Int.mul_le_mul_of_nonneg_right hf (by omega)
  have ht : 0 ≤ f * n + 65536 * (ip * n % d) := by omega
  have hF1 : (f * n + 65536 * (ip * n % d)) / d ≤ f * n + 65536 * (ip * n % d) := Int.ediv_le_self _ ht
  unfold scaledNew convVal
  simp only [if_neg hsp, hu, xnOverD_nonneg ip n d hip (by omega) (by omega) hd (by omega)]
  by_cases hbig : ip * n / d > maxDimen
  · rw [if_pos hbig, if_pos (by omega)]
  · rw [if_neg hbig]
    simp only [fromInteger_ok (ip * n % d) ⟨by omega, by omega⟩,
      nxPlusY_ok f n (65536 * (ip * n % d)) ⟨by omega, by omega⟩, Int.tdiv_eq_ediv_of_nonneg ht,
      Int.tdiv_eq_ediv_of_nonneg hF0, Int.tmod_eq_emod_of_nonneg hF0, unity]
    generalize ip * n / d = q at *
    generalize (f * n + 65536 * (ip * n % d)) / d = F at *
    -- from here only `0 ≤ q ≤ max_dimen` and `0 ≤ F ≤ 2^30` matter
    have hFb : F ≤ 1073741824 := by omega
    clear hF1 ht hr1 hr0 hG2 hG hf hf0 hip hnd hd hn hsp hu
    rw [chk32_ok (q + F / 65536) ⟨by omega, by omega⟩]
    by_cases hov : q + F / 65536 ≥ 16384
    · simp only [fromInteger_none _ hov]
      rw [if_pos hov]
    · simp only [fromInteger_ok (q + F / 65536) ⟨by omega, by omega⟩]
      rw [if_neg hov, chk32_ok (65536 * (q + F / 65536) + F % 65536) ⟨by omega, by omega⟩]
      congr 1; omega

theorem TUnit.sp_or_frac (u : TUnit) :
    u = .sp ∨ u ≠ .sp ∧ 0 < u.frac.1 ∧ 0 < u.frac.2 ∧ u.frac.1 + u.frac.2 ≤ 16384 := by
  cases u <;> decide

/-- What the coefficient `ip + f/2^16` is worth in a physical unit: `sp` is taken as it is, every other
unit converted. -/
def physVal (u : TUnit) (ip f : Int) : Option Int :=
  if u = .sp then (if ip > 1073741823 then none else some ip) else convVal u.frac.1 u.frac.2 ip f

theorem physVal_sp (ip f : Int) : physVal .sp ip f = if ip > 1073741823 then none else some ip :=
  if_pos rfl

theorem physVal_conv (u : TUnit) (hsp : u ≠ .sp) (ip f : Int) : physVal u ip f = convVal u.frac.1 u.frac.2 ip f :=
  if_neg hsp

theorem physVal_pt (ip f : Int) :
    physVal .pt ip f = if ip + f / 65536 ≥ 16384 then none else some (65536 * ip + f) := by
  rw [physVal_conv .pt (by decide), convVal]
  simp only [TUnit.frac, Int.mul_one, Int.ediv_one, Int.emod_one, Int.mul_zero, Int.add_zero]

theorem scaledNew_val (u : TUnit) (ip f : Int) (hip : 0 ≤ ip) (hf0 : 0 ≤ f) (hf : f ≤ 65536) :
    scaledNew ip f u = match physVal u ip f with | some x => .ok x | none => .overflow := by
  rcases u.sp_or_frac with rfl | ⟨hsp, hn, hd, hnd⟩
  · rw [physVal_sp, scaledNew, if_pos rfl, show maxDimen = 1073741823 from rfl]
    split <;> rfl
  · rw [physVal_conv u hsp, scaledNew_conv u u.frac.1 u.frac.2 ip f rfl hsp hn hd hnd hip hf0 hf]

theorem specXnOverD_nonneg (X n d : Int) (hX : 0 ≤ X) (hn0 : 0 ≤ n) (hd0 : 0 < d) :
    ∃ g, Spec.xnOverD X n d
      = (if (X * n) / d > maxDimen then (g, (X * n) % d, true) else ((X * n) / d, (X * n) % d, false)) := by
  have hXn : X * n = 32768 * ((X / 32768) * n) + (X % 32768) * n := by
    rw [← Int.mul_assoc, ← Int.add_mul, Int.mul_ediv_add_emod]
  obtain ⟨e1, e2, e3, e4, e5⟩ := knuth_core ((X / 32768) * n) ((X % 32768) * n) d
    (Int.mul_nonneg (by omega) hn0) (Int.mul_nonneg (by omega) hn0) hd0 _ _ rfl rfl
  rw [← hXn] at e1 e2
  have hM : maxDimen = 1073741823 := rfl
  simp only [Spec.xnOverD]
  have hx : (if X ≥ 0 then X else -X) = X := if_pos hX
  rw [hx, e1, e2]
  generalize ((X / 32768) * n + ((X % 32768) * n) / 32768) = u at *
  generalize ((u % d) * 32768 + ((X % 32768) * n) % 32768) = v at *
  refine ⟨u, ?_⟩
  have hdec : decide (X ≥ 0) = true := by simp [hX]
  rw [hdec]
  by_cases h : u / d ≥ 32768
  · have : 32768 * (u / d) + v / d > maxDimen := by omega
    simp [h, this]
  · have : ¬ 32768 * (u / d) + v / d > maxDimen := by omega
    simp [h, this]

theorem specXnOverD_odd (X n d : Int) (hX : 0 < X) :
    Spec.xnOverD (-X) n d
      = (-(Spec.xnOverD X n d).1, -(Spec.xnOverD X n d).2.1, (Spec.xnOverD X n d).2.2) := by
  have h1 : ¬ (-X ≥ 0) := by omega
  have h2 : X ≥ 0 := by omega
  simp only [Spec.xnOverD, if_neg h1, if_pos h2, Int.neg_neg, decide_eq_false h1, decide_eq_true h2,
    Bool.false_eq_true, if_false, if_true]

/-- In the same terms as `xnOverD_eq`. When `arith_error` is set, what §107 returns is a leftover of
the computation: the `g`. -/
theorem specXnOverD_eq (x n d : Int) (hn0 : 0 ≤ n) (hd0 : 0 < d) :
    ∃ g, Spec.xnOverD x n d
      = if (Int.tdiv (x * n) d).natAbs > 1073741823 then (g, Int.tmod (x * n) d, true)
        else (Int.tdiv (x * n) d, Int.tmod (x * n) d, false) := by
  have hM : maxDimen = 1073741823 := rfl
  by_cases hx : 0 ≤ x
  · obtain ⟨g, hg⟩ := specXnOverD_nonneg x n d hx hn0 hd0
    have hp : 0 ≤ x * n := Int.mul_nonneg hx hn0
    have hq : 0 ≤ x * n / d := Int.ediv_nonneg hp (by omega)
    refine ⟨g, ?_⟩
    rw [hg, Int.tdiv_eq_ediv_of_nonneg hp, Int.tmod_eq_emod_of_nonneg hp]
    exact ite_congr (propext (by omega)) (fun _ => rfl) (fun _ => rfl)
  · obtain ⟨g, hg⟩ := specXnOverD_nonneg (-x) n d (by omega) hn0 hd0
    have hp : 0 ≤ -x * n := Int.mul_nonneg (by omega) hn0
    have hq : 0 ≤ -x * n / d := Int.ediv_nonneg hp (by omega)
    have e : x * n = -(-x * n) := by rw [Int.neg_mul, Int.neg_neg]
    refine ⟨-g, ?_⟩
    have := specXnOverD_odd (-x) n d (by omega)
    rw [Int.neg_neg] at this
    rw [this, hg, e, Int.neg_tdiv, Int.neg_tmod, Int.tdiv_eq_ediv_of_nonneg hp, Int.tmod_eq_emod_of_nonneg hp]
    by_cases h : -x * n / d > maxDimen
    · rw [if_pos h, if_pos (by omega)]
    · rw [if_neg h, if_neg (by omega)]

/-- Knuth's overflow test of §105 is exact when `|y| ≤ max_answer` (and then `n = 0` needs no clause of
its own: `y` is within the bound). -/
theorem multAndAdd_exact (n x y M : Int) (hy : -M ≤ y ∧ y ≤ M) :
    Spec.multAndAdd n x y M
      = if -M ≤ n * x + y ∧ n * x + y ≤ M then ⟨n * x + y, false⟩ else ⟨0, true⟩ := by
  have pos : ∀ (n x : Int), 0 < n →
      ((x ≤ Int.tdiv (M - y) n ∧ -x ≤ Int.tdiv (M + y) n) ↔ (-M ≤ n * x + y ∧ n * x + y ≤ M)) := by
    intro n x hn
    rw [Int.tdiv_eq_ediv_of_nonneg (by omega), Int.tdiv_eq_ediv_of_nonneg (by omega),
      Int.le_ediv_iff_mul_le hn, Int.le_ediv_iff_mul_le hn, Int.neg_mul, Int.mul_comm x n]
    generalize n * x = p
    constructor <;> intro h <;> omega
  unfold Spec.multAndAdd
  by_cases h0 : n = 0
  · subst h0
    rw [Int.zero_mul, Int.zero_add, if_pos hy]
    simp
  by_cases hneg : n < 0
  · have hn' : 0 < -n := by omega
    have := pos (-n) (-x) hn'
    simp only [Int.neg_mul_neg] at this
    simp only [if_pos hneg, if_neg (show ¬ -n = 0 by omega)]
    exact ite_congr (propext this) (fun _ => by rw [Int.neg_mul_neg]) (fun _ => rfl)
  · have hn' : 0 < n := by omega
    have := pos n x hn'
    simp only [if_neg hneg, if_neg h0]
    exact ite_congr (propext this) (fun _ => rfl) (fun _ => rfl)

/-- `\multiply` on integers (with fixes/C06-a.patch) = Knuth's `mult_integers`. -/
theorem multiplyInt_eq (a b : Int) :
    (match multiplyInt a b with | .set v => Spec.AR.set v | .error => Spec.AR.error) = Spec.multiplyInt a b := by
  unfold multiplyInt Spec.multiplyInt
  rw [Spec.multIntegers, multAndAdd_exact a b 0 2147483647 (by omega), Int.add_zero]
  simp only [inI32, Bool.and_eq_true, decide_eq_true_eq]
  by_cases hc : -2147483647 ≤ a * b ∧ a * b ≤ 2147483647
  · rw [if_pos hc, if_pos (by omega)]; rfl
  · rw [if_neg hc, if_neg (by omega)]; rfl

/-- `i32` division (truncating) is the value of `x_over_n` (§106), which negates to non-negative
operands first. -/
theorem tdiv_eq_xOverN (a b : Int) (hb : b ≠ 0) :
    Int.tdiv a b = (Spec.xOverN a b).val := by
  unfold Spec.xOverN
  rw [if_neg hb]
  by_cases hneg : b < 0
  · simp only [if_pos hneg]
    have e : Int.tdiv a b = -(Int.tdiv a (-b)) := by rw [Int.tdiv_neg, Int.neg_neg]
    rw [e]
    by_cases ha : -a ≥ 0
    · rw [if_pos ha]
      have e2 : Int.tdiv a (-b) = -(Int.tdiv (-a) (-b)) := by rw [Int.neg_tdiv, Int.neg_neg]
      rw [e2, Int.neg_neg, Int.tdiv_eq_ediv_of_nonneg ha]
    · rw [if_neg ha, Int.neg_neg, Int.tdiv_eq_ediv_of_nonneg (by omega)]
  · simp only [if_neg hneg]
    by_cases ha : a ≥ 0
    · rw [if_pos ha, Int.tdiv_eq_ediv_of_nonneg ha]
    · rw [if_neg ha]
      have e2 : Int.tdiv a b = -(Int.tdiv (-a) b) := by rw [Int.neg_tdiv, Int.neg_neg]
      rw [e2, Int.tdiv_eq_ediv_of_nonneg (by omega)]

theorem xOverN_fits (a b : Int) (ha : -2147483648 ≤ a ∧ a ≤ 2147483647) (hb : b ≠ 0)
    (hx : ¬ (a = -2147483648 ∧ b = -1)) :
    -2147483648 ≤ (Spec.xOverN a b).val ∧ (Spec.xOverN a b).val ≤ 2147483647 := by
  rw [← tdiv_eq_xOverN a b hb]
  -- `|a tdiv b| = |a| / |b|`: at most `|a|`, and below `2^31` unless `|b| = 1`
  have h : (Int.tdiv a b).natAbs = a.natAbs / b.natAbs := Int.natAbs_tdiv a b
  by_cases h1 : b = 1
  · rw [h1, Int.tdiv_one]; exact ha
  by_cases h2 : b = -1
  · rw [h2, Int.tdiv_neg, Int.tdiv_one]; omega
  have h3 : a.natAbs / b.natAbs ≤ a.natAbs / 2 := Nat.div_le_div_left (by omega) (by decide)
  have h4 : a.natAbs / 2 ≤ 1073741824 := by omega
  have h5 : (Int.tdiv a b).natAbs ≤ 1073741824 := h ▸ Nat.le_trans h3 h4
  omega

theorem xOverN_err (x n : Int) : (Spec.xOverN x n).err = decide (n = 0) := by
  unfold Spec.xOverN
  by_cases h : n = 0
  · simp [h]
  · rw [if_neg h]
    simp only [decide_eq_false h]
    split <;> split <;> rfl

theorem fits_xOverN (a b : Int) (ha : -2147483648 ≤ a ∧ a ≤ 2147483647) (hb : b ≠ 0)
    (hx : ¬ (a = -2147483648 ∧ b = -1)) : Spec.fits (Spec.xOverN a b).val = true := by
  have := xOverN_fits a b ha hb hx
  simp [Spec.fits]; omega

/-- `i32::checked_div` is `x_over_n` (§106) wherever it answers. -/
theorem checkedDiv_eq (x n : Int) :
    checkedDiv x n = if n = 0 ∨ (x = -2147483648 ∧ n = -1) then none else some (Spec.xOverN x n).val := by
  unfold checkedDiv
  by_cases hn : n = 0
  · rw [if_pos hn, if_pos (Or.inl hn)]
  · rw [if_neg hn, ← tdiv_eq_xOverN x n hn]
    by_cases hex : x = -2147483648 ∧ n = -1
    · rw [if_pos hex, if_pos (Or.inr hex)]
    · rw [if_neg hex, if_neg (by omega)]

theorem specDivide_eq (a b : Int) (ha : -2147483648 ≤ a ∧ a ≤ 2147483647) (hx : ¬ (a = -2147483648 ∧ b = -1)) :
    Spec.divide a b = if b = 0 then .error else .set (Spec.xOverN a b).val := by
  unfold Spec.divide
  simp only [xOverN_err]
  by_cases hb : b = 0
  · simp [hb]
  · simp [hb, fits_xOverN a b ha hb hx]

/-- `\divide` on integers = `x_over_n` (§106) wherever TeX defines it. -/
theorem divideInt_eq (a b : Int) (ha : -2147483648 ≤ a ∧ a ≤ 2147483647) (hx : ¬ (a = -2147483648 ∧ b = -1)) :
    (match divideInt a b with | .set v => Spec.AR.set v | .error => Spec.AR.error) = Spec.divide a b := by
  unfold divideInt
  rw [checkedDiv_eq, specDivide_eq a b ha hx]
  by_cases hb : b = 0
  · simp [hb]
  · simp [hb, hx]

theorem addLsd_nonneg (radix n : Int) (d : Nat) (h : 0 ≤ n * radix) :
    addLsd radix n d = if n * radix + d ≤ 2147483647 then some (n * radix + d) else none := by
  unfold addLsd
  by_cases h1 : n * radix + d ≤ 2147483647
  · rw [if_pos (by simp [inI32]; omega), if_pos (by simp [inI32]; omega), if_pos h1]
  · rw [if_neg h1]
    by_cases h2 : inI32 (n * radix) = true
    · rw [if_pos h2, if_neg (by simp [inI32]; omega)]
    · rw [if_neg h2]

/-- A state of the digit loop of `parse_constant`: the value is in `[0, 2^31-1]`, and it is `2^31-1` once
`too_big` is set. -/
structure ConstState (r : Int) (tb : Bool) : Prop where
  nonneg : 0 ≤ r
  le : r ≤ 2147483647
  big : tb = true → r = 2147483647

theorem ConstState.push {r : Int} {tb : Bool} (h : ConstState r tb) {radix : Int} (hr : 2 ≤ radix) {d : Nat}
    (hov : r * radix + d ≤ 2147483647) : ConstState (r * radix + d) tb :=
  ⟨by have := Int.mul_nonneg h.nonneg (show 0 ≤ radix by omega); omega, hov,
    fun t => by rw [h.big t] at hov; omega⟩

theorem ConstState.clamp : ConstState 2147483647 true := ⟨by omega, by omega, fun _ => rfl⟩

/-- The digit loop of `parse_constant` is the accumulation of §445, for any `radix ≥ 2` and
threshold `m` for which Knuth's test (`cur_val ≥ m` and …) is the overflow test. `too_big` is the
negation of `OK_so_far`. -/
theorem constLoop_eq (radix m : Int) (hr : 2 ≤ radix)
    (htest : ∀ (cv : Int) (d : Nat), 0 ≤ cv → (d : Int) < radix →
      ((cv ≥ m ∧ (cv > m ∨ (d : Int) > 7 ∨ radix ≠ 10)) ↔ 2147483647 < cv * radix + d))
    (ds : List Nat) : ∀ (r : Int) (tb : Bool), (∀ d ∈ ds, (d : Int) < radix) → ConstState r tb →
      constLoop radix ds r tb
        = ((Spec.accumulate radix m ds r (!tb)).1, !(Spec.accumulate radix m ds r (!tb)).2) := by
  induction ds with
  | nil => intro r tb _ _; simp [constLoop, Spec.accumulate]
  | cons d ds ih =>
    intro r tb hd h
    have hd' : (d : Int) < radix := hd d (List.mem_cons_self ..)
    have hds : ∀ x ∈ ds, (x : Int) < radix := fun x hx => hd x (List.mem_cons_of_mem _ hx)
    simp only [constLoop, Spec.accumulate, addLsd_nonneg radix r d (Int.mul_nonneg h.nonneg (by omega))]
    by_cases hov : r * radix + d ≤ 2147483647
    · rw [if_pos hov, if_neg (fun c => by have := (htest r d h.nonneg hd').1 c; omega)]
      exact ih _ tb hds (h.push hr hov)
    · rw [if_neg hov, if_pos ((htest r d h.nonneg hd').2 (by omega))]
      exact ih 2147483647 true hds .clamp

theorem constLoop_append (radix : Int) (ds es : List Nat) : ∀ (r : Int) (tb : Bool),
    constLoop radix (ds ++ es) r tb
      = constLoop radix es (constLoop radix ds r tb).1 (constLoop radix ds r tb).2 := by
  induction ds with
  | nil => intro r tb; rfl
  | cons d ds ih =>
    intro r tb
    simp only [List.cons_append, constLoop]
    cases addLsd radix r d <;> exact ih _ _

theorem constLoop_range (radix : Int) (hr : 2 ≤ radix) (ds : List Nat) : ∀ (r : Int) (tb : Bool),
    ConstState r tb → ConstState (constLoop radix ds r tb).1 (constLoop radix ds r tb).2 := by
  induction ds with
  | nil => intro r tb h; exact h
  | cons d ds ih =>
    intro r tb h
    simp only [constLoop, addLsd_nonneg radix r d (Int.mul_nonneg h.nonneg (by omega))]
    by_cases hov : r * radix + d ≤ 2147483647
    · rw [if_pos hov]; exact ih _ tb (h.push hr hov)
    · rw [if_neg hov]; exact ih 2147483647 true .clamp

/-- For radix 10 the code starts the loop from the first digit instead of from zero; that is the same. -/
theorem scanConst_cons (radix : Int) (d : Nat) (rest : List Nat) (hd : (d : Int) ≤ 2147483647) :
    scanConst radix (d :: rest)
      = ((constLoop radix (d :: rest) 0 false).1, if (constLoop radix (d :: rest) 0 false).2 then 1 else 0) := by
  have step : constLoop radix (d :: rest) 0 false = constLoop radix rest d false := by
    simp only [constLoop, addLsd_nonneg radix 0 d (by omega), Int.zero_mul, Int.zero_add, if_pos hd]
  unfold scanConst
  by_cases h10 : radix = 10
  · simp only [if_pos h10, step]
  · simp only [if_neg h10]

theorem scanConst_range (radix : Int) (hr : 2 ≤ radix ∧ radix ≤ 16) (ds : List Nat)
    (hd : ∀ d ∈ ds, (d : Int) < radix) :
    0 ≤ (scanConst radix ds).1 ∧ (scanConst radix ds).1 ≤ 2147483647 ∧
      ((scanConst radix ds).2 = 1 → ds ≠ [] → (scanConst radix ds).1 = 2147483647) := by
  cases ds with
  | nil => simp [scanConst]
  | cons d rest =>
    rw [scanConst_cons radix d rest (by have := hd d (List.mem_cons_self ..); omega)]
    obtain ⟨h1, h2, h3⟩ := constLoop_range radix hr.1 (d :: rest) 0 false ⟨by omega, by omega, by simp⟩
    refine ⟨h1, h2, fun h _ => h3 ?_⟩
    revert h
    cases (constLoop radix (d :: rest) 0 false).2 <;> simp

theorem wrap32_id (x : Int) (h : -2147483648 ≤ x ∧ x ≤ 2147483647) : wrap32 x = x := by
  unfold wrap32; omega

/-- `parse_integer` on a constant: the `wrapping_mul(-1)` never wraps, a constant is at most `2^31-1`. -/
theorem scanInt_eq (neg : Bool) (radix : Int) (hr : 2 ≤ radix ∧ radix ≤ 16) (ds : List Nat)
    (hd : ∀ d ∈ ds, (d : Int) < radix) :
    scanInt neg radix ds
      = (if neg then -(scanConst radix ds).1 else (scanConst radix ds).1, (scanConst radix ds).2) := by
  have := scanConst_range radix hr ds hd
  unfold scanInt
  generalize scanConst radix ds = c at *
  obtain ⟨v, e⟩ := c
  simp only [wrap32_id (-v) (by omega)]

/-- `parse_constant` = §444–§445, for every digit string in each radix. -/
theorem scanConst_eq (radix : Int) (hr : radix = 10 ∨ radix = 8 ∨ radix = 16) (ds : List Nat)
    (hd : ∀ d ∈ ds, (d : Int) < radix) : scanConst radix ds = Spec.scanConst radix ds := by
  cases ds with
  | nil => simp [scanConst, Spec.scanConst]
  | cons d rest =>
    have hd0 : (d : Int) < radix := hd d (List.mem_cons_self ..)
    -- `m = 2^31 div radix`: for radix 10 the last digit decides at `cur_val = m`, for 8 and 16 it cannot
    have loop : ∀ m, (∀ (cv : Int) (d : Nat), 0 ≤ cv → (d : Int) < radix →
          ((cv ≥ m ∧ (cv > m ∨ (d : Int) > 7 ∨ radix ≠ 10)) ↔ 2147483647 < cv * radix + d)) →
        scanConst radix (d :: rest)
          = ((Spec.accumulate radix m (d :: rest) 0 true).1,
             if (Spec.accumulate radix m (d :: rest) 0 true).2 then 0 else 1) := by
      intro m htest
      rw [scanConst_cons radix d rest (by omega),
        constLoop_eq radix m (by omega) htest (d :: rest) 0 false hd ⟨by omega, by omega, by simp⟩]
      simp only [Bool.not_false]
      cases (Spec.accumulate radix m (d :: rest) 0 true).2 <;> rfl
    simp only [Spec.scanConst, List.isEmpty_cons]
    rcases hr with rfl | rfl | rfl
    · exact loop 214748364 (by intro cv d _ _; omega)
    · exact loop 268435456 (by intro cv d _ _; omega)
    · exact loop 134217728 (by intro cv d _ _; omega)

end C06
