import TexcraftModel.Model.C20Tags
import TexcraftModel.Lemmas.C20AList

/-!
# C20 — command tags (interleaving model)

A schedule is an interleaving of whole `Tag::new` / `StaticTag::get` calls. `step_cases` lists what one
call can do. `Reach` is the invariant of a state together with the results returned so far; every call
keeps it (`Reach.step`), so it holds at the end of every schedule (`reach`), and distinctness, the cells
and the range of the tags are its fields. Distinctness rests on `Fresh`. What depends on the number of
calls still to come (no panic, the exact tags) is `run_counter`.
-/

namespace C20.Tags

/-- The values stored in an association list. -/
def vals (l : AList Nat Nat) : List Nat := l.map (·.2)

theorem alookup_mem_vals (l : AList Nat Nat) (k t : Nat) (h : alookup l k = some t) :
    t ∈ vals l :=
  List.mem_map.mpr ⟨(k, t), mem_of_alookup_eq_some l k t h, rfl⟩

@[simp] theorem newTags_nil : newTags [] = [] := rfl
@[simp] theorem newTags_new_some (th t : Nat) (r) :
    newTags ((.new th, some t) :: r) = t :: newTags r := rfl
@[simp] theorem newTags_none (e : Ev) (r) : newTags ((e, none) :: r) = newTags r := by
  cases e <;> rfl
@[simp] theorem newTags_get (th c : Nat) (o) (r) : newTags ((.get th c, o) :: r) = newTags r := by
  cases o <;> rfl

@[simp] theorem cellTags_nil (c : Nat) : cellTags c [] = [] := rfl
@[simp] theorem cellTags_get_some (c th c' t : Nat) (r) :
    cellTags c ((.get th c', some t) :: r)
      = if c' = c then t :: cellTags c r else cellTags c r := rfl
@[simp] theorem cellTags_none (c : Nat) (e : Ev) (r) :
    cellTags c ((e, none) :: r) = cellTags c r := by
  cases e <;> rfl
@[simp] theorem cellTags_new (c th : Nat) (o) (r) :
    cellTags c ((.new th, o) :: r) = cellTags c r := by
  cases o <;> rfl

theorem run_cons (st : State) (e : Ev) (es : List Ev) :
    run st (e :: es) = ((run (step st e).1 es).1, (e, (step st e).2) :: (run (step st e).1 es).2) :=
  rfl

@[simp] theorem run_nil (st : State) : run st [] = (st, []) := rfl

/-- What one atomic step can do: panic (poisoning the mutex), read an initialised cell,
or create the fresh tag `n = NEXT_TAG_VALUE` (for `Tag::new`, or to initialise a cell). -/
theorem step_cases (st : State) (e : Ev) :
    (step st e = ({ st with next := none }, none) ∧ ∀ n, st.next = some n → n = 0 ∨ u32Max < n + 1)
    ∨ (∃ th c t, e = .get th c ∧ alookup st.cells c = some t ∧ step st e = (st, some t))
    ∨ ∃ n, st.next = some n ∧ 1 ≤ n ∧ n + 1 ≤ u32Max ∧
        ((∃ th, e = .new th ∧ step st e = ({ st with next := some (n + 1) }, some n))
        ∨ ∃ th c, e = .get th c ∧ alookup st.cells c = none
            ∧ step st e = ({ next := some (n + 1), cells := (c, n) :: st.cells }, some n)) := by
  have tn : ∀ o : Option Nat,
      (tagNew o = (none, none) ∧ ∀ n, o = some n → n = 0 ∨ u32Max < n + 1)
      ∨ ∃ n, o = some n ∧ 1 ≤ n ∧ n + 1 ≤ u32Max ∧ tagNew o = (some n, some (n + 1)) := by
    intro o
    cases o with
    | none => exact .inl ⟨rfl, nofun⟩
    | some n =>
      unfold tagNew
      by_cases h0 : n = 0
      · exact .inl ⟨by simp [h0], fun m h => by cases h; exact .inl h0⟩
      · by_cases h1 : n + 1 > u32Max
        · exact .inl ⟨by simp [h0, h1], fun m h => by cases h; exact .inr h1⟩
        · exact .inr ⟨n, rfl, Nat.pos_of_ne_zero h0, Nat.le_of_not_lt h1, by simp [h0, h1]⟩
  cases e with
  | new th =>
    have hs : step st (.new th) = ({ st with next := (tagNew st.next).2 }, (tagNew st.next).1) := rfl
    rcases tn st.next with ⟨h, hw⟩ | ⟨n, hn, h1, h2, h⟩
    · exact .inl ⟨by rw [hs, h], hw⟩
    · exact .inr (.inr ⟨n, hn, h1, h2, .inl ⟨th, rfl, by rw [hs, h]⟩⟩)
  | get th c =>
    cases hl : alookup st.cells c with
    | some t => exact .inr (.inl ⟨th, c, t, rfl, hl, by simp only [step, hl]⟩)
    | none =>
      rcases tn st.next with ⟨h, hw⟩ | ⟨n, hn, h1, h2, h⟩
      · exact .inl ⟨by simp only [step, hl, h], hw⟩
      · exact .inr (.inr ⟨n, hn, h1, h2, .inr ⟨th, c, rfl, hl,
          by simp only [step, hl, h, ainsert, aerase_of_alookup_none _ _ hl]⟩⟩)

/-- The tags `l` were all handed out by a counter that now stands at `next`: they are distinct and
below it (a poisoned counter hands out nothing more, so only distinctness is left). -/
def Fresh (next : Option Nat) (l : List Nat) : Prop :=
  l.Nodup ∧ ∀ n, next = some n → ∀ t ∈ l, t < n

theorem Fresh.poison {o : Option Nat} {l : List Nat} (h : Fresh o l) : Fresh none l := ⟨h.1, nofun⟩

theorem Fresh.push {n : Nat} {a b : List Nat} (h : Fresh (some n) (a ++ b)) :
    Fresh (some (n + 1)) (a ++ n :: b) := by
  have hp : (a ++ n :: b).Perm (n :: (a ++ b)) := List.perm_middle
  refine ⟨hp.nodup_iff.mpr (List.nodup_cons.mpr ⟨fun hm => Nat.lt_irrefl n (h.2 n rfl n hm), h.1⟩), ?_⟩
  intro m hm t ht
  cases hm
  rcases List.mem_cons.mp (hp.mem_iff.mp ht) with rfl | ht
  · exact Nat.lt_succ_self _
  · exact Nat.lt_succ_of_lt (h.2 n rfl t ht)

theorem newTags_append (a b : List (Ev × Option Nat)) : newTags (a ++ b) = newTags a ++ newTags b := by
  induction a with
  | nil => rfl
  | cons p r ih => rcases p with ⟨_ | _, _ | _⟩ <;> simp [newTags, ih]

theorem cellTags_append (c : Nat) (a b : List (Ev × Option Nat)) :
    cellTags c (a ++ b) = cellTags c a ++ cellTags c b := by
  induction a with
  | nil => rfl
  | cons p r ih =>
    rcases p with ⟨_ | ⟨_, c'⟩, _ | _⟩ <;> simp only [List.cons_append, cellTags, ih]
    split <;> rfl

/-- What holds of a state and the results returned so far: the tags handed out are
fresh, the cells hold exactly what the `get`s on them returned, and every tag is a nonzero `u32`. -/
structure Reach (st : State) (res : List (Ev × Option Nat)) : Prop where
  fresh : Fresh st.next (newTags res ++ vals st.cells)
  cells : ∀ c t, alookup st.cells c = some t ↔ t ∈ cellTags c res
  keys : (akeys st.cells).Nodup
  range : ∀ p ∈ res, ∀ t, p.2 = some t → 1 ≤ t ∧ t < u32Max
  cellRange : ∀ t ∈ vals st.cells, 1 ≤ t ∧ t < u32Max

theorem reach_init : Reach init [] :=
  ⟨⟨List.nodup_nil, nofun⟩, fun _ _ => ⟨nofun, nofun⟩, List.nodup_nil, nofun, nofun⟩

theorem Reach.step {st : State} {res : List (Ev × Option Nat)} (g : Reach st res) (e : Ev) :
    Reach (step st e).1 (res ++ [(e, (step st e).2)]) := by
  have hr : ∀ o : Option Nat, (∀ t, o = some t → 1 ≤ t ∧ t < u32Max) →
      ∀ p ∈ res ++ [(e, o)], ∀ t, p.2 = some t → 1 ≤ t ∧ t < u32Max := by
    intro o ho p hp
    rcases List.mem_append.mp hp with hp | hp
    · exact g.range p hp
    · cases List.mem_singleton.mp hp; exact ho
  rcases step_cases st e with ⟨hs, _⟩ | ⟨th, c, t, rfl, hl, hs⟩
    | ⟨n, hn, h1, h2, ⟨th, rfl, hs⟩ | ⟨th, c, rfl, hl, hs⟩⟩
  · rw [hs]
    refine ⟨?_, fun c t => ?_, g.keys, hr none nofun, g.cellRange⟩
    · rw [newTags_append, newTags_none, newTags_nil, List.append_nil]
      exact g.fresh.poison
    · rw [cellTags_append, cellTags_none, cellTags_nil, List.append_nil]
      exact g.cells c t
  · -- a read returns what the cell holds
    rw [hs]
    refine ⟨?_, fun c' t' => ?_, g.keys,
      hr _ fun t' h => by cases h; exact g.cellRange _ (alookup_mem_vals _ _ _ hl), g.cellRange⟩
    · rw [newTags_append, newTags_get, newTags_nil, List.append_nil]
      exact g.fresh
    · rw [cellTags_append, cellTags_get_some, cellTags_nil, List.mem_append, ← g.cells]
      split
      · next hcc => subst hcc; exact ⟨Or.inl, fun h => h.elim id fun h => List.mem_singleton.mp h ▸ hl⟩
      · exact ⟨Or.inl, fun h => h.elim id nofun⟩
  · -- `Tag::new` and an initialising `get` record the same tag `n` at the same place of the list:
    -- after the tags returned so far, before the cells
    rw [hs]
    refine ⟨?_, fun c t => ?_, g.keys, hr _ fun t h => by cases h; exact ⟨h1, h2⟩, g.cellRange⟩
    · rw [newTags_append, newTags_new_some, newTags_nil, List.append_assoc]
      exact (hn ▸ g.fresh).push
    · rw [cellTags_append, cellTags_new, cellTags_nil, List.append_nil]
      exact g.cells c t
  · -- an initialising `get` stores what it returns, in a cell that was empty
    rw [hs]
    refine ⟨?_, fun c' t' => ?_, List.nodup_cons.mpr ⟨(alookup_none_iff _ _).1 hl, g.keys⟩,
      hr _ fun t h => by cases h; exact ⟨h1, h2⟩,
      fun t h => (List.mem_cons.mp h).elim (fun e => e ▸ ⟨h1, h2⟩) (g.cellRange t)⟩
    · rw [newTags_append, newTags_get, newTags_nil, List.append_nil]
      exact (hn ▸ g.fresh).push
    · rw [cellTags_append, cellTags_get_some, cellTags_nil, List.mem_append, ← g.cells, alookup_cons]
      split
      · next hcc =>
        subst hcc
        rw [hl]
        simp only [Option.some.injEq, reduceCtorEq, false_or, List.mem_singleton, eq_comm]
      · exact ⟨Or.inl, fun h => h.elim id nofun⟩

theorem Reach.run (sched : List Ev) : ∀ {st : State} {res : List (Ev × Option Nat)}, Reach st res →
    Reach (run st sched).1 (res ++ (run st sched).2) := by
  induction sched with
  | nil => intro st res g; rw [run_nil, List.append_nil]; exact g
  | cons e es ih =>
    intro st res g
    rw [run_cons, List.append_cons]
    exact ih (g.step e)

theorem reach (sched : List Ev) : Reach (run init sched).1 (run init sched).2 :=
  reach_init.run sched

/-- The event is a `Tag::new` call. -/
def Ev.isNew : Ev → Bool
  | .new _ => true
  | .get _ _ => false

theorem run_counter (sched : List Ev) : ∀ (st : State) (n : Nat), st.next = some n → 1 ≤ n →
    n + sched.length ≤ u32Max →
    (∀ p ∈ (run st sched).2, p.2 ≠ none) ∧
    ((∀ e ∈ sched, e.isNew = true) → newTags (run st sched).2 = List.range' n sched.length) := by
  induction sched with
  | nil => intro st n _ _ _; exact ⟨nofun, fun _ => rfl⟩
  | cons e es ih =>
    intro st n hn h1 h2
    rw [run_cons]
    rw [List.length_cons, ← Nat.add_assoc] at h2
    have h2' : n + es.length ≤ u32Max := Nat.le_of_succ_le h2
    have h2'' : n + 1 + es.length ≤ u32Max := by rwa [Nat.add_right_comm]
    rcases step_cases st e with ⟨_, hw⟩ | ⟨_, _, t, rfl, _, hs⟩
      | ⟨m, hm, _, _, ⟨_, rfl, hs⟩ | ⟨_, _, rfl, _, hs⟩⟩
    · -- no panic: the counter is positive and below the limit
      exfalso
      rcases hw n hn with h | h
      · exact absurd (h ▸ h1) (by decide)
      · exact Nat.not_le_of_lt h (Nat.le_trans (Nat.succ_le_succ (Nat.le_add_right n es.length)) h2)
    · rw [hs]
      exact ⟨List.forall_mem_cons.2 ⟨Option.some_ne_none t, (ih st n hn h1 h2').1⟩,
        fun hall => nomatch hall _ List.mem_cons_self⟩
    · cases hn.symm.trans hm
      obtain ⟨i1, i2⟩ := ih { st with next := some (n + 1) } (n + 1) rfl (Nat.le_succ_of_le h1) h2''
      rw [hs]
      refine ⟨List.forall_mem_cons.2 ⟨Option.some_ne_none n, i1⟩, fun hall => ?_⟩
      rw [newTags_new_some, List.length_cons, List.range'_succ,
        i2 fun x hx => hall x (List.mem_cons_of_mem _ hx)]
    · cases hn.symm.trans hm
      rw [hs]
      exact ⟨List.forall_mem_cons.2 ⟨Option.some_ne_none n,
          (ih _ (n + 1) rfl (Nat.le_succ_of_le h1) h2'').1⟩,
        fun hall => nomatch hall _ List.mem_cons_self⟩

theorem run_events (sched : List Ev) : ∀ st : State, (run st sched).2.map (·.1) = sched := by
  induction sched with
  | nil => intro st; rfl
  | cons e es ih => intro st; rw [run_cons, List.map_cons, ih]

theorem newTags_length (res : List (Ev × Option Nat)) (h : ∀ p ∈ res, p.2 ≠ none) :
    (newTags res).length = (res.map (·.1)).countP Ev.isNew := by
  induction res with
  | nil => rfl
  | cons p r ih =>
    have ih := ih (fun q hq => h q (List.mem_cons_of_mem _ hq))
    obtain ⟨e, o⟩ := p
    cases o with
    | none => exact absurd rfl (h _ List.mem_cons_self)
    | some t =>
      cases e with
      | new th =>
        rw [newTags_new_some, List.length_cons, List.map_cons, List.countP_cons, ih]
        rfl
      | get th c =>
        rw [newTags_get, List.map_cons, List.countP_cons, ih]
        rfl

theorem key_unique_of_vals_nodup (l : AList Nat Nat) (h : (vals l).Nodup) (k k' t : Nat)
    (h1 : (k, t) ∈ l) (h2 : (k', t) ∈ l) : k = k' := by
  have hp : l.Pairwise fun p q => p.2 ≠ q.2 := List.pairwise_map.1 h
  have hinj := List.Pairwise.forall_of_forall_of_flip (R := fun p q : Nat × Nat => p.2 = q.2 → p = q)
    (fun _ _ _ => rfl) (hp.imp fun hne e => absurd e hne) (hp.imp fun hne e => absurd e.symm hne)
  exact congrArg Prod.fst (hinj h1 h2 rfl)

theorem all_tags_distinct (sched : List Ev) :
    (newTags (run init sched).2 ++ vals (run init sched).1.cells).Nodup :=
  (reach sched).fresh.1

/-- Tags returned by `Tag::new` (any threads, any interleaving) are pairwise distinct. -/
theorem tags_distinct (sched : List Ev) : (newTags (run init sched).2).Nodup :=
  (List.nodup_append.mp (all_tags_distinct sched)).1

theorem cell_vals_distinct (sched : List Ev) : (vals (run init sched).1.cells).Nodup :=
  (List.nodup_append.mp (all_tags_distinct sched)).2.1

/-- Each static cell is stored at most once. -/
theorem cell_keys_distinct (sched : List Ev) : (akeys (run init sched).1.cells).Nodup :=
  (reach sched).keys

theorem cellTags_iff (sched : List Ev) (c t : Nat) :
    t ∈ cellTags c (run init sched).2 ↔ alookup (run init sched).1.cells c = some t :=
  ((reach sched).cells c t).symm

theorem cell_tag_ne_new_tag (sched : List Ev) (c : Nat) :
    ∀ t ∈ cellTags c (run init sched).2, ∀ t' ∈ newTags (run init sched).2, t ≠ t' := by
  intro t ht t' ht' e
  have hv := alookup_mem_vals _ _ _ ((cellTags_iff sched c t).1 ht)
  exact (List.nodup_append.mp (all_tags_distinct sched)).2.2 t' ht' t hv e.symm

theorem cell_tags_distinct (sched : List Ev) (c c' : Nat) (hc : c ≠ c') :
    ∀ t ∈ cellTags c (run init sched).2, ∀ t' ∈ cellTags c' (run init sched).2, t ≠ t' := by
  intro t ht t' ht' e
  subst e
  have h1 := mem_of_alookup_eq_some _ _ _ ((cellTags_iff sched c t).1 ht)
  have h2 := mem_of_alookup_eq_some _ _ _ ((cellTags_iff sched c' t).1 ht')
  exact hc (key_unique_of_vals_nodup _ (cell_vals_distinct sched) c c' t h1 h2)

/-- Every `get` on one static cell returns the same value, in every schedule. -/
theorem static_tag_once (sched : List Ev) (c : Nat) :
    ∀ t ∈ cellTags c (run init sched).2, ∀ t' ∈ cellTags c (run init sched).2, t = t' := by
  intro t ht t' ht'
  exact Option.some.inj (((cellTags_iff sched c t).1 ht).symm.trans ((cellTags_iff sched c t').1 ht'))

/-- No call panics while fewer than `2^32 - 2` calls have been made. -/
theorem tags_no_panic (sched : List Ev) (h : sched.length + 1 < u32Max) :
    ∀ p ∈ (run init sched).2, p.2 ≠ none :=
  (run_counter sched init 1 rfl (Nat.le_refl 1) (Nat.add_comm 1 _ ▸ Nat.le_of_lt h)).1

/-- Every returned tag is a nonzero `u32` (`NonZeroU32`), and not `u32::MAX`. -/
theorem tags_range (sched : List Ev) :
    ∀ p ∈ (run init sched).2, ∀ t, p.2 = some t → 1 ≤ t ∧ t < u32Max :=
  (reach sched).range

/-- Without overflow, every `Tag::new` call yields a tag. -/
theorem tags_count (sched : List Ev) (h : sched.length + 1 < u32Max) :
    (newTags (run init sched).2).length = sched.countP Ev.isNew := by
  rw [newTags_length _ (tags_no_panic sched h), run_events]

/-- With only `Tag::new` calls the tags are exactly `1, 2, …, N` in schedule order:
as a multiset `{1..T·N}`, which is what the threaded Rust harness checks. -/
theorem tags_exact (sched : List Ev) (h : sched.length + 1 < u32Max)
    (hnew : ∀ e ∈ sched, e.isNew = true) :
    newTags (run init sched).2 = List.range' 1 sched.length :=
  (run_counter sched init 1 rfl (Nat.le_refl 1) (Nat.add_comm 1 _ ▸ Nat.le_of_lt h)).2 hnew

end C20.Tags
