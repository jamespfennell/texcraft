import TexcraftModel.Lemmas.C02Call

/-! C02: `\def` on a rendered definition builds the compiled macro (`parse_prefix_and_parameters`,
`parse_replacement_text`). -/
namespace C02

/-- The accumulators of `parse_prefix_and_parameters` after pushing the tokens `ext`. -/
def pushAll : List Tok → List (List Tok) → List Tok → List Tok × List (List Tok)
  | pre, ps, [] => (pre, ps)
  | pre, ps, t :: ts => pushAll (pushTok pre ps t).1 (pushTok pre ps t).2 ts

theorem pushAll_nil : ∀ (ext pre : List Tok), pushAll pre [] ext = (pre ++ ext, [])
  | [], pre => by simp [pushAll]
  | t :: ts, pre => by simp [pushAll, pushTok, pushAll_nil ts]

theorem pushAll_last (pre : List Tok) (init : List (List Tok)) : ∀ (ext last : List Tok),
    pushAll pre (init ++ [last]) ext = (pre, init ++ [last ++ ext])
  | [], last => by simp [pushAll]
  | t :: ts, last => by simp [pushAll, pushTok, pushAll_last pre init ts]

theorem ppLoop_plain {t : Tok} (ht : Plain t) (pre : List Tok) (ps : List (List Tok)) (ts : List Tok) :
    ppLoop pre ps (t :: ts) = ppLoop (pushTok pre ps t).1 (pushTok pre ps t).2 ts := by
  cases t with
  | bg => exact absurd rfl ht.1
  | eg => exact absurd rfl ht.2.1
  | param => exact absurd rfl ht.2.2
  | _ => rfl

theorem ppLoop_pushAll (toks : List Tok) (h : ∀ t ∈ toks, Plain t) :
    ∀ (pre : List Tok) (ps : List (List Tok)) (rest : List Tok),
      ppLoop pre ps (toks ++ rest) = ppLoop (pushAll pre ps toks).1 (pushAll pre ps toks).2 rest := by
  induction toks with
  | nil => intro pre ps rest; rfl
  | cons t ts ih =>
    intro pre ps rest
    rw [List.cons_append, ppLoop_plain (h t List.mem_cons_self),
      ih (fun x hx => h x (List.mem_cons_of_mem _ hx)), pushAll]

theorem paramIndex_eq_some {p : Tok} {i : Nat} : paramIndex p = some i ↔ p = .ch (49 + i) ∧ i ≤ 8 := by
  cases p <;> simp [paramIndex]
  omega

theorem ppLoop_param {ps : List (List Tok)} (h : ps.length ≤ 8) (pre x : List Tok) :
    ppLoop pre ps (.param :: .ch (49 + ps.length) :: x) = ppLoop pre (ps ++ [[]]) x := by
  have h9 : ps.length ≠ 9 := by omega
  simp [ppLoop, h9, paramIndex_eq_some.mpr ⟨rfl, h⟩]

theorem ppLoop_params (pre rest : List Tok) : ∀ (ds ps : List (List Tok)),
    (∀ d ∈ ds, ∀ t ∈ d, Plain t) → ps.length + ds.length ≤ 9 →
    ppLoop pre ps (renderParams ps.length ds ++ rest) = ppLoop pre (ps ++ ds) rest := by
  intro ds
  induction ds with
  | nil => intro ps _ _; simp [renderParams]
  | cons d ds ih =>
    intro ps hpl hlen
    rw [List.length_cons] at hlen
    have := ih (ps ++ [d]) (fun x hx => hpl x (List.mem_cons_of_mem _ hx))
      (by rw [List.length_append, List.length_singleton]; omega)
    rw [List.length_append, List.length_singleton, List.append_assoc, List.singleton_append] at this
    simp only [renderParams, List.cons_append, List.nil_append, List.append_assoc]
    rw [ppLoop_param (by omega), ppLoop_pushAll d (hpl d List.mem_cons_self), pushAll_last,
      List.nil_append, this]

theorem pushTok_bg (s : SpecMacro) (hb : s.hashBrace = true) :
    pushTok s.pre s.delims .bg = (s.effPre, s.effDelims) := by
  unfold pushTok SpecMacro.effPre SpecMacro.effDelims
  cases hl : s.delims.getLast? with
  | none =>
    have : s.delims = [] := by simpa using hl
    simp [hb, this]
  | some d =>
    have : s.delims ≠ [] := by intro h; simp [h] at hl
    simp [hb, this]

theorem eff_noHash (s : SpecMacro) (hb : s.hashBrace = false) :
    s.effPre = s.pre ∧ s.effDelims = s.delims := by
  simp [SpecMacro.effPre, SpecMacro.effDelims, hb]

/-- What `parse_prefix_and_parameters` returns at the opening brace, from its accumulators
(`hb`: the brace was written `#{`). -/
def ptFinish (pre : List Tok) (ps : List (List Tok)) (hb : Bool) : ParamText :=
  if hb then ⟨(pushTok pre ps .bg).1, (pushTok pre ps .bg).2, some .bg⟩ else ⟨pre, ps, none⟩

theorem ptFinish_eff (s : SpecMacro) :
    ptFinish s.pre s.delims s.hashBrace = ⟨s.effPre, s.effDelims, if s.hashBrace then some .bg else none⟩ := by
  unfold ptFinish
  cases hb : s.hashBrace with
  | true => simp [pushTok_bg s hb]
  | false => simp [eff_noHash s hb]

theorem ppLoop_render {s : SpecMacro} (h : SMValid s) (rest : List Tok) :
    ppLoop [] [] (s.pre ++ renderParams 0 s.delims ++ (if s.hashBrace then [.param, .bg] else [.bg]) ++ rest)
      = .ok (⟨s.effPre, s.effDelims, if s.hashBrace then some .bg else none⟩, rest) := by
  have := ppLoop_params s.pre ((if s.hashBrace then [.param, .bg] else [.bg]) ++ rest) s.delims []
    h.delims (by simpa using h.nparams)
  rw [List.append_assoc, List.append_assoc, ppLoop_pushAll s.pre h.pre, pushAll_nil, List.nil_append]
  refine this.trans ?_
  rw [List.nil_append, ← ptFinish_eff]
  cases s.hashBrace <;> rfl

theorem replLoop_lit {t : Tok} (ht : t ≠ .param) {d d' : Nat} (h : runDepth d [t] = some d')
    (e : Option Tok) (n : Nat) (rs : List Repl) (x : List Tok) :
    replLoop e n d rs (t :: x) = replLoop e n d' (pushRepl rs t) x := by
  cases t with
  | param => exact absurd rfl ht
  | bg => cases h; rfl
  | eg =>
    cases d with
    | zero => cases h
    | succ k =>
      cases h
      have h0 : ((d' + 1 : Nat) : Int) ≠ 0 := by omega
      have h1 : ((d' + 1 : Nat) : Int) - 1 = (d' : Int) := by omega
      simp only [replLoop, h0, if_false, h1]
  | _ => cases h; rfl

/-- What `parse_replacement_text` asks of one item of a replacement text for a macro with `n`
parameters. -/
def ItemOK (n : Nat) : Item → Prop
  | .lit t => t ≠ .param
  | .arg i => i < n
  | .hash => True

theorem itemOK_iff {n : Nat} {body : List Item} :
    (∀ it ∈ body, ItemOK n it) ↔
      (∀ i, Item.arg i ∈ body → i < n) ∧ (∀ t, Item.lit t ∈ body → t ≠ .param) := by
  constructor
  · intro h
    exact ⟨fun i hi => h _ hi, fun t ht => h _ ht⟩
  · rintro ⟨ha, hl⟩ it hit
    cases it with
    | lit t => exact hl t hit
    | arg i => exact ha i hit
    | hash => trivial

theorem replLoop_body (e : Option Tok) (n : Nat) (hn : n ≤ 9) (d' : Nat) (rest : List Tok) :
    ∀ (body : List Item) (d : Nat) (rs : List Repl),
    runDepth d (bodyToks body) = some d' → (∀ it ∈ body, ItemOK n it) →
    replLoop e n d rs ((body.map renderItem).flatten ++ rest) = replLoop e n d' (compileBody rs body) rest := by
  intro body
  induction body with
  | nil => intro d rs h _; cases h; rfl
  | cons it is ih =>
    intro d rs h hok
    obtain ⟨hit, hok'⟩ := List.forall_mem_cons.mp hok
    cases it with
    | lit t =>
      simp only [List.map_cons, List.flatten_cons, renderItem, List.cons_append, List.nil_append, compileBody]
      obtain ⟨d1, h1, h2⟩ := runDepth_prefix_some (l1 := [t]) h
      rw [replLoop_lit hit h1]
      exact ih d1 _ h2 hok'
    | hash =>
      simp only [List.map_cons, List.flatten_cons, renderItem, List.cons_append, List.nil_append, compileBody,
        replLoop, if_true]
      exact ih d _ h hok'
    | arg i =>
      have hi : i < n := hit
      have hne : Tok.ch (49 + i) ≠ Tok.param := Tok.noConfusion
      simp only [List.map_cons, List.flatten_cons, renderItem, List.cons_append, List.nil_append, compileBody,
        replLoop, hne, if_false, paramIndex_eq_some.mpr ⟨rfl, show i ≤ 8 by omega⟩, hi, if_true]
      exact ih d _ h hok'

theorem defParse_render {s : SpecMacro} (h : SMValid s) (tail : List Tok) :
    defParse (renderDef s ++ tail) = .ok (compiled s, tail) := by
  unfold defParse renderDef
  rw [List.append_assoc, List.append_assoc, ppLoop_render h]
  simp only [mkParams_eq, List.length_map, effDelims_length]
  have hbody := replLoop_body (if s.hashBrace then some .bg else none) s.delims.length h.nparams
    0 ([.eg] ++ tail) s.body 0 [] h.body (itemOK_iff.mpr ⟨h.args, h.lits⟩)
  rw [Int.natCast_zero] at hbody
  rw [hbody]
  cases hb : s.hashBrace <;> simp [replLoop, compileRepl, compiled, hb]

end C02
