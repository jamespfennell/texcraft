import TexcraftModel.Lemmas.C13Ops

/-! C13: the trie walk of `for_each_pattern`, for any hyphenator whose stored digits fit
(`Bounded`). Each loop raises the score vector to the maximum of the digits stored at a list of
(offset, vertex) pairs that depends on the word only (`Raised`, `visited`). With `enc` naming a key
by anchors and letters, a pattern's key is in that list at an offset exactly where the pattern
matches (`visited_iff_matches`). First the lemmas on `maxOver`. -/
namespace C13

theorem maxOver_cons {α : Type} (a : α) (l : List α) (f : α → Nat) :
    maxOver (a :: l) f = max (f a) (maxOver l f) := rfl

theorem maxOver_le_iff {α : Type} (l : List α) (f : α → Nat) (b : Nat) :
    maxOver l f ≤ b ↔ ∀ x ∈ l, f x ≤ b := by
  induction l with
  | nil => simp [maxOver]
  | cons a l ih => rw [maxOver_cons, Nat.max_le, ih]; simp

theorem le_maxOver {α : Type} (l : List α) (f : α → Nat) (x : α) (h : x ∈ l) :
    f x ≤ maxOver l f :=
  (maxOver_le_iff l f _).1 (Nat.le_refl _) x h

theorem maxOver_append {α : Type} (l₁ l₂ : List α) (f : α → Nat) :
    maxOver (l₁ ++ l₂) f = max (maxOver l₁ f) (maxOver l₂ f) := by
  induction l₁ with
  | nil => simp [maxOver]
  | cons a l ih => simp only [List.cons_append, maxOver_cons, ih, Nat.max_assoc]

theorem maxOver_eq {α β : Type} (l₁ : List α) (l₂ : List β) (f : α → Nat) (g : β → Nat)
    (h₁ : ∀ x ∈ l₁, f x = 0 ∨ ∃ y ∈ l₂, f x ≤ g y)
    (h₂ : ∀ y ∈ l₂, g y = 0 ∨ ∃ x ∈ l₁, g y ≤ f x) :
    maxOver l₁ f = maxOver l₂ g := by
  apply Nat.le_antisymm
  · rw [maxOver_le_iff]; intro x hx
    rcases h₁ x hx with h | ⟨y, hy, hle⟩
    · omega
    · exact Nat.le_trans hle (le_maxOver l₂ g y hy)
  · rw [maxOver_le_iff]; intro y hy
    rcases h₂ y hy with h | ⟨x, hx, hle⟩
    · omega
    · exact Nat.le_trans hle (le_maxOver l₁ f x hx)

/-- Digits stored at the vertex named `π` (nothing = no digits). -/
def val (h : Hyph) (π : List Edge) : List Nat :=
  match lookup h.trie π with
  | none => []
  | some o => decodeOps (h.data.drop o)

/-- Letter edges on a path: the vertex may carry one digit more than that (`Bounded`). -/
def chCount : List Edge → Nat
  | [] => 0
  | .ch _ :: r => chCount r + 1
  | _ :: r => chCount r

theorem chCount_append (a b : List Edge) : chCount (a ++ b) = chCount a + chCount b := by
  induction a with
  | nil => simp [chCount]
  | cons e a ih => cases e <;> simp [chCount, ih] <;> omega

/-- Every stored digit list fits the letters of its vertex. -/
def Bounded (h : Hyph) : Prop := ∀ π, (val h π).length ≤ chCount π + 1

theorem lookup_none_of_not_hasPrefix (t : List (List Edge × Nat)) (π π' : List Edge)
    (h : hasPrefix t π = false) (hp : π <+: π') : lookup t π' = none := by
  induction t with
  | nil => rfl
  | cons kv t ih =>
    obtain ⟨k, v⟩ := kv
    simp only [hasPrefix, List.any_cons, Bool.or_eq_false_iff] at h
    rw [lookup, if_neg, ih (by simpa [hasPrefix] using h.2)]
    rintro rfl
    rw [← List.isPrefixOf_iff_prefix, h.1] at hp
    cases hp

/-- `s'` is `s` raised, position by position, to the digits `vl` holds at the listed
(offset, vertex) pairs: what every stage of `for_each_pattern` does to the score vector. -/
def Raised (vl : List Edge → List Nat) (l : List (Nat × List Edge)) (s s' : List Nat) : Prop :=
  s'.length = s.length ∧
  ∀ i, s'.getD i 0 = max (s.getD i 0) (maxOver l (fun x => digitAt (vl x.2) x.1 i))

theorem Raised.append {vl : List Edge → List Nat} {l₁ l₂ : List (Nat × List Edge)}
    {s s₁ s₂ : List Nat} (h₁ : Raised vl l₁ s s₁) (h₂ : Raised vl l₂ s₁ s₂) :
    Raised vl (l₁ ++ l₂) s s₂ :=
  ⟨h₂.1.trans h₁.1, fun i => by rw [h₂.2, h₁.2, maxOver_append, Nat.max_assoc]⟩

theorem Raised.of_vals_nil {vl : List Edge → List Nat} {l : List (Nat × List Edge)} (s : List Nat)
    (h : ∀ x ∈ l, vl x.2 = []) : Raised vl l s s := by
  refine ⟨rfl, fun i => ?_⟩
  have : maxOver l (fun x => digitAt (vl x.2) x.1 i) = 0 :=
    Nat.le_zero.1 ((maxOver_le_iff _ _ _).2 (fun x hx => by simp [h x hx, digitAt_nil]))
  rw [this, Nat.max_zero]

theorem visit_spec (h : Hyph) (hB : Bounded h) (off : Nat) (π : List Edge) (s : List Nat)
    (hb : off + chCount π + 1 ≤ s.length) :
    ∃ s', visit h off π s = some s' ∧ Raised (val h) [(off, π)] s s' := by
  have h1 : off + (val h π).length ≤ s.length := by have := hB π; omega
  unfold visit
  unfold val at h1
  cases hl : lookup h.trie π with
  | none => exact ⟨s, rfl, rfl, fun i => by simp [maxOver, val, hl, digitAt_nil]⟩
  | some o =>
    rw [hl] at h1
    obtain ⟨s', h2, h3, h4⟩ := applyOps_spec _ off s h1
    exact ⟨s', h2, h3, fun i => by rw [h4 i, maxOver_cons]; simp [maxOver, val, hl]⟩

/-- Vertices the `process` closure asks for, from vertex `v` over the letters `ls`. -/
def walk (v : List Edge) : List Char → List (List Edge)
  | [] => [v ++ [.stop]]
  | l :: ls => (v ++ [.ch l]) :: walk (v ++ [.ch l]) ls

theorem walk_prefix (v : List Edge) (ls : List Char) : ∀ π ∈ walk v ls, v <+: π := by
  induction ls generalizing v with
  | nil => intro π h; simp [walk] at h; subst h; exact List.prefix_append _ _
  | cons l ls ih =>
    intro π h
    simp only [walk, List.mem_cons] at h
    rcases h with rfl | h
    · exact List.prefix_append _ _
    · exact List.IsPrefix.trans (List.prefix_append _ _) (ih _ π h)

/-- Stopping the walk where `next_or` fails loses nothing: below a vertex that no inserted path
runs through no vertex holds digits. -/
theorem raised_below_dead (h : Hyph) (v : List Edge) (hp : hasPrefix h.trie v = false) (off : Nat)
    (l : List (List Edge)) (hl : ∀ π ∈ l, v <+: π) (s : List Nat) :
    Raised (val h) (l.map (fun π => (off, π))) s s := by
  apply Raised.of_vals_nil
  intro x hx
  obtain ⟨π, hπ, rfl⟩ := List.mem_map.1 hx
  simp [val, lookup_none_of_not_hasPrefix _ _ _ hp (hl π hπ)]

theorem mapM_cons_some (lc : Char → Option Char) (c : Char) (cs ls : List Char)
    (h : (c :: cs).mapM lc = some ls) :
    ∃ l ls', lc c = some l ∧ cs.mapM lc = some ls' ∧ ls = l :: ls' := by
  simp only [List.mapM_cons, Option.pure_def, Option.bind_eq_bind, Option.bind_eq_some_iff,
    Option.some.injEq] at h
  obtain ⟨l, hc, ls', hm, rfl⟩ := h
  exact ⟨l, ls', hc, hm, rfl⟩

theorem mapM_length (lc : Char → Option Char) (w ls : List Char) (h : w.mapM lc = some ls) :
    ls.length = w.length := by
  induction w generalizing ls with
  | nil => cases h; rfl
  | cons c w ih =>
    obtain ⟨l, ls', _, hm, rfl⟩ := mapM_cons_some lc c w ls h
    simp [ih ls' hm]

/-- Holds of any characters: a non-letter ends the loop (`lc c = none`), and then there is no
`ls`. -/
theorem process_spec (h : Hyph) (hB : Bounded h) (lc : Char → Option Char) (off : Nat)
    (cs : List Char) (v : List Edge) (s : List Nat)
    (hs : off + chCount v + cs.length + 1 ≤ s.length) :
    ∃ s', process h lc off v cs s = some s' ∧ s'.length = s.length ∧
      ∀ ls, cs.mapM lc = some ls → Raised (val h) ((walk v ls).map (fun π => (off, π))) s s' := by
  induction cs generalizing v s with
  | nil =>
    simp only [process]
    cases hp : hasPrefix h.trie (v ++ [.stop]) with
    | true =>
      obtain ⟨s', h1, h2⟩ := visit_spec h hB off (v ++ [.stop]) s
        (by simp [chCount_append, chCount] at hs ⊢; omega)
      refine ⟨s', by simpa using h1, h2.1, fun ls hl => ?_⟩
      cases hl; exact h2
    | false =>
      refine ⟨s, by simp, rfl, fun ls hl => ?_⟩
      cases hl
      exact raised_below_dead h _ hp off _
        (fun π hπ => by simp [walk] at hπ; subst hπ; exact List.prefix_refl _) s
  | cons c cs ih =>
    simp only [process]
    cases hc : lc c with
    | none => exact ⟨s, rfl, rfl, fun ls hl => by simp [hc] at hl⟩
    | some l =>
      have hmap : ∀ ls, (c :: cs).mapM lc = some ls →
          ∃ ls', cs.mapM lc = some ls' ∧ ls = l :: ls' := by
        intro ls hl
        obtain ⟨l', ls', hc', hm, rfl⟩ := mapM_cons_some lc c cs ls hl
        rw [hc] at hc'; cases hc'; exact ⟨ls', hm, rfl⟩
      cases hp : hasPrefix h.trie (v ++ [.ch l]) with
      | true =>
        obtain ⟨s1, h1, h2⟩ := visit_spec h hB off (v ++ [.ch l]) s
          (by simp [chCount_append, chCount] at hs ⊢; omega)
        obtain ⟨s2, h3, h4, h5⟩ := ih (v ++ [.ch l]) s1
          (by rw [h2.1]; simp [chCount_append, chCount] at hs ⊢; omega)
        refine ⟨s2, by simp [hp, h1, h3], h4.trans h2.1, fun ls hl => ?_⟩
        obtain ⟨ls', hm, rfl⟩ := hmap ls hl
        exact h2.append (h5 ls' hm)
      | false =>
        refine ⟨s, by simp [hp], rfl, fun ls hl => ?_⟩
        obtain ⟨ls', hm, rfl⟩ := hmap ls hl
        refine raised_below_dead h _ hp off _ (fun π hπ => ?_) s
        rcases List.mem_cons.1 hπ with rfl | hπ
        · exact List.prefix_refl _
        · exact walk_prefix _ _ π hπ

/-- Everything `for_each_pattern` visits from the unanchored root, offset by offset. -/
def visitedFrom : Nat → List Char → List (Nat × List Edge)
  | _, [] => []
  | o, l :: ls => (walk [] (l :: ls)).map (fun π => (o, π)) ++ visitedFrom (o + 1) ls

/-- Every (offset, vertex) `for_each_pattern` asks for: the anchored walk, then `visitedFrom 0`. -/
def visited (ls : List Char) : List (Nat × List Edge) :=
  (walk [.start] ls).map (fun π => (0, π)) ++ visitedFrom 0 ls

theorem offsets_spec (h : Hyph) (hB : Bounded h) (lc : Char → Option Char) (off : Nat)
    (cs : List Char) (s : List Nat) (hs : off + cs.length + 1 ≤ s.length) :
    ∃ s', offsets h lc off cs s = some s' ∧ s'.length = s.length ∧
      ∀ ls, cs.mapM lc = some ls → Raised (val h) (visitedFrom off ls) s s' := by
  induction cs generalizing off s with
  | nil => exact ⟨s, rfl, rfl, fun ls hl => by cases hl; exact Raised.of_vals_nil _ nofun⟩
  | cons c cs ih =>
    simp only [offsets]
    cases hc : lc c with
    | none => exact ⟨s, rfl, rfl, fun ls hl => by simp [hc] at hl⟩
    | some l =>
      obtain ⟨s1, h1, h2, h3⟩ := process_spec h hB lc off (c :: cs) [] s
        (by simp [chCount] at hs ⊢; omega)
      obtain ⟨s2, h4, h5, h6⟩ := ih (off + 1) s1 (by simp at hs; omega)
      refine ⟨s2, by simp [h1, h4], h5.trans h2, fun ls hl => ?_⟩
      obtain ⟨l', ls', _, hm, rfl⟩ := mapM_cons_some lc c cs ls hl
      exact (h3 _ hl).append (h6 ls' hm)

theorem forEachPattern_spec (h : Hyph) (hB : Bounded h) (lc : Char → Option Char)
    (w : List Char) (s : List Nat) (hs : w.length + 1 ≤ s.length) :
    ∃ s', forEachPattern h lc w s = some s' ∧ s'.length = s.length ∧
      ∀ ls, w.mapM lc = some ls → Raised (val h) (visited ls) s s' := by
  unfold forEachPattern visited
  have h0 : ∃ s1, (if hasPrefix h.trie [.start] = true then process h lc 0 [.start] w s else some s)
      = some s1 ∧ s1.length = s.length ∧
      ∀ ls, w.mapM lc = some ls →
        Raised (val h) ((walk [.start] ls).map (fun π => (0, π))) s s1 := by
    cases hp : hasPrefix h.trie [.start] with
    | true => exact process_spec h hB lc 0 w [.start] s (by simp [chCount]; omega)
    | false =>
      exact ⟨s, by simp, rfl, fun ls _ => raised_below_dead h _ hp 0 _ (walk_prefix _ ls) s⟩
  obtain ⟨s1, h1, h2, h3⟩ := h0
  obtain ⟨s2, h4, h5, h6⟩ := offsets_spec h hB lc 0 w s1 (by omega)
  exact ⟨s2, by simp [h1, h4], h5.trans h2, fun ls hl => (h3 ls hl).append (h6 ls hl)⟩

/-- A trie key: anchored at the start?, letters, anchored at the end? -/
def enc (a : Bool) (L : List Char) (b : Bool) : List Edge :=
  (if a then [Edge.start] else []) ++ L.map Edge.ch ++ (if b then [Edge.stop] else [])

theorem chCount_map_ch (L : List Char) : chCount (L.map Edge.ch) = L.length := by
  induction L with
  | nil => rfl
  | cons c L ih => simp [chCount, ih]

theorem chCount_enc (a : Bool) (L : List Char) (b : Bool) : chCount (enc a L b) = L.length := by
  unfold enc
  rw [chCount_append, chCount_append, chCount_map_ch]
  cases a <;> cases b <;> simp [chCount]

theorem enc_ne_nil (a : Bool) (L : List Char) (b : Bool) (h : L ≠ []) : enc a L b ≠ [] := by
  intro he
  have := congrArg chCount he
  rw [chCount_enc] at this
  simp [chCount] at this
  exact h this

def decL (π : List Edge) : List Char :=
  π.filterMap (fun e => match e with | .ch c => some c | _ => none)

theorem decL_enc (a : Bool) (L : List Char) (b : Bool) : decL (enc a L b) = L := by
  cases a <;> cases b <;> simp [decL, enc, List.filterMap_map, Function.comp_def]

theorem head_enc (a : Bool) (L : List Char) (b : Bool) :
    ((enc a L b).head? = some Edge.start) ↔ a = true := by
  unfold enc
  cases a <;> cases b <;> cases L <;> simp

theorem last_enc (a : Bool) (L : List Char) (b : Bool) :
    ((enc a L b).getLast? = some Edge.stop) ↔ b = true := by
  unfold enc
  cases a <;> cases b <;>
    simp [List.getLast?_append, List.getLast?_map, List.getLast?_cons]
  all_goals (cases h : L.getLast? <;> simp)

theorem enc_inj {a a' : Bool} {L L' : List Char} {b b' : Bool} (h : enc a L b = enc a' L' b') :
    a = a' ∧ L = L' ∧ b = b' := by
  refine ⟨?_, ?_, ?_⟩
  · have h1 := head_enc a L b; have h2 := head_enc a' L' b'
    rw [h] at h1
    cases a <;> cases a' <;> simp_all
  · have := decL_enc a L b; rw [h, decL_enc] at this; exact this.symm
  · have h1 := last_enc a L b; have h2 := last_enc a' L' b'
    rw [h] at h1
    cases b <;> cases b' <;> simp_all

theorem enc_snoc_ch (a : Bool) (C : List Char) (l : Char) :
    enc a C false ++ [.ch l] = enc a (C ++ [l]) false := by simp [enc]
theorem enc_snoc_stop (a : Bool) (C : List Char) :
    enc a C false ++ [.stop] = enc a C true := by simp [enc]

theorem mem_visitedFrom (o0 : Nat) (ls : List Char) (o : Nat) (π : List Edge) :
    (o, π) ∈ visitedFrom o0 ls ↔ ∃ k, k < ls.length ∧ o = o0 + k ∧ π ∈ walk [] (ls.drop k) := by
  induction ls generalizing o0 with
  | nil => simp [visitedFrom]
  | cons l ls ih =>
    simp only [visitedFrom, List.mem_append, List.mem_map, Prod.mk.injEq, ih]
    constructor
    · rintro (⟨π', h1, rfl, rfl⟩ | ⟨k, h1, h2, h3⟩)
      · exact ⟨0, by simp, by simp, by simpa using h1⟩
      · exact ⟨k + 1, by simp; omega, by omega, by simpa using h3⟩
    · rintro ⟨k, h1, h2, h3⟩
      cases k with
      | zero => exact Or.inl ⟨π, by simpa using h3, by omega, rfl⟩
      | succ k =>
        exact Or.inr ⟨k, by simp at h1; omega, by omega, by simpa using h3⟩

theorem mem_visited (ls : List Char) (o : Nat) (π : List Edge) :
    (o, π) ∈ visited ls ↔
      (o = 0 ∧ π ∈ walk [.start] ls) ∨ (o < ls.length ∧ π ∈ walk [] (ls.drop o)) := by
  simp only [visited, List.mem_append, List.mem_map, Prod.mk.injEq, mem_visitedFrom]
  constructor
  · rintro (⟨π', h1, rfl, rfl⟩ | ⟨k, h1, h2, h3⟩)
    · exact Or.inl ⟨rfl, h1⟩
    · rw [Nat.zero_add] at h2
      subst h2
      exact Or.inr ⟨h1, h3⟩
  · rintro (⟨rfl, h⟩ | ⟨h1, h2⟩)
    · exact Or.inl ⟨π, h, rfl, rfl⟩
    · exact Or.inr ⟨o, h1, (Nat.zero_add o).symm, h2⟩

theorem enc_start : ([.start] : List Edge) = enc true [] false := rfl
theorem enc_root : ([] : List Edge) = enc false [] false := rfl

theorem matchesAt_iff (P : Pat) (ls : List Char) (o : Nat) :
    matchesAt P ls o = true ↔
      P.letters ≠ [] ∧ P.letters <+: ls.drop o ∧ (P.anchorStart = true → o = 0) ∧
      (P.anchorEnd = true → o + P.letters.length = ls.length) := by
  unfold matchesAt
  cases P.anchorStart <;> cases P.anchorEnd <;> simp [and_assoc]

theorem contrib_eq (P : Pat) (w : List Char) (o i : Nat) :
    contrib P w o i = if matchesAt P w o = true then digitAt P.digits o i else 0 := by
  by_cases h : o ≤ i <;> simp [contrib, digitAt, h]

theorem enc_mem_walk_from (a A B : Bool) (C L ls : List Char) :
    enc A L B ∈ walk (enc a C false) ls ↔
      A = a ∧ ∃ L', L = C ++ L' ∧ L' <+: ls ∧ (B = true → L' = ls) ∧ (B = false → L' ≠ []) := by
  induction ls generalizing C with
  | nil =>
    simp only [walk, List.mem_singleton, enc_snoc_stop]
    constructor
    · intro h
      obtain ⟨rfl, rfl, rfl⟩ := enc_inj h
      exact ⟨rfl, [], by simp, List.prefix_refl _, fun _ => rfl, nofun⟩
    · rintro ⟨rfl, L', rfl, hp, hb, hn⟩
      obtain rfl := List.prefix_nil.1 hp
      cases B with
      | true => simp
      | false => exact absurd rfl (hn rfl)
  | cons l ls ih =>
    simp only [walk, List.mem_cons, enc_snoc_ch, ih]
    constructor
    · rintro (h | ⟨rfl, L', rfl, hp, hb, hn⟩)
      · obtain ⟨rfl, rfl, rfl⟩ := enc_inj h
        exact ⟨rfl, [l], rfl, by simp, nofun, by simp⟩
      · exact ⟨rfl, l :: L', by simp, by simpa using hp, fun h => by rw [hb h], by simp⟩
    · rintro ⟨rfl, L', rfl, hp, hb, hn⟩
      rcases List.prefix_cons_iff.1 hp with rfl | ⟨t, rfl, ht⟩
      · cases B with
        | true => cases hb rfl
        | false => exact absurd rfl (hn rfl)
      · -- the first vertex of the walk, or one further down
        by_cases ht0 : t = [] ∧ B = false
        · obtain ⟨rfl, rfl⟩ := ht0
          exact Or.inl rfl
        · exact Or.inr ⟨rfl, t, by simp, ht, fun h => by simpa using hb h,
            fun h ht' => ht0 ⟨ht', h⟩⟩

theorem enc_mem_walk (a A B : Bool) (L ls : List Char) :
    enc A L B ∈ walk (enc a [] false) ls ↔
      A = a ∧ L <+: ls ∧ (B = true → L = ls) ∧ (B = false → L ≠ []) := by
  simp [enc_mem_walk_from]

theorem visited_iff_matches (ls : List Char) (hne : ls ≠ []) (P : Pat) (o : Nat) :
    (o, enc P.anchorStart P.letters P.anchorEnd) ∈ visited ls ↔ matchesAt P ls o = true := by
  rw [mem_visited, matchesAt_iff, enc_start, enc_root, enc_mem_walk, enc_mem_walk]
  have hL : ∀ l : List Char, l ≠ [] → (P.anchorEnd = true → P.letters = l) →
      (P.anchorEnd = false → P.letters ≠ []) → P.letters ≠ [] := by
    intro l hl h1 h2
    cases hb : P.anchorEnd with
    | false => exact h2 hb
    | true => rw [h1 hb]; exact hl
  constructor
  · rintro (⟨rfl, ha, hp, hc⟩ | ⟨ho, ha, hp, hc⟩)
    · exact ⟨hL ls hne hc.1 hc.2, by simpa using hp, fun _ => rfl, fun hb => by simp [hc.1 hb]⟩
    · exact ⟨hL _ (by simp; omega) hc.1 hc.2, hp, fun h => (by rw [ha] at h; cases h),
        fun hb => by rw [hc.1 hb, List.length_drop]; omega⟩
  · rintro ⟨h1, h2, h3, h4⟩
    cases ha : P.anchorStart with
    | true =>
      obtain rfl := h3 ha
      have h2' : P.letters <+: ls := by simpa using h2
      exact Or.inl ⟨rfl, rfl, h2', fun hb => h2'.eq_of_length (by simpa using h4 hb), fun _ => h1⟩
    | false =>
      have hlen := h2.length_le
      have : 0 < P.letters.length := List.length_pos_iff.2 h1
      rw [List.length_drop] at hlen
      exact Or.inr ⟨by omega, rfl, h2,
        fun hb => h2.eq_of_length (by have := h4 hb; rw [List.length_drop]; omega), fun _ => h1⟩

theorem exc_mem_visited (ls : List Char) (o : Nat) (L : List Char) :
    (o, enc true L true) ∈ visited ls ↔ o = 0 ∧ L = ls := by
  rw [mem_visited, enc_start, enc_root, enc_mem_walk, enc_mem_walk]
  constructor
  · rintro (⟨rfl, _, _, hc, _⟩ | ⟨_, ha, _⟩)
    · exact ⟨rfl, hc rfl⟩
    · cases ha
  · rintro ⟨rfl, rfl⟩
    exact Or.inl ⟨rfl, rfl, List.prefix_refl _, fun _ => rfl, nofun⟩

end C13
