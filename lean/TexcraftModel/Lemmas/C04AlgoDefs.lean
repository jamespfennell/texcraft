import TexcraftModel.Model.C04Algo
import TexcraftModel.Lemmas.C04

/-!
Definitions used by the proofs about `C04.algo` (no theorems here): the quantities of one
`try_break` round seen from one active node, the pure ("scan") form of the loops on the
deque, and the invariants. Core Lean only.
-/
namespace C04

/-- Position of a node: its most recent break (`none` = start of the paragraph). -/
def ANode.pos (ν : ANode) : Option Nat := ν.path.head?

/-- `auto_breaking` at the start of iteration `i`. `autoAt items b = autoBefore items (b+1)`. -/
def autoBefore (items : List Item) (i : Nat) : Bool :=
  (items.take i).foldl (fun a it => match it with | .math after => after | _ => a) true

/-- `end_of_replaced_nodes` at the start of iteration `i`. -/
def eorAt (items : List Item) (i : Nat) : Nat :=
  (List.range i).foldl
    (fun (e a : Nat) => match items[a]? with | some (Item.disc _ _ r) => a + 1 + r | _ => e) 0

/-- The scalar loop variables agree with the specification's prefix functions. -/
structure LBasic (x : Inst) (i : Nat) (st : LState) : Prop where
  diffs : st.diffs = cum x.items i
  auto : st.auto = autoBefore x.items i
  eor : st.eor = eorAt x.items i

/-! ### One round of `try_break` seen from one node (`force_solution = false`) -/

/-- Badness and fitness class of the line from node `ν` to the break of `c`. -/
def nodeRate (x : Inst) (c : BCtx) (ν : ANode) : Int × Fit :=
  rateFn ((c.diffs.sub ν.ref).add (background x.p)) (lineWidth x.p.widths ν.line) c.discWidth

def deactOf (x : Inst) (c : BCtx) (ν : ANode) : Bool :=
  decide (10000 < (nodeRate x c ν).1 ∨ c.penalty = -10000)

def allowOf (x : Inst) (c : BCtx) (ν : ANode) : Bool :=
  decide ((nodeRate x c ν).1 ≤ threshold x.p)

/-- Total demerits of the candidate through `ν`. -/
def totOf (x : Inst) (c : BCtx) (ν : ANode) : Int :=
  demeritsFn x.p (nodeRate x c ν).1 c.penalty ν.fit (nodeRate x c ν).2
    (ν.hyph && c.hyph) (ν.hyph && c.isEnd) + ν.total

/-- The two `<=` updates (lib.rs:771-782). -/
def offer (s : Cands × Int) (f : Fit) (tot : Int) (line : Nat) (path : List Nat) : Cands × Int :=
  (if tot ≤ (s.1 f).total then s.1.set f ⟨tot, line, path⟩ else s.1, if tot ≤ s.2 then tot else s.2)

def scanStep (x : Inst) (c : BCtx) (ν : ANode) (s : Cands × Int) : Cands × Int :=
  if allowOf x c ν then offer s (nodeRate x c ν).2 (totOf x c ν) (ν.line + 1) ν.path else s

/-- Candidates and minimum after the nodes of `G` have been looked at. -/
def scanC (x : Inst) (c : BCtx) (G : List ANode) (s : Cands × Int) : Cands × Int :=
  G.foldl (fun s ν => scanStep x c ν s) s

def survivors (x : Inst) (c : BCtx) (G : List ANode) : List ANode :=
  G.filter fun ν => !deactOf x c ν

/-- What one round of the `while n > 0` loop appends to the deque for the group `G`. -/
def groupOut (x : Inst) (c : BCtx) (G : List ANode) : List ANode :=
  let s := scanC x c G (Cands.init, awfulBad)
  survivors x c G ++
    (if s.2 < awfulBad then
      newNodes c (breakWidth x c.i c.diffs) s.1 (pruneThreshold x.p.adjDemerits s.2)
     else [])

/-- The whole `while n > 0` loop as a function of the nodes still to be looked at. -/
def groupsRun (x : Inst) (q : Int) (c : BCtx) : Nat → List ANode → List ANode
  | 0, _ => []
  | fuel + 1, todo =>
    if todo = [] then []
    else
      let m := numNext x q todo todo.length
      groupOut x c (todo.take m) ++ groupsRun x q c fuel (todo.drop m)

/-- The candidates record a true minimum. -/
def MinOK (s : Cands × Int) : Prop :=
  (∀ g, s.2 ≤ (s.1 g).total) ∧ (∃ g, s.2 = (s.1 g).total)

/-- Candidate `cd` of class `f` was offered by a node of `G`. -/
def CandFrom (x : Inst) (c : BCtx) (G : List ANode) (f : Fit) (cd : Cand) : Prop :=
  ∃ μ, μ ∈ G ∧ allowOf x c μ = true ∧ (nodeRate x c μ).2 = f ∧
    cd = ⟨totOf x c μ, μ.line + 1, μ.path⟩

/-- Line class: all line numbers from `widths.length - 1` on use the last width. -/
def lkey (x : Inst) (L : Nat) : Nat := min L (x.p.widths.length - 1)

def SortedK (x : Inst) (l : List ANode) : Prop :=
  l.Pairwise fun a b => lkey x a.line ≤ lkey x b.line

/-- The nodes looked at in one round either all have the same line number or all produce
nodes of the last line class. -/
def GroupShape (x : Inst) (G : List ANode) : Prop :=
  (∀ μ ∈ G, ∀ μ' ∈ G, μ.line = μ'.line) ∨ (∀ μ ∈ G, x.p.widths.length ≤ μ.line + 2)

/-! ### Invariants of the main loop -/

/-- Node `ν` records a feasible sequence of breaks with its totals. -/
structure NodeOK (x : Inst) (ν : ANode) : Prop where
  run : run x {} ν.path.reverse = some (ν.total, ⟨ν.pos, ν.line, ν.fit⟩)
  ref : ν.ref = afterRef x ν.pos
  hyph : ν.hyph = hyphAt x ν.pos

/-- `NodeOK` at the start of iteration `i`: the node lies before `i` and no forced break
has been passed since. -/
structure NodeInv (x : Inst) (i : Nat) (ν : ANode) : Prop where
  ok : NodeOK x ν
  lt : lt? ν.pos i = true
  nf : forcedBetween x ν.pos i = false

/-- Every feasible sequence of lines from the start has total demerits below `AWFUL_BAD`. -/
def PrefixBounded (x : Inst) : Prop :=
  ∀ s c st, run x {} s = some (c, st) → c < awfulBad

end C04
