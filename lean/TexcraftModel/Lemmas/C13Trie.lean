import TexcraftModel.Model.C13Trie
import TexcraftModel.Lemmas.C13Walk

/-! C13: the coded trie (numbered vertices, one edge map) refines the prefix map. -/
namespace C13

def cStep (t : CTrie) (acc : Option (Nat × Option Nat)) (e : Edge) : Option (Nat × Option Nat) :=
  acc.bind (fun x => t.nextOr x.1 e)

/-- Vertex reached from the root along `π`, with the value of the last entry used. -/
def cWalk (t : CTrie) (π : List Edge) : Option (Nat × Option Nat) :=
  π.foldl (cStep t) (some (rootV, none))

theorem cWalk_nil (t : CTrie) : cWalk t [] = some (rootV, none) := rfl

theorem cWalk_snoc (t : CTrie) (π : List Edge) (e : Edge) :
    cWalk t (π ++ [e]) = (cWalk t π).bind (fun x => t.nextOr x.1 e) := by
  simp [cWalk, List.foldl_append, cStep]

theorem snoc_cases (π : List Edge) : π = [] ∨ ∃ ρ e, π = ρ ++ [e] := by
  rcases List.eq_nil_or_concat π with h | ⟨ρ, e, h⟩
  · exact Or.inl h
  · exact Or.inr ⟨ρ, e, by simpa using h⟩

theorem snoc_induction {P : List Edge → Prop} (h0 : P [])
    (hs : ∀ ρ e, P ρ → P (ρ ++ [e])) : ∀ π, P π := by
  have : ∀ r : List Edge, P r.reverse := by
    intro r
    induction r with
    | nil => exact h0
    | cons e r ih => simpa using hs _ e ih
  intro π
  simpa using this π.reverse

/-- No two arguments are sent to the same vertex. -/
def InjTgt {α : Type} (f : α → Option (Nat × Option Nat)) : Prop :=
  ∀ a b u x y, f a = some (u, x) → f b = some (u, y) → a = b

theorem InjTgt.update {α : Type} [DecidableEq α] {f f' : α → Option (Nat × Option Nat)}
    (h : InjTgt f) (a0 : α) (n : Nat) (hf' : ∀ a, f' a = if a = a0 then some (n, none) else f a)
    (hn : ∀ a x, f a ≠ some (n, x)) : InjTgt f' := by
  intro a b u x y ha hb
  rw [hf'] at ha hb
  by_cases h1 : a = a0 <;> by_cases h2 : b = a0
  · rw [h1, h2]
  · rw [if_pos h1] at ha; rw [if_neg h2] at hb
    cases ha; exact absurd hb (hn b y)
  · rw [if_neg h1] at ha; rw [if_pos h2] at hb
    cases hb; exact absurd ha (hn a x)
  · rw [if_neg h1] at ha; rw [if_neg h2] at hb
    exact h a b u x y ha hb

/-- What is maintained while the trie is built: entries lead to allocated vertices below the root,
nothing leaves an unallocated one, and no two entries lead to the same vertex. -/
structure Good (t : CTrie) : Prop where
  lt : t.next < rootV
  tgt : ∀ k v x, assoc t.m k = some (v, x) → v < t.next
  fresh : ∀ u e, t.next ≤ u → u ≠ rootV → assoc t.m (u, e) = none
  uniq : InjTgt (assoc t.m)

theorem cWalk_empty (π : List Edge) (hπ : π ≠ []) : cWalk ({} : CTrie) π = none := by
  rcases snoc_cases π with h | ⟨ρ, e, rfl⟩
  · exact absurd h hπ
  · rw [cWalk_snoc]; cases cWalk ({} : CTrie) ρ <;> simp [CTrie.nextOr, assoc]

theorem good_empty : Good {} := by
  refine ⟨by decide, ?_, ?_, ?_⟩
  · intro k v x h; simp [assoc] at h
  · intro u e _ _; rfl
  · intro k1 k2 u x1 x2 h; simp [assoc] at h

theorem cWalk_snoc_some {t : CTrie} {σ : List Edge} {e : Edge} {y : Nat × Option Nat}
    (h : cWalk t (σ ++ [e]) = some y) : ∃ z, cWalk t σ = some z ∧ assoc t.m (z.1, e) = some y := by
  rw [cWalk_snoc] at h
  cases hw : cWalk t σ with
  | none => rw [hw] at h; cases h
  | some z => rw [hw] at h; exact ⟨z, rfl, h⟩

theorem Good.reach_root_or_lt {t : CTrie} (g : Good t) (π : List Edge) (u : Nat) (x : Option Nat)
    (h : cWalk t π = some (u, x)) : u = rootV ∨ u < t.next := by
  rcases snoc_cases π with rfl | ⟨ρ, e, rfl⟩
  · exact .inl (Prod.mk.inj (Option.some.inj h)).1.symm
  · obtain ⟨z, _, hz⟩ := cWalk_snoc_some h
    exact .inr (g.tgt _ _ _ hz)

theorem Good.inj {t : CTrie} (g : Good t) : InjTgt (cWalk t) := by
  have hne : ∀ ρ e x, cWalk t (ρ ++ [e]) ≠ some (rootV, x) := fun ρ e x h => by
    obtain ⟨z, _, hz⟩ := cWalk_snoc_some h
    exact Nat.lt_asymm g.lt (g.tgt _ _ _ hz)
  unfold InjTgt
  apply snoc_induction
  · intro π2 u x y h1 h2
    cases Option.some.inj h1
    rcases snoc_cases π2 with rfl | ⟨ρ, e, rfl⟩
    · rfl
    · exact absurd h2 (hne ρ e y)
  · intro ρ1 e1 ih π2 u x y h1 h2
    rcases snoc_cases π2 with rfl | ⟨ρ2, e2, rfl⟩
    · cases Option.some.inj h2
      exact absurd h1 (hne ρ1 e1 x)
    · obtain ⟨z1, hz1, ha1⟩ := cWalk_snoc_some h1
      obtain ⟨z2, hz2, ha2⟩ := cWalk_snoc_some h2
      have hk := Prod.mk.inj (g.uniq _ _ _ _ _ ha1 ha2)
      rw [ih ρ2 z1.1 z1.2 z2.2 hz1 (by rw [hz2, hk.1]), hk.2]

def addEntry (t : CTrie) (v : Nat) (e : Edge) : CTrie :=
  { m := ((v, e), (t.next, none)) :: t.m, next := t.next + 1 }

theorem assoc_addEntry (t : CTrie) (v : Nat) (e : Edge) (k : Nat × Edge) :
    assoc (addEntry t v e).m k = if k = (v, e) then some (t.next, none) else assoc t.m k := by
  simp [addEntry, assoc, eq_comm]

theorem good_addEntry {t : CTrie} (g : Good t) {v : Nat} (e : Edge) (hv : v = rootV ∨ v < t.next)
    (hlt : t.next + 1 < rootV) : Good (addEntry t v e) := by
  refine ⟨hlt, ?_, ?_, ?_⟩
  · intro k u x h
    rw [assoc_addEntry] at h
    by_cases hk : k = (v, e)
    · rw [if_pos hk] at h; cases h; exact Nat.lt_succ_self _
    · rw [if_neg hk] at h; exact Nat.lt_succ_of_lt (g.tgt k u x h)
  · intro u e' hu hr
    have hu' : t.next ≤ u := Nat.le_of_succ_le hu
    rw [assoc_addEntry, if_neg, g.fresh u e' hu' hr]
    -- `v` is the root or allocated, `u` is neither
    intro h
    cases h
    rcases hv with hv | hv
    · exact hr hv
    · exact Nat.lt_irrefl _ (Nat.lt_of_lt_of_le hv hu')
  · exact g.uniq.update (v, e) t.next (assoc_addEntry t v e)
      fun k x h => Nat.lt_irrefl _ (g.tgt k _ x h)

section AddEntry
variable (t : CTrie) (g : Good t) (ρ : List Edge) (v : Nat) (xv : Option Nat) (e : Edge)
  (hρ : cWalk t ρ = some (v, xv)) (hn : assoc t.m (v, e) = none)
include g hρ hn

theorem cWalk_addEntry :
    ∀ π, cWalk (addEntry t v e) π
      = if π = ρ ++ [e] then some (t.next, none) else cWalk t π := by
  have hv : v ≠ t.next := fun h =>
    (g.reach_root_or_lt ρ v xv hρ).elim (fun h' => Nat.ne_of_lt g.lt (h ▸ h'))
      (fun h' => Nat.lt_irrefl _ (h ▸ h'))
  apply snoc_induction
  · exact (if_neg (List.append_ne_nil_of_right_ne_nil ρ (List.cons_ne_nil e [])).symm).symm
  · intro π e' ih
    rw [cWalk_snoc, ih, cWalk_snoc]
    by_cases h1 : π = ρ ++ [e]
    · -- from the fresh vertex nothing leaves; in the old trie the path did not exist
      have hne : π ++ [e'] ≠ ρ ++ [e] := fun h => by
        rw [(List.append_singleton_inj.1 h).1] at h1
        exact List.cons_ne_nil e [] (List.self_eq_append_right.1 h1)
      have hold : cWalk t π = none := by rw [h1, cWalk_snoc, hρ]; exact hn
      rw [if_pos h1, if_neg hne, hold]
      show assoc (addEntry t v e).m (t.next, e') = none
      rw [assoc_addEntry, if_neg fun h => hv (congrArg Prod.fst h).symm]
      exact g.fresh _ _ (Nat.le_refl _) (Nat.ne_of_lt g.lt)
    · rw [if_neg h1]
      cases hw : cWalk t π with
      | none =>
        -- `π` is not walkable, `ρ` is
        rw [if_neg fun h => by rw [(List.append_singleton_inj.1 h).1, hρ] at hw; cases hw]
        rfl
      | some y =>
        obtain ⟨u, xu⟩ := y
        show assoc (addEntry t v e).m (u, e') = if π ++ [e'] = ρ ++ [e] then _ else assoc t.m (u, e')
        rw [assoc_addEntry]
        -- the two conditions say the same: `u = v` iff `π = ρ`, by injectivity of walks
        refine ite_congr (propext ⟨fun h => ?_, fun h => ?_⟩) (fun _ => rfl) (fun _ => rfl)
        · rw [(Prod.mk.inj h).1] at hw
          rw [g.inj π ρ v xu xv hw hρ, (Prod.mk.inj h).2]
        · rw [(List.append_singleton_inj.1 h).1, hρ] at hw
          rw [← (Prod.mk.inj (Option.some.inj hw)).1, (List.append_singleton_inj.1 h).2]

end AddEntry

/-- What lies at the end of `π`: `none` is no vertex, `some none` a vertex without a value. -/
def cv (t : CTrie) (π : List Edge) : Option (Option Nat) := (cWalk t π).map (·.2)

/-- `(cv t (ρ ++ [e])).join` is the value the entry `(v, e)` held, `none` if `next` has just made it:
whether the entry is old or new, only the walk along `ρ ++ [e]` can differ afterwards. -/
theorem next'_spec (t : CTrie) (ρ : List Edge) (v : Nat) (xv : Option Nat) (e : Edge) (g : Good t)
    (hρ : cWalk t ρ = some (v, xv)) (hlt : t.next + 1 < rootV) :
    Good (t.next' v e).1 ∧ (t.next' v e).1.next ≤ t.next + 1 ∧
    assoc (t.next' v e).1.m (v, e) = some ((t.next' v e).2, (cv t (ρ ++ [e])).join) ∧
    ∀ π, cWalk (t.next' v e).1 π
      = if π = ρ ++ [e] then some ((t.next' v e).2, (cv t (ρ ++ [e])).join) else cWalk t π := by
  have hold : cWalk t (ρ ++ [e]) = assoc t.m (v, e) := by rw [cWalk_snoc, hρ]; rfl
  rw [CTrie.next', cv, hold]
  cases hn : assoc t.m (v, e) with
  | some y =>
    refine ⟨g, Nat.le_add_right _ _, hn, fun π => ?_⟩
    by_cases hp : π = ρ ++ [e]
    · rw [if_pos hp, hp, hold, hn]; rfl
    · rw [if_neg hp]
  | none =>
    exact ⟨good_addEntry g e (g.reach_root_or_lt ρ v xv hρ) hlt, Nat.le_refl _,
      (assoc_addEntry t v e _).trans (if_pos rfl), cWalk_addEntry t g ρ v xv e hρ hn⟩

/-- The coded trie `t` holds exactly the paths of the prefix map `a`, with its values … -/
def Sim (t : CTrie) (a : List (List Edge × Nat)) : Prop :=
  ∀ π, π ≠ [] → cv t π = if hasPrefix a π = true then some (lookup a π) else none

/-- … plus the (valueless) prefixes of the path `ρ0` being inserted. -/
def SimP (t : CTrie) (a : List (List Edge × Nat)) (ρ0 : List Edge) : Prop :=
  ∀ π, π ≠ [] →
    cv t π = if hasPrefix a π = true ∨ π <+: ρ0 then some (lookup a π) else none

theorem Sim.simP {t : CTrie} {a : List (List Edge × Nat)} (h : Sim t a) : SimP t a [] :=
  fun π hπ => by simpa [hπ] using h π hπ

theorem SimP.lookup {t : CTrie} {a : List (List Edge × Nat)} {ρ π : List Edge} (hs : SimP t a ρ)
    (hπ : π ≠ []) : lookup a π = (cv t π).join := by
  rw [hs π hπ]
  by_cases hc : hasPrefix a π = true ∨ π <+: ρ
  · rw [if_pos hc]; rfl
  · rw [if_neg hc]
    exact lookup_none_of_not_hasPrefix a π π (Bool.eq_false_iff.2 fun h => hc (.inl h))
      (List.prefix_refl _)

/-- `hw` is what `next'_spec` says of the walks. -/
theorem SimP.snoc {t t' : CTrie} {a : List (List Edge × Nat)} {ρ : List Edge} {e : Edge} {n : Nat}
    (hs : SimP t a ρ)
    (hw : ∀ π, cWalk t' π = if π = ρ ++ [e] then some (n, (cv t (ρ ++ [e])).join) else cWalk t π) :
    SimP t' a (ρ ++ [e]) := by
  intro π hπ
  rw [cv, hw π]
  by_cases hp : π = ρ ++ [e]
  · rw [if_pos hp, if_pos (.inr (hp ▸ List.prefix_refl _)), hp, hs.lookup (hp ▸ hπ)]; rfl
  · rw [if_neg hp, ← cv, hs π hπ]
    simp only [List.prefix_concat_iff, hp, false_or]

/-- `last` is the key of the entry the `value` reference points to: the entry through which the
walk along `π`, unless it is still at the root, arrived at `(v, x)`. -/
def LastOK (t : CTrie) (π : List Edge) (v : Nat) (x : Option Nat)
    (last : Option (Nat × Edge)) : Prop :=
  π ≠ [] → ∃ k, last = some k ∧ assoc t.m k = some (v, x)

theorem insertPath_spec (a : List (List Edge × Nat)) (es : List Edge) :
    ∀ (t : CTrie) (ρ : List Edge) (v : Nat) (xv : Option Nat) (last : Option (Nat × Edge)),
      Good t → SimP t a ρ → cWalk t ρ = some (v, xv) → LastOK t ρ v xv last →
      t.next + es.length < rootV →
      Good (insertPath t v es last).1 ∧ SimP (insertPath t v es last).1 a (ρ ++ es) ∧
      (insertPath t v es last).1.next ≤ t.next + es.length ∧
      ∃ v1 x1, cWalk (insertPath t v es last).1 (ρ ++ es) = some (v1, x1) ∧
        LastOK (insertPath t v es last).1 (ρ ++ es) v1 x1 (insertPath t v es last).2 := by
  induction es with
  | nil =>
    intro t ρ v xv last g hs hρ hl _
    rw [List.append_nil]
    exact ⟨g, hs, Nat.le_refl _, v, xv, hρ, hl⟩
  | cons e es ih =>
    intro t ρ v xv last g hs hρ _ hlt
    have hlen : t.next + (e :: es).length = t.next + 1 + es.length := by
      rw [List.length_cons, Nat.add_comm es.length, Nat.add_assoc]
    rw [hlen] at hlt ⊢
    obtain ⟨g1, hn1, ha1, hw1⟩ :=
      next'_spec t ρ v xv e g hρ (Nat.lt_of_le_of_lt (Nat.le_add_right _ _) hlt)
    obtain ⟨g2, hs2, hn2, h2⟩ :=
      ih (t.next' v e).1 (ρ ++ [e]) (t.next' v e).2 _ (some (v, e)) g1 (hs.snoc hw1)
        ((hw1 _).trans (if_pos rfl)) (fun _ => ⟨(v, e), rfl, ha1⟩)
        (Nat.lt_of_le_of_lt (Nat.add_le_add_right hn1 _) hlt)
    rw [List.append_assoc] at hs2 h2
    exact ⟨g2, hs2, Nat.le_trans hn2 (Nat.add_le_add_right hn1 _), h2⟩

def withVal (t : CTrie) (k : Nat × Edge) (off : Nat) : CTrie := { t with m := setVal t.m k off }

theorem assoc_setVal (m : CMap) (k k' : Nat × Edge) (off : Nat) :
    assoc (setVal m k off) k' =
      (assoc m k').map (fun y => if k' = k then (y.1, some off) else y) := by
  induction m with
  | nil => rfl
  | cons kx m ih =>
    obtain ⟨k0, y0⟩ := kx
    simp only [setVal, List.map_cons] at ih ⊢
    by_cases h0 : k0 = k
    · subst h0
      by_cases h1 : k0 = k'
      · subst h1; simp [assoc]
      · simp only [if_true, assoc, h1, if_false]; exact ih
    · by_cases h1 : k0 = k'
      · subst h1; simp [assoc, h0]
      · simp only [h0, if_false, assoc, h1]; exact ih

theorem assoc_setVal_tgt {m : CMap} {k k' : Nat × Edge} {off v : Nat} {x : Option Nat}
    (h : assoc (setVal m k off) k' = some (v, x)) : ∃ x', assoc m k' = some (v, x') := by
  rw [assoc_setVal] at h
  cases ha : assoc m k' with
  | none => rw [ha] at h; cases h
  | some y =>
    rw [ha] at h
    refine ⟨y.2, congrArg some (Prod.ext ?_ rfl)⟩
    rw [← congrArg Prod.fst (Option.some.inj h)]
    split <;> rfl

theorem good_withVal {t : CTrie} (g : Good t) (k : Nat × Edge) (off : Nat) : Good (withVal t k off) := by
  refine ⟨g.lt, fun k' v x h => ?_, fun w e h1 h2 => ?_, fun a b u x y ha hb => ?_⟩
  · obtain ⟨x', h'⟩ := assoc_setVal_tgt h
    exact g.tgt _ _ _ h'
  · simp only [withVal, assoc_setVal, g.fresh w e h1 h2, Option.map_none]
  · obtain ⟨x', ha'⟩ := assoc_setVal_tgt ha
    obtain ⟨y', hb'⟩ := assoc_setVal_tgt hb
    exact g.uniq a b u x' y' ha' hb'

section WithVal
variable (t : CTrie) (g : Good t) (k : Nat × Edge) (u : Nat) (x0 : Option Nat) (off : Nat)
  (hk : assoc t.m k = some (u, x0))
include g hk

theorem nextOr_withVal (w : Nat) (e : Edge) :
    (withVal t k off).nextOr w e =
      (t.nextOr w e).map (fun y => (y.1, if y.1 = u then some off else y.2)) := by
  simp only [CTrie.nextOr, withVal, assoc_setVal]
  cases h : assoc t.m (w, e) with
  | none => rfl
  | some y =>
    obtain ⟨w', x'⟩ := y
    simp only [Option.map_some]
    by_cases hkk : (w, e) = k
    · rw [hkk, hk] at h; simp at h
      simp [hkk, h.1]
    · have : w' ≠ u := by
        intro hu; subst hu
        exact hkk (g.uniq _ _ _ _ _ h hk)
      simp [hkk, this]

theorem cWalk_withVal :
    ∀ π, cWalk (withVal t k off) π =
      (cWalk t π).map (fun y => (y.1, if y.1 = u then some off else y.2)) := by
  have hu : u < t.next := g.tgt _ _ _ hk
  apply snoc_induction
  · have : rootV ≠ u := by have := g.lt; omega
    simp [cWalk_nil, this]
  · intro π e ih
    rw [cWalk_snoc, cWalk_snoc, ih]
    cases cWalk t π with
    | none => rfl
    | some y => simp [nextOr_withVal t g k u x0 off hk]

end WithVal

theorem sim_withVal (t1 : CTrie) (a : List (List Edge × Nat)) (p : List Edge) (off : Nat)
    (g1 : Good t1) (hs1 : SimP t1 a p) (v1 : Nat) (x1 : Option Nat)
    (k : Nat × Edge) (hw1 : cWalk t1 p = some (v1, x1)) (hk : assoc t1.m k = some (v1, x1)) :
    Sim (withVal t1 k off) ((p, off) :: a) := by
  intro π hπ
  have hh : (hasPrefix ((p, off) :: a) π = true) = (hasPrefix a π = true ∨ π <+: p) := by
    rw [hasPrefix, List.any_cons, Bool.or_eq_true, List.isPrefixOf_iff_prefix, Or.comm]; rfl
  rw [cv, cWalk_withVal _ g1 k v1 x1 off hk π, lookup]
  simp only [hh]
  by_cases hpp : π = p
  · rw [hpp, hw1, if_pos (.inr (List.prefix_refl p)), if_pos rfl]
    exact congrArg some (if_pos rfl)
  · -- another path ends at another vertex: its value is untouched
    rw [if_neg (Ne.symm hpp), ← hs1 π hπ, cv]
    cases hc : cWalk t1 π with
    | none => rfl
    | some y =>
      have hy : y.1 ≠ v1 := fun h => hpp (g1.inj π p v1 y.2 x1 (by rw [hc, ← h]) hw1)
      exact congrArg some (if_neg hy)

theorem cAddPathG_spec (guard : Bool) (t : CTrie) (a : List (List Edge × Nat)) (data : List Nat)
    (p : List Edge) (off : Nat)
    (g : Good t) (hs : Sim t a) (hlt : t.next + p.length < rootV) :
    Good (cAddPathG guard t data p off) ∧
    Sim (cAddPathG guard t data p off)
      (if p = [] then a else if (guard && holdsExc ⟨data, a⟩ p) = true then a
        else (p, off) :: a) ∧
    (cAddPathG guard t data p off).next ≤ t.next + p.length := by
  by_cases hp : p = []
  · subst hp
    exact ⟨g, hs, Nat.le_refl _⟩
  · obtain ⟨g1, hs1, hn1, v1, x1, hw1, hl1⟩ :=
      insertPath_spec a p t [] rootV none none g hs.simP (cWalk_nil t)
        (fun h => absurd rfl h) hlt
    simp only [List.nil_append] at hs1 hw1 hl1
    obtain ⟨k, hlast, hk⟩ := hl1 hp
    have hsplit : insertPath t rootV p none
        = ((insertPath t rootV p none).1, some k) := by rw [← hlast]
    unfold cAddPathG
    rw [hsplit]
    simp only [hp, if_false]
    have hx1 : x1 = lookup a p := by rw [hs1.lookup hp, cv, hw1]; rfl
    have hcond : entryHoldsExc data (assoc (insertPath t rootV p none).1.m k)
        = holdsExc ⟨data, a⟩ p := by
      rw [hk, hx1]
      unfold holdsExc entryHoldsExc
      cases lookup a p <;> rfl
    rw [hcond]
    by_cases hh : (guard && holdsExc ⟨data, a⟩ p) = true
    · simp only [hh, if_true]
      refine ⟨g1, ?_, hn1⟩
      -- the vertex keeps its exception: the prefix map is unchanged, and it ran through `p` already
      have hlo : lookup a p ≠ none := fun hl => by simp [holdsExc, hl] at hh
      have hpre : ∀ π, π <+: p → hasPrefix a π = true := fun π hpre => Decidable.by_contra fun hc =>
        hlo (lookup_none_of_not_hasPrefix a π p (Bool.eq_false_iff.2 hc) hpre)
      intro π hπ
      rw [hs1 π hπ]
      exact ite_congr (propext ⟨fun h => h.elim id (hpre π), .inl⟩) (fun _ => rfl) (fun _ => rfl)
    · simp only [hh]
      exact ⟨good_withVal g1 k off, sim_withVal _ a p off g1 hs1 v1 x1 k hw1 hk, hn1⟩

theorem cAddPath_eq (t : CTrie) (data : List Nat) (p : List Edge) (off : Nat) :
    cAddPath t p off = cAddPathG false t data p off := by
  unfold cAddPath cAddPathG
  split <;> simp

/-- The coded hyphenator `c` refines the prefix-map hyphenator `h` and has allocated at most `n` vertices. -/
structure Rel (n : Nat) (c : CHyph) (h : Hyph) : Prop where
  data : c.data = h.data
  good : Good c.trie
  sim : Sim c.trie h.trie
  le : c.trie.next ≤ n

theorem rel_empty : Rel 0 {} {} := by
  refine ⟨rfl, good_empty, ?_, Nat.le_refl _⟩
  intro π hπ
  simp [cv, cWalk_empty π hπ, hasPrefix]

/-- One `load_patterns` iteration (`guard = true`) or one `insert_exception` (`guard = false`), on
both sides. -/
theorem rel_add (guard : Bool) {n : Nat} {c : CHyph} {h : Hyph} (ops : List Nat) (path : List Edge)
    (r : Rel n c h) (hlt : n + path.length < rootV) :
    Rel (n + path.length) ⟨c.data ++ ops, cAddPathG guard c.trie c.data path c.data.length⟩
      ⟨h.data ++ ops, if path = [] then h.trie else if (guard && holdsExc h path) = true then h.trie
        else (path, h.data.length) :: h.trie⟩ := by
  obtain ⟨cd, ct⟩ := c
  obtain ⟨hd, ht⟩ := h
  obtain ⟨rfl, g, s, le⟩ := r
  obtain ⟨g', s', le'⟩ := cAddPathG_spec guard ct ht cd path cd.length g s
    (Nat.lt_of_le_of_lt (Nat.add_le_add_right le _) hlt)
  exact ⟨rfl, g', s', Nat.le_trans le' (Nat.add_le_add_right le _)⟩

theorem rel_loadPattern {n : Nat} {c : CHyph} {h : Hyph} (p : List Char) (r : Rel n c h)
    (hlt : n + (patOps p).2.length < rootV) :
    Rel (n + (patOps p).2.length) (cLoadPattern c p) (loadPattern h p) :=
  rel_add true (patOps p).1 (patOps p).2 r hlt

theorem rel_insertException {n : Nat} {c : CHyph} {h : Hyph} (e : List Char) (r : Rel n c h)
    (hlt : n + ((excScan e [excNo] [.start]).2.length + 1) < rootV) :
    Rel (n + ((excScan e [excNo] [.start]).2.length + 1)) (cInsertException c e)
      (insertException h e) := by
  have := rel_add false ((excScan e [excNo] [.start]).1 ++ [10])
    ((excScan e [excNo] [.start]).2 ++ [.stop]) r (by simpa using hlt)
  simpa [cInsertException, insertException, cAddPath_eq _ c.data] using this

theorem rel_foldl {α : Type} (fc : CHyph → α → CHyph) (fh : Hyph → α → Hyph) (cost : α → Nat)
    (step : ∀ {n c h} x, Rel n c h → n + cost x < rootV → Rel (n + cost x) (fc c x) (fh h x))
    (l : List α) {n : Nat} {c : CHyph} {h : Hyph} (r : Rel n c h)
    (hlt : n + (l.map cost).sum < rootV) :
    Rel (n + (l.map cost).sum) (l.foldl fc c) (l.foldl fh h) := by
  induction l generalizing n c h with
  | nil => exact r
  | cons x l ih =>
    rw [List.map_cons, List.sum_cons, ← Nat.add_assoc] at hlt ⊢
    exact ih (step x r (Nat.lt_of_le_of_lt (Nat.le_add_right _ _) hlt)) hlt

theorem rel_build (ps es : List (List Char)) (hlt : edgeCount ps es < rootV) :
    Rel (edgeCount ps es) (cBuild ps es) (build ps es) := by
  unfold edgeCount at hlt ⊢
  -- the two folds start from no vertex: the budget as `0 + patterns + exceptions`
  rw [← Nat.zero_add (List.sum _ + _), ← Nat.add_assoc] at hlt ⊢
  exact rel_foldl cInsertException insertException _ rel_insertException es
    (rel_foldl cLoadPattern loadPattern _ rel_loadPattern ps rel_empty
      (Nat.lt_of_le_of_lt (Nat.le_add_right _ _) hlt)) hlt

section Walk
variable {n : Nat} (c : CHyph) (h : Hyph) (r : Rel n c h) (lc : Char → Option Char)
include r

theorem sim_next (π : List Edge) (v : Nat) (xv : Option Nat)
    (hw : cWalk c.trie π = some (v, xv)) (e : Edge) :
    hasPrefix h.trie (π ++ [e]) = (c.trie.nextOr v e).isSome ∧
    ∀ x, c.trie.nextOr v e = some x →
      lookup h.trie (π ++ [e]) = x.2 ∧ cWalk c.trie (π ++ [e]) = some x := by
  have hsn : cWalk c.trie (π ++ [e]) = c.trie.nextOr v e := by rw [cWalk_snoc, hw]; rfl
  have hne := List.append_ne_nil_of_right_ne_nil π (List.cons_ne_nil e [])
  refine ⟨?_, fun x hn => ⟨?_, hsn.trans hn⟩⟩
  · rw [← hsn, ← Option.isSome_map, ← cv, r.sim _ hne]
    cases hasPrefix h.trie (π ++ [e]) <;> rfl
  · rw [r.sim.simP.lookup hne, cv, hsn, hn]; rfl

theorem cVisit_eq (off : Nat) (π : List Edge)
    (x : Option Nat) (hl : lookup h.trie π = x) (s : List Nat) :
    cVisit c off x s = visit h off π s := by
  subst hl
  cases h' : lookup h.trie π <;> simp [cVisit, visit, h', r.data]

theorem cProcess_eq (off : Nat)
    (cs : List Char) : ∀ (π : List Edge) (v : Nat) (xv : Option Nat) (s : List Nat),
      cWalk c.trie π = some (v, xv) → cProcess c lc off v cs s = process h lc off π cs s := by
  induction cs with
  | nil =>
    intro π v xv s hw
    obtain ⟨h1, h2⟩ := sim_next c h r π v xv hw .stop
    rw [cProcess, process, h1]
    cases hn : c.trie.nextOr v .stop with
    | none => rfl
    | some x => exact cVisit_eq c h r off _ _ (h2 x hn).1 s
  | cons ch cs ih =>
    intro π v xv s hw
    rw [cProcess, process]
    cases lc ch with
    | none => rfl
    | some l =>
      obtain ⟨h1, h2⟩ := sim_next c h r π v xv hw (.ch l)
      simp only [h1]
      cases hn : c.trie.nextOr v (.ch l) with
      | none => rfl
      | some x =>
        simp only [Option.isSome_some, if_true]
        rw [cVisit_eq c h r off _ _ (h2 x hn).1 s]
        cases visit h off (π ++ [.ch l]) s with
        | none => rfl
        | some s' => exact ih (π ++ [.ch l]) x.1 x.2 s' (h2 x hn).2

theorem cOffsets_eq (cs : List Char) : ∀ (off : Nat) (s : List Nat),
      cOffsets c lc off cs s = offsets h lc off cs s := by
  induction cs with
  | nil => intro off s; rfl
  | cons ch cs ih =>
    intro off s
    simp only [cOffsets, offsets]
    cases lc ch with
    | none => rfl
    | some l =>
      simp only
      rw [cProcess_eq c h r lc off (ch :: cs) [] rootV none s (cWalk_nil _)]
      cases process h lc off [] (ch :: cs) s with
      | none => rfl
      | some s' => exact ih (off + 1) s'

theorem cForEachPattern_eq (w : List Char) (s : List Nat) : cForEachPattern c lc w s = forEachPattern h lc w s := by
  obtain ⟨h1, h2⟩ := sim_next c h r [] rootV none (cWalk_nil _) .start
  rw [List.nil_append] at h1 h2
  rw [cForEachPattern, forEachPattern, h1]
  cases hn : c.trie.nextOr rootV .start with
  | none => exact cOffsets_eq c h r lc w 0 s
  | some x =>
    simp only [Option.isSome_some, if_true]
    rw [cProcess_eq c h r lc 0 w [.start] x.1 x.2 s (h2 x hn).2]
    cases process h lc 0 [.start] w s with
    | none => rfl
    | some s' => exact cOffsets_eq c h r lc w 0 s'

theorem cAggregateScores_eq (w : List Char) : cAggregateScores c lc w = aggregateScores h lc w := by
  unfold cAggregateScores aggregateScores
  rw [cForEachPattern_eq c h r]
  cases forEachPattern h lc w (List.replicate (byteLen w + 1) 0) <;> rfl

end Walk

end C13
