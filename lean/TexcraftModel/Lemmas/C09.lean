import TexcraftModel.Model.C09

/-! The protocol loop against its specification; UTF-8 byte offsets of character prefixes, the
slicing built on them and the excerpt in closed form; the invariant of the loop of
`Tracer::trace`; the cases of integer → `char`; the `\ifcase` loop in closed form. -/
namespace C09

theorem specRun_ok_or_err (m : Mode) (evs : List Ev) : specRun m evs = .ok ∨ specRun m evs = .err := by
  fun_induction specRun m evs
  all_goals simp [*]

/-- While the contract is respected the status is `None` at the head of the loop, and the loop
computes what the specification says. -/
theorem runLoop_eq_spec (m : Mode) (evs : List Ev) (h : ∀ e ∈ evs, e.respects = true) :
    runLoop ⟨.none, m⟩ evs = specRun m evs := by
  induction evs generalizing m with
  | nil => rfl
  | cons e es ih =>
    have ih := fun m => ih m (fun x hx => h x (List.mem_cons_of_mem _ hx))
    have he : e.respects = true := h e List.mem_cons_self
    cases e with
    | ok => exact ih m
    | setMode m' => exact ih m'
    | recoverable =>
      cases m with
      | errorstop => rfl
      | scroll | nonstop | batch => exact ih _
    | fatal => rfl
    | shutdown => rfl
    | ignFatal | ignShutdown | ignRecoverable | spurious => cases he

theorem u8len_pos (c : Char) : 0 < u8len c := by
  unfold u8len
  split
  · decide
  · split
    · decide
    · split <;> decide

theorem byteLen_append (a b : List Char) : byteLen (a ++ b) = byteLen a + byteLen b := by
  induction a with
  | nil => simp [byteLen]
  | cons c cs ih => simp only [List.cons_append, byteLen, ih, Nat.add_assoc]

theorem byteLen_snoc (a : List Char) (c : Char) : byteLen (a ++ [c]) = byteLen a + u8len c :=
  byteLen_append a [c]

theorem splitAtByte_append (a b : List Char) : splitAtByte (a ++ b) (byteLen a) = some (a, b) := by
  induction a with
  | nil => cases b <;> rfl
  | cons c cs ih =>
    simp only [List.cons_append, byteLen, splitAtByte]
    rw [if_neg (Nat.ne_of_gt (Nat.add_pos_left (u8len_pos c) _)), if_pos (Nat.le_add_right _ _),
      Nat.add_sub_cancel_left, ih]

theorem splitAtByte_take (s : List Char) (k : Nat) :
    splitAtByte s (byteLen (s.take k)) = some (s.take k, s.drop k) := by
  have := splitAtByte_append (s.take k) (s.drop k)
  rwa [List.take_append_drop] at this

theorem byteLen_take_add (s : List Char) (a b : Nat) :
    byteLen (s.take (a + b)) = byteLen (s.take a) + byteLen ((s.drop a).take b) := by
  rw [List.take_add, byteLen_append]

theorem byteLen_ascii (s : List Char) (h : ∀ c ∈ s, u8len c = 1) : byteLen s = s.length := by
  induction s with
  | nil => rfl
  | cons c cs ih =>
    rw [byteLen, h c List.mem_cons_self, ih (fun x hx => h x (List.mem_cons_of_mem _ hx)),
      List.length_cons, Nat.add_comm]

theorem splitAtByte_ascii (s : List Char) (h : ∀ c ∈ s, u8len c = 1) (k : Nat) (hk : k ≤ s.length) :
    splitAtByte s k = some (s.take k, s.drop k) := by
  have := splitAtByte_take s k
  rwa [byteLen_ascii _ (fun c hc => h c (List.mem_of_mem_take hc)), List.length_take,
    Nat.min_eq_left hk] at this

theorem highlight_eq (line : List Char) (start len : Nat) :
    highlight line start len =
      if start + len ≤ line.length then
        .parts (line.take start) ((line.drop start).take len) (trimEnd (line.drop (start + len)))
      else .whole line := by
  unfold highlight byteIndex
  by_cases h2 : start + len ≤ line.length
  · -- both byte indices exist, the end is the start plus the bytes of the next `len` characters,
    -- and both slices are taken at the byte length of a prefix
    have h1 : start ≤ line.length := by omega
    simp only [if_pos h1, if_pos h2, byteLen_take_add, Nat.not_lt.mpr (Nat.le_add_right _ _),
      if_false, Nat.add_sub_cancel_left, splitAtByte_take, List.drop_drop]
  · rw [if_neg h2, if_neg h2]
    split
    · contradiction
    · rfl

/-- What the loops of `trace` and `trace_end_of_input` have recorded stays a character boundary
while they consume more of the content. -/
theorem boundary_append {pre : List Char} {k b : Nat} (hk : k ≤ pre.length)
    (hb : b = byteLen (pre.take k)) (l : List Char) :
    k ≤ (pre ++ l).length ∧ b = byteLen ((pre ++ l).take k) :=
  ⟨List.length_append ▸ Nat.le_add_right_of_le hk, List.take_append_of_le_length hk ▸ hb⟩

/-- Invariant of the loop: the line start recorded so far is at or before the cursor, and it is
a character boundary of the whole content (`pre` = what has been consumed). -/
theorem traceLoop_inv (off : Nat) (rest : List Char) :
    ∀ (pre : List Char) (loc : Loc),
      loc.lineStartChar ≤ pre.length → pre.length ≤ off →
      loc.lineStartByte = byteLen (pre.take loc.lineStartChar) →
      let r := traceLoop off rest pre.length (byteLen pre) loc
      r.lineStartChar ≤ off ∧ r.lineStartChar ≤ (pre ++ rest).length ∧
        r.lineStartByte = byteLen ((pre ++ rest).take r.lineStartChar) := by
  induction rest with
  | nil =>
    intro pre loc h1 h2 h3
    rw [List.append_nil]
    exact ⟨Nat.le_trans h1 h2, h1, h3⟩
  | cons c cs ih =>
    intro pre loc h1 h2 h3
    have keep := boundary_append h1 h3
    rw [traceLoop]
    by_cases hoff : pre.length = off
    · rw [if_pos hoff]
      exact ⟨Nat.le_trans h1 h2, keep _⟩
    · have hlen : (pre ++ [c]).length = pre.length + 1 := List.length_append
      have h2' : (pre ++ [c]).length ≤ off := by rw [hlen]; exact Nat.lt_of_le_of_ne h2 hoff
      rw [if_neg hoff, List.append_cons, ← byteLen_snoc, ← hlen]
      by_cases hc : c = '\n'
      · -- a new line starts after the newline, at the end of `pre ++ [c]`
        rw [if_pos hc]
        exact ih (pre ++ [c]) _ (Nat.le_refl _) h2' (by rw [List.take_length])
      · rw [if_neg hc]
        exact ih (pre ++ [c]) loc (keep _).1 h2' (keep _).2

theorem charFromCode_cases (i : Int) :
    charFromCode i = .err 0 ∨ ∃ c, fromU32 i.toNat = some c ∧ charFromCode i = .ok c := by
  unfold charFromCode
  split
  · exact .inl rfl
  · split
    · next c hc => exact .inr ⟨c, hc, rfl⟩
    · exact .inl rfl

theorem ifcaseLoop_nonpos (k : Nat) : ∀ (c : Int) (j : Nat), c ≤ 0 → ifcaseLoop c j k = none := by
  induction k with
  | zero => intro c j _; rfl
  | succ k ih =>
    intro c j h
    rw [ifcaseLoop, if_neg (Int.not_lt.mpr h)]
    exact ih c (j + 1) h

theorem ifcaseLoop_succ (k : Nat) : ∀ (n j : Nat),
    ifcaseLoop ((n : Int) + 1) j k = if n < k then some (j + (n + 1)) else none := by
  induction k with
  | zero => intro n j; rfl
  | succ k ih =>
    intro n j
    rw [ifcaseLoop, if_pos (Int.lt_add_one_iff.mpr (Int.natCast_nonneg n)), Int.add_sub_cancel]
    cases n with
    | zero => rfl
    | succ m =>
      rw [if_neg (Int.natCast_ne_zero.mpr (Nat.succ_ne_zero m)), Int.natCast_succ, ih m (j + 1)]
      simp only [Nat.succ_lt_succ_iff, Nat.add_assoc, Nat.add_comm 1]

end C09
