import TexcraftModel.Model.C10Num

/-! The accumulators of the `FixWord` reader stay in the ranges that make every `checked_*().unwrap()` succeed: the
integer part is clamped at 2048; a fraction digit is stored as `2^21 · d ≤ 2^21 · 9 = 18874368`, the fold
`d + acc / 10` keeps `acc ≤ 2^21 · 10 = 20971520`, and `(acc + 10) / 20` is then at most `2^20`, one unit. -/
namespace C10.Num

theorem toDigit_lt (radix : Nat) (c : Char) (d : Nat) (h : toDigit radix c = some d) : d < radix := by
  unfold toDigit at h
  simp only [] at h
  split at h
  · split at h
    · simp at h; omega
    · simp at h
  · simp at h

theorem ck32_some (x : Int) (h : -2147483648 ≤ x ∧ x ≤ 2147483647) : ck32 x = some x := by
  simp [ck32, h]

theorem intPart_ok : ∀ (l : List Char) (p : Nat) (acc : Int), 0 ≤ acc → acc ≤ 2048 →
    ∃ ip i, intPart l p acc = some (ip, i) ∧ 0 ≤ ip ∧ ip ≤ 2048
  | [], p, acc, h0, h1 => ⟨acc, ⟨[], p⟩, by simp [intPart], h0, h1⟩
  | c :: t, p, acc, h0, h1 => by
    simp only [intPart]
    cases hd : toDigit 10 c with
    | none => exact ⟨acc, _, rfl, h0, h1⟩
    | some d =>
      have hlt := toDigit_lt 10 c d hd
      simp only []
      rw [ck32_some (acc * 10) (by omega)]
      simp only []
      rw [ck32_some (acc * 10 + d) (by omega)]
      simp only []
      exact intPart_ok t (p + 1) _ (by omega) (by omega)

theorem fracDigits_ok : ∀ (k : Nat) (l : List Char) (p : Nat),
    ∃ ds i, fracDigits k l p = some (ds, i) ∧ ∀ x ∈ ds, 0 ≤ x ∧ x ≤ 18874368
  | 0, l, p => ⟨[], ⟨l, p⟩, by simp [fracDigits], by simp⟩
  | k + 1, [], p => ⟨[], ⟨[], p⟩, by simp [fracDigits], by simp⟩
  | k + 1, c :: t, p => by
    simp only [fracDigits]
    cases hd : toDigit 10 c with
    | none => exact ⟨[], _, rfl, by simp⟩
    | some d =>
      have hlt := toDigit_lt 10 c d hd
      simp only []
      rw [ck32_some (2097152 * (d : Int)) (by omega)]
      obtain ⟨ds, i, h, hr⟩ := fracDigits_ok k t (p + 1)
      simp only [h]
      exact ⟨_, _, rfl, List.forall_mem_cons.mpr ⟨by omega, hr⟩⟩

theorem fracFold_ok : ∀ (ds : List Int), (∀ x ∈ ds, 0 ≤ x ∧ x ≤ 18874368) →
    ∃ acc, fracFold ds = some acc ∧ 0 ≤ acc ∧ acc ≤ 20971520
  | [], _ => ⟨0, by simp [fracFold], by omega, by omega⟩
  | d :: ds, h => by
    obtain ⟨hd, hds⟩ := List.forall_mem_cons.mp h
    obtain ⟨acc, ha, h0, h1⟩ := fracFold_ok ds hds
    simp only [fracFold, ha]
    exact ⟨d + acc / 10, ck32_some _ (by omega), by omega, by omega⟩

theorem fracPart_ok (k : In) : ∃ fp m, fracPart k = some (fp, m) ∧ 0 ≤ fp ∧ fp ≤ 1048576 := by
  unfold fracPart
  split
  · rename_i t' _
    obtain ⟨ds, m, hd, hr⟩ := fracDigits_ok 7 t' (k.pos + 1)
    obtain ⟨acc, ha, h0, h1⟩ := fracFold_ok ds hr
    simp only [hd, ha]
    rw [ck32_some (acc + 10) (by omega)]
    exact ⟨_, _, rfl, by omega, by omega⟩
  · exact ⟨0, k, rfl, by omega, by omega⟩

theorem parseFix_ok (i : In) : ∃ r, parseFix i = .ok r := by
  unfold parseFix
  simp only []
  generalize consumeSpaces i = j
  rcases j with ⟨_ | ⟨c, t⟩, pos⟩
  · exact ⟨_, rfl⟩
  simp only []
  by_cases hp : ¬ (c = 'D' ∨ c = 'd' ∨ c = 'R' ∨ c = 'r')
  · exact ⟨_, if_pos hp⟩
  rw [if_neg hp]
  generalize consumeSpaces ⟨t, pos + 1⟩ = j
  generalize signs j.rest j.pos false = s
  obtain ⟨ip, k, hk, hip0, hip1⟩ := intPart_ok s.2.rest s.2.pos 0 (Int.le_refl 0) (by decide)
  obtain ⟨fp, m, hfr, hfp0, hfp1⟩ := fracPart_ok k
  simp only [hk, hfr]
  have hone : fixOne = 1048576 := rfl
  -- the "too big" test runs before `ip * 2^20` is formed; past it `ip ≤ 2047`, and `fp < 2^20` where `ip = 2047`
  by_cases hbig : ip ≥ 2048 ∨ (fp ≥ fixOne ∧ ip = 2047)
  · exact ⟨_, if_pos hbig⟩
  rw [if_neg hbig]
  rw [hone] at hbig ⊢
  rw [ck32_some (ip * 1048576) (by omega)]
  simp only []
  rw [ck32_some (ip * 1048576 + fp) (by omega)]
  simp only []
  by_cases hneg : s.1 = true
  · rw [if_pos hneg, ck32_some ((ip * 1048576 + fp) * -1) (by omega)]
    exact ⟨_, rfl⟩
  · exact ⟨_, if_neg hneg⟩

end C10.Num
