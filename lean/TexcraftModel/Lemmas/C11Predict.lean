/-
C11 — `predict`, one trip on the raw lig/kern sub-file. Labels as a map (`lookup`, `sortByChar`);
the PL-level program of the trip (`plOf`) is well-formed and has the rule function of the raw
table; writing the packed table as words and reading the words back (`decodeRaw ∘ encodeWord`)
does not change the rule function (`rule_written`), so `predict` preserves the font; and the second
trip starts from the PL-level program of the first (`plOf_predict`), so it writes the same bytes.
-/
import TexcraftModel.Model.C05
import TexcraftModel.Model.C11
import TexcraftModel.Model.C11Bridge
import TexcraftModel.Model.C11Norm
import TexcraftModel.Model.C11Words
import TexcraftModel.Model.C11Predict
import TexcraftModel.Lemmas.C11Boundary
import TexcraftModel.Lemmas.C11Words
import TexcraftModel.Lemmas.C11NormPack
import TexcraftModel.Lemmas.C11Parse

namespace C11

theorem rule_congr_lookup (p : Prog) (ks : List Int) (es1 es2 : List (Nat × Nat))
    (h : ∀ c, lookup es1 c = lookup es2 c) (l : Option Nat) (r : Nat) :
    C05.rule (toC05 p es1 ks) l r = C05.rule (toC05 p es2 ks) l r := by
  rw [rule_toC05, rule_toC05]
  cases l with
  | none => rfl
  | some c => simp only [entryAt, h c]

theorem perm_insertByChar (x : Nat × Nat) (l : List (Nat × Nat)) : (insertByChar x l).Perm (x :: l) := by
  induction l with
  | nil => exact List.Perm.refl _
  | cons a t ih =>
    simp only [insertByChar]
    split
    · exact List.Perm.refl _
    · exact (ih.cons a).trans (List.Perm.swap x a t)

theorem perm_sortByChar (l : List (Nat × Nat)) : (sortByChar l).Perm l := by
  induction l with
  | nil => exact List.Perm.refl _
  | cons a t ih => exact (perm_insertByChar a (sortByChar t)).trans (ih.cons a)

theorem mem_sortByChar {y : Nat × Nat} {l : List (Nat × Nat)} : y ∈ sortByChar l ↔ y ∈ l :=
  (perm_sortByChar l).mem_iff

theorem insertByChar_sorted (x : Nat × Nat) : ∀ (l : List (Nat × Nat)), l.Pairwise (fun a b => a.1 < b.1) →
    (∀ y ∈ l, y.1 ≠ x.1) → (insertByChar x l).Pairwise (fun a b => a.1 < b.1) := by
  intro l
  induction l with
  | nil => intro _ _; simp [insertByChar]
  | cons a t ih =>
    intro hs hx
    have ⟨ha, ht⟩ := List.pairwise_cons.mp hs
    have hxa := hx a (List.mem_cons_self ..)
    simp only [insertByChar]
    split
    · refine List.pairwise_cons.mpr ⟨fun y hy => ?_, hs⟩
      rcases List.mem_cons.mp hy with rfl | hy
      · omega
      · have := ha y hy; omega
    · refine List.pairwise_cons.mpr ⟨fun y hy => ?_, ih ht fun y hy => hx y (List.mem_cons_of_mem _ hy)⟩
      rcases List.mem_cons.mp ((perm_insertByChar x t).mem_iff.mp hy) with rfl | hy
      · omega
      · exact ha y hy

theorem sortByChar_sorted : ∀ (l : List (Nat × Nat)), (l.map (·.1)).Nodup →
    ((sortByChar l).map (·.1)).Pairwise (· < ·) := by
  intro l
  induction l with
  | nil => intro _; simp [sortByChar]
  | cons a t ih =>
    intro hnd
    simp only [List.map_cons, List.nodup_cons] at hnd
    rw [show sortByChar (a :: t) = insertByChar a (sortByChar t) from rfl, List.pairwise_map]
    exact insertByChar_sorted a _ (List.pairwise_map.mp (ih hnd.2)) fun y hy h =>
      hnd.1 (h ▸ List.mem_map_of_mem (mem_sortByChar.mp hy))

theorem nodup_of_lt (l : List Nat) (h : l.Pairwise (· < ·)) : l.Nodup :=
  h.imp Nat.ne_of_lt

theorem lookup_sortByChar {l : List (Nat × Nat)} (hnd : (l.map (·.1)).Nodup) (c : Nat) :
    lookup (sortByChar l) c = lookup l c := by
  have hnd' : ((sortByChar l).map (·.1)).Nodup := nodup_of_lt _ (sortByChar_sorted l hnd)
  exact Option.ext fun e => by rw [lookup_iff_mem hnd', lookup_iff_mem hnd, mem_sortByChar]

theorem keys_insertEntry (es : List (Nat × Nat)) (c u : Nat) (h : (es.map (·.1)).Nodup) :
    ((insertEntry es c u).map (·.1)).Nodup := by
  simp only [insertEntry, List.map_append, List.map_cons, List.map_nil]
  rw [List.nodup_append]
  refine ⟨?_, by simp, ?_⟩
  · exact List.Nodup.sublist (List.Sublist.map _ List.filter_sublist) h
  · intro a ha b hb
    simp only [List.mem_singleton] at hb
    subst hb
    obtain ⟨y, hy, rfl⟩ := List.mem_map.mp ha
    have := (List.mem_filter.mp hy).2
    simpa using this

theorem keys_parseStep (s : PState) (it : Item) (h : (s.entries.map (·.1)).Nodup) :
    ((parseStep s it).entries.map (·.1)).Nodup := by
  cases it with
  | label c => exact keys_insertEntry _ _ _ h
  | labelB => exact h
  | op r o => exact h
  | stop => simp only [parseStep]; split <;> exact h
  | skip n => simp only [parseStep]; split <;> exact h

theorem keys_printParse (p : Prog) (es : List (Nat × Nat)) : ((printParse p es).2.map (·.1)).Nodup :=
  List.foldlRecOn (motive := fun s => (s.entries.map (·.1)).Nodup) _ parseStep List.nodup_nil
    fun s h it _ => keys_parseStep s it h

theorem unpackAll_keys_sublist (instrs : List Instr) (pe : List (Nat × Nat)) :
    ((unpackAll instrs pe).map (·.1)).Sublist (pe.map (·.1)) := by
  induction pe with
  | nil => exact List.Sublist.slnil
  | cons x t ih =>
    simp only [unpackAll, List.filterMap_cons]
    cases unpackEntry instrs x.2 with
    | none => exact ih.cons _
    | some e => exact ih.cons_cons _

theorem resolve_isKernAt (ks : List Int) (op : Op) : (resolve ks op).isKernAt = false := by
  cases op <;> rfl

theorem noKernAt_packKerns (ks : List Int) (l : List Instr) : noKernAt (packKerns ks l) = true := by
  simp [noKernAt, packKerns, resolve_isKernAt]

theorem noKernAt_compact : ∀ (l : List Instr) (fl : List Bool), noKernAt l = true → noKernAt (compact l fl) = true := by
  intro l fl h
  simp only [noKernAt, List.all_eq_true] at h ⊢
  intro x hx
  obtain ⟨y, hy, _, _, hop⟩ := mem_compact l fl x hx
  rw [hop]; exact h y hy

theorem rawOk_parts {b : RawLK} (h : rawOk b = true) :
    nwf (preOf b).1 (preOf b).2 = true ∧ ((preOf b).2.map (·.1)).Nodup := by
  simp only [rawOk, Bool.and_eq_true, decide_eq_true_eq] at h
  exact ⟨h.2, (unpackAll_keys_sublist _ _).nodup h.1⟩

theorem reachFrom_congr : ∀ (l : List Instr) (m1 m2 : List Nat), (∀ x, x ∈ m1 ↔ x ∈ m2) →
    reachFrom m1 l = reachFrom m2 l := by
  intro l
  induction l with
  | nil => intro _ _ _; rfl
  | cons i rest ih =>
    intro m1 m2 h
    rw [reachFrom_cons, reachFrom_cons]
    have hc : m1.contains 0 = m2.contains 0 := by
      rw [Bool.eq_iff_iff, List.contains_iff_mem, List.contains_iff_mem, h]
    have hsh : ∀ x, x ∈ (m1.filter (· ≠ 0)).map (· - 1) ↔ x ∈ (m2.filter (· ≠ 0)).map (· - 1) := by
      intro x
      simp only [mem_shifted, h]
    rw [hc]
    congr 1
    apply ih
    intro x
    rw [List.mem_append, List.mem_append, hsh x]

theorem allReach_congr {q : Prog} {es1 es2 : List (Nat × Nat)} (h : ∀ ce, ce ∈ es1 ↔ ce ∈ es2)
    (ha : AllReach q es1) : AllReach q es2 := by
  simp only [AllReach] at ha ⊢
  rw [← ha]
  exact reachFrom_congr _ _ _ fun x => by simp only [mem_plainMarks, List.mem_map, h]

theorem plOf_eq {b : RawLK} (h : rawOk b = true) :
    plOf b = ((normalise (preOf b).1 (preOf b).2).1, sortByChar (normalise (preOf b).1 (preOf b).2).2) := by
  obtain ⟨hnwf, hnd⟩ := rawOk_parts h
  obtain ⟨hq1, hq2⟩ := printParse_normalise (nwf_parts hnwf).2.2.2 hnd
  have hkq := keys_printParse (preOf b).1 (preOf b).2
  have hkN : ((normalise (preOf b).1 (preOf b).2).2.map (·.1)).Nodup := (normalise_wf_allReach hnwf).2.2 ▸ hnd
  simp only [plOf, hq1, Prod.mk.injEq, true_and]
  exact sorted_lookup_ext _ _ (sortByChar_sorted _ hkq) (sortByChar_sorted _ hkN) fun c => by
    rw [lookup_sortByChar hkq, lookup_sortByChar hkN, hq2]

theorem wf_sortByChar (q : Prog) (es : List (Nat × Nat)) : wf q (sortByChar es) = wf q es := by
  simp only [wf, (perm_sortByChar es).all_eq]

theorem plOf_props {b : RawLK} (h : rawOk b = true) :
    wf (plOf b).1 (plOf b).2 = true ∧ AllReach (plOf b).1 (plOf b).2 ∧ noKernAt (plOf b).1.instrs = true ∧
    (∀ l r, C05.rule (toC05 (plOf b).1 (plOf b).2 []) l r = rawRule b l r) := by
  obtain ⟨hnwf, hnd⟩ := rawOk_parts h
  obtain ⟨hwfN, hall, hkN⟩ := normalise_wf_allReach hnwf
  rw [plOf_eq h]
  refine ⟨by rw [wf_sortByChar]; exact hwfN, allReach_congr (fun _ => mem_sortByChar.symm) hall, ?_, fun l r => ?_⟩
  · rw [normalise_eq hnwf]
    exact noKernAt_compact _ _ (noKernAt_packKerns _ _)
  · rw [rule_congr_lookup _ [] _ _ (lookup_sortByChar (hkN ▸ hnd)) l r, normalise_rule hnwf [] l r]
    exact (rule_packKerns (decodeRaw b.words).instrs _ _ _ b.kerns l r).symm

theorem unpackEntry_flagTrue (l : List Instr) (e : Nat) : unpackEntry (l.map flagTrue) e = unpackEntry l e := by
  simp only [unpackEntry, List.getElem?_map, List.length_map]
  cases hl : l[e]? with
  | none => rfl
  | some i =>
    obtain ⟨n, r, op⟩ := i
    cases op <;> rfl

theorem unpackAll_flagTrue (l : List Instr) (pe : List (Nat × Nat)) :
    unpackAll (l.map flagTrue) pe = unpackAll l pe := by
  simp only [unpackAll, unpackEntry_flagTrue]

theorem rightOk_pack {p : Prog} {es : List (Nat × Nat)} {P : Prog} {pe : List (Nat × Nat)}
    (h : pack p es = some (P, pe)) (hwf : wf p es = true) : ∀ i ∈ P.instrs, rightOk P.rb i = true := by
  obtain ⟨F, Q, _, hf, rfl, _, _⟩ := pack_spec h hwf
  intro i hi
  simp only [framed, List.mem_append] at hi ⊢
  rcases hi with (hi | hi) | hi
  · obtain ⟨_, hr, u, hu⟩ := hf.front i hi
    simp [rightOk, hu, hr]
  · exact rightOk_of_not_redirect _ (not_redirect_of_mem (wf_parts hwf).1 hi)
  · rw [hf.post, Option.mem_toList, Option.map_eq_some_iff] at hi
    obtain ⟨l, _, rfl⟩ := hi
    rfl

theorem chainRule_redirects (ks : List Int) (r : Nat) (c : List Instr) (h : ∀ i ∈ c, i.op.isRedirect = true) :
    chainRule ks r c = none := by
  cases hc : chainRule ks r c with
  | none => rfl
  | some o =>
    obtain ⟨i, hi, _, ho⟩ := chainRule_some hc
    have := h i hi
    cases hop : i.op with
    | redirect u f => rw [hop] at ho; cases ho
    | _ => rw [hop] at this; cases this

theorem chain_flagTrue (l : List Instr) (e : Nat) : chain e (l.map flagTrue) = (chain e l).map flagTrue :=
  chain_map_op (fun op => match op with | .redirect u _ => .redirect u true | op => op) l e

theorem chainRule_flagTrue (ks : List Int) (r : Nat) (c : List Instr) :
    chainRule ks r (c.map flagTrue) = chainRule ks r c := by
  refine chainRule_congr ks ks r c _ ?_
  rw [List.map_map]
  exact List.map_congr_left fun i _ => by obtain ⟨n, x, op⟩ := i; cases op <;> rfl

/-- Reading the written words back as TeX does forgets the redirect flags, which no rule looks at,
and finds the left-boundary program again (`decodeRaw_encode`, `readLb_framed`). -/
theorem rule_written {p : Prog} {es : List (Nat × Nat)} {P : Prog} {pe : List (Nat × Nat)} {ws : List Word}
    (h : pack p es = some (P, pe)) (hwf : wf p es = true)
    (hm : P.instrs.mapM (encodeWord P.rb) = some ws) (ks : List Int) (l : Option Nat) (r : Nat) :
    C05.rule (toC05 (decodeRaw ws) (unpackAll (decodeRaw ws).instrs pe) ks) l r =
      C05.rule (toC05 P (unpackAll P.instrs pe) ks) l r := by
  rw [decodeRaw_encode P.rb _ _ (rightOk_pack h hwf) hm, rule_toC05, rule_toC05]
  simp only [unpackAll_flagTrue, chain_flagTrue, chainRule_flagTrue]
  cases l with
  | some c => rfl
  | none =>
    obtain ⟨F, Q, _, hf, rfl, _, _⟩ := pack_spec h hwf
    simp only [entryAt, framed]
    rcases readLb_framed hf (wf_parts hwf).1 with hr | ⟨hl, hI⟩
    · rw [hr]
    · -- an empty program: the table holds redirect words only, no chain in it yields a rule
      have hQ : Q = [] := by simp [hf.post, hl]
      simp only [hl, hI, hQ, List.append_nil, Option.map_none, Option.bind_none]
      cases readLb p.rb F with
      | none => rfl
      | some l' => exact chainRule_redirects ks r _ fun i hi => hf.front_redirect i (chain_subset _ _ i hi)

theorem predict_eq_some {b b1 : RawLK} (hp : predict b = some b1) :
    ∃ P pe ws, pack ⟨(unpackKerns (plOf b).1.instrs).1, (plOf b).1.lb, (plOf b).1.rb⟩ (plOf b).2 = some (P, pe) ∧
      P.instrs.mapM (encodeWord P.rb) = some ws ∧ b1 = ⟨ws, pe, (unpackKerns (plOf b).1.instrs).2⟩ := by
  simp only [predict] at hp
  split at hp
  · simp at hp
  · rename_i P pe hpack
    split at hp
    · simp at hp
    · rename_i ws hm
      exact ⟨P, pe, ws, hpack, hm, (Option.some.inj hp).symm⟩

theorem packKerns_append (ks : List Int) (a b : List Instr) :
    packKerns ks (a ++ b) = packKerns ks a ++ packKerns ks b := by simp [packKerns]

theorem packKerns_redirects (ks : List Int) : ∀ (l : List Instr), (∀ i ∈ l, i.op.isRedirect = true) →
    packKerns ks l = l := by
  intro l h
  refine (List.map_congr_left fun i hi => ?_).trans (List.map_id l)
  have := h i hi
  obtain ⟨n, r, op⟩ := i
  cases op with
  | redirect u f => rfl
  | _ => cases this

theorem packKerns_flagTrue (ks : List Int) (l : List Instr) :
    packKerns ks (l.map flagTrue) = (packKerns ks l).map flagTrue := by
  simp only [packKerns, List.map_map]
  apply List.map_congr_left
  intro i _
  obtain ⟨n, r, op⟩ := i
  cases op <;> rfl

theorem flagTrue_step (i : Instr) (h : i.op.isRedirect = false) : flagTrue i = i := by
  obtain ⟨n, r, op⟩ := i
  cases op with
  | redirect u f => cases h
  | _ => rfl

theorem framed_flagTrue (F Q : List Instr) {I : List Instr} (hnr : noRedirect I = true) :
    (F ++ I ++ Q).map flagTrue = F.map flagTrue ++ I ++ Q.map flagTrue := by
  simp only [List.map_append]
  congr 2
  exact (List.map_congr_left fun i hi => flagTrue_step i (not_redirect_of_mem hnr hi)).trans (List.map_id _)

/-- The second trip on the table written for a PL-level program `(⟨I, lb, rb⟩, es)`: tftopl starts
from that program framed by the written words with their flags forgotten, so what it prints and
pltotf reads is the program again. -/
theorem second_trip {I : List Instr} {lb rb : Option Nat} {es pe : List (Nat × Nat)} {P : Prog} {ws : List Word}
    (hwf : wf ⟨I, lb, rb⟩ es = true) (hnk : noKernAt I = true) (hall : AllReach ⟨I, lb, rb⟩ es)
    (hasc : (es.map (·.1)).Pairwise (· < ·))
    (hpack : pack ⟨(unpackKerns I).1, lb, rb⟩ es = some (P, pe))
    (hm : P.instrs.mapM (encodeWord P.rb) = some ws) (hlb : readLb P.rb P.instrs = P.lb) :
    plOf ⟨ws, pe, (unpackKerns I).2⟩ = (⟨I, lb, rb⟩, es) := by
  have hwfu := wf_unpackKerns hwf hnk
  obtain ⟨F, Q, hf, rfl, hun⟩ := pack_unpackAll hpack hwfu
  have hrb := readRb_framed hf (wf_parts hwfu).1 (wf_parts hwfu).2.2.2
  have hpre : preOf ⟨ws, pe, (unpackKerns I).2⟩ =
      (framed (F.map flagTrue) (Q.map flagTrue) ⟨I, lb, rb⟩, shift (F.map flagTrue).length es) := by
    simp only [preOf, decodeRaw_encode _ _ _ (rightOk_pack hpack hwfu) hm, unpackAll_flagTrue, hun, hlb,
      packKerns_flagTrue, List.length_map]
    simp only [framed, hrb, packKerns_append, packKerns_redirects _ _ hf.front_redirect,
      packKerns_redirects _ _ hf.post_redirect, C11.kerns_roundtrip I hnk]
    rw [framed_flagTrue F Q (wf_parts hwf).1, List.length_map]
  have hQ : (Prog.lb ⟨I, lb, rb⟩).isSome = true → Q.map flagTrue ≠ [] := fun h => by
    simpa using hf.post_ne_nil h
  have hnr := noReachRedirect_framed (F.map flagTrue) (Q.map flagTrue) (es := es) hwf hQ
  have hnd : ((shift (F.map flagTrue).length es).map (·.1)).Nodup := by
    simpa [shift, List.map_map, Function.comp_def] using nodup_of_lt _ hasc
  obtain ⟨hq1, hq2⟩ := printParse_normalise hnr hnd
  rw [normalise_framed _ _ hwf hall hQ] at hq1 hq2
  simp only [plOf, hpre, Prod.mk.injEq]
  refine ⟨hq1, sorted_lookup_ext _ _ (sortByChar_sorted _ (keys_printParse _ _)) hasc fun c => ?_⟩
  rw [lookup_sortByChar (keys_printParse _ _) c, hq2 c]

/-- No lig/kern program at all: at most the boundary-char carrier is written, the reader takes it
for a left-boundary word, and `reachable_array` ignores a left-boundary entry point on the last word. -/
theorem plOf_predict_empty (rb : Option Nat) (ks : List Int) {P : Prog} {pe : List (Nat × Nat)} {ws : List Word}
    (hpack : pack ⟨[], none, rb⟩ [] = some (P, pe)) (hm : P.instrs.mapM (encodeWord P.rb) = some ws) :
    plOf ⟨ws, pe, ks⟩ = (⟨[], none, rb⟩, []) := by
  have hraw := decodeRaw_encode P.rb _ _ (rightOk_pack hpack rfl) hm
  simp only [pack_nil, Option.some.injEq, Prod.mk.injEq] at hpack
  obtain ⟨rfl, rfl⟩ := hpack
  simp only [plOf, preOf, hraw]
  cases rb with
  | none => rfl
  | some c => simp [packKerns, printParse, reachable, startMarks, reachFrom, printItems, parseItems, fixLast,
      sortByChar, unpackAll, readLb, readRb, carrier, flagTrue, skip255, resolve]

theorem plOf_predict {b b1 : RawLK} (h : rawOk b = true) (hp : predict b = some b1) : plOf b1 = plOf b := by
  obtain ⟨hwf, hall, hnk, _⟩ := plOf_props h
  have hasc : ((plOf b).2.map (·.1)).Pairwise (· < ·) := by
    simp only [plOf]
    exact sortByChar_sorted _ (keys_printParse _ _)
  obtain ⟨P, pe, ws, hpack, hm, rfl⟩ := predict_eq_some hp
  generalize plOf b = q at *
  obtain ⟨⟨I, lb, rb⟩, es⟩ := q
  simp only at hpack hm hwf hnk hall hasc ⊢
  have hwfu := wf_unpackKerns hwf hnk
  obtain ⟨F, Q, _, hf, hP, _, _⟩ := pack_spec hpack hwfu
  rcases readLb_framed hf (wf_parts hwfu).1 with hr | ⟨hl, hI⟩
  · exact second_trip hwf hnk hall hasc hpack hm (by rw [hP]; exact hr)
  · have hI' : I = [] := by
      have hsh := unpackKerns_shape I
      simp only at hI
      rwa [hI, List.map_nil, eq_comm, List.map_eq_nil_iff] at hsh
    simp only at hl
    subst hI' hl
    obtain rfl : es = [] := by
      cases es with
      | nil => rfl
      | cons x t => have := (wf_parts hwf).2.2.1 x (List.mem_cons_self ..); simp at this
    exact plOf_predict_empty rb _ hpack hm

end C11
