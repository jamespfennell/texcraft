/-
C11 — the header layer: `headerTrip` keeps checksum, design size, face and the additional
words and changes the strings only by dropping leading blanks and upper-casing (`headerTrip_parts`);
a field read back from what was written is the field (`fieldOf_read`), which makes the trip idempotent.
-/
import TexcraftModel.Model.C11Header

namespace C11

theorem upperByte_idem (c : Nat) : upperByte (upperByte c) = upperByte c := by
  simp only [upperByte]
  by_cases h : 97 ≤ c ∧ c ≤ 122
  · have h2 : ¬ (97 ≤ c - 32 ∧ c - 32 ≤ 122) := by omega
    simp only [h, and_self, if_true, h2, if_false]
  · simp [h]

theorem upperByte_eq_32 (c : Nat) : (upperByte c == 32) = (c == 32) := by
  rw [Bool.eq_iff_iff]
  simp only [beq_iff_eq, upperByte]
  split
  · -- one `omega` on the `↔` would go through `Classical.choice`
    exact ⟨fun h => by omega, fun h => by omega⟩
  · exact Iff.rfl

theorem dropLead_upper_idem (l : List Nat) :
    (dropLead ((dropLead l).map upperByte)).map upperByte = (dropLead l).map upperByte := by
  have h : dropLead ((dropLead l).map upperByte) = (dropLead l).map upperByte := by
    simp only [dropLead]
    induction l with
    | nil => simp
    | cons a t ih =>
      simp only [List.dropWhile_cons]
      by_cases ha : (a == 32) = true
      · simp only [ha, if_true]; exact ih
      · simp only [ha, Bool.false_eq_true, if_false, List.map_cons, List.dropWhile_cons, upperByte_eq_32]
  rw [h, List.map_map]
  exact List.map_congr_left fun c _ => upperByte_idem c

theorem encStr_length (size : Nat) (cs : List Nat) (h : cs.length ≤ size) : (encStr size cs).length = size + 1 := by
  simp [encStr]; omega

def schemeOf (hb : List Nat) : List Nat := if 48 ≤ hb.length then (dropLead (strAt hb 8)).map upperByte else unspecified
def familyOf (hb : List Nat) : List Nat := if 68 ≤ hb.length then (dropLead (strAt hb 48)).map upperByte else unspecified
def faceOf (hb : List Nat) : Nat := if 72 ≤ hb.length then (hb[71]?).getD 0 else 0

theorem headerTrip_eq (safe : Bool) (hb : List Nat) :
    headerTrip safe hb = hb.take 8 ++ encStr 39 (schemeOf hb) ++ encStr 19 (familyOf hb) ++
      [if safe then 128 else 0, 0, 0, faceOf hb] ++ hb.drop 72 := rfl

/-- A string field as tftopl prints it and pltotf reads it back; `schemeOf hb = fieldOf 48 8 hb` and
`familyOf hb = fieldOf 68 48 hb` hold by `rfl`. -/
def fieldOf (need off : Nat) (hb : List Nat) : List Nat :=
  if need ≤ hb.length then (dropLead (strAt hb off)).map upperByte else unspecified

theorem fieldOf_le (need off cap : Nat) (hb : List Nat) (h : (hb[off]?).getD 0 ≤ cap) (hcap : 11 ≤ cap) :
    (fieldOf need off hb).length ≤ cap := by
  simp only [fieldOf]
  split
  · have : (dropLead (strAt hb off)).length ≤ (strAt hb off).length :=
      (List.dropWhile_suffix _).length_le
    have : (strAt hb off).length ≤ (hb[off]?).getD 0 := by
      simp only [strAt, List.length_take]; omega
    simp only [List.length_map]
    omega
  · exact hcap

theorem fieldOf_read (need off : Nat) (hb t : List Nat) (hlen : need ≤ t.length)
    (hstr : strAt t off = fieldOf need off hb) : fieldOf need off t = fieldOf need off hb := by
  rw [fieldOf, if_pos hlen, hstr]
  simp only [fieldOf]
  split
  · exact dropLead_upper_idem _
  · decide

theorem faceOf_read {t : List Nat} {v : Nat} (hlen : 72 ≤ t.length) (h : t[71]? = some v) : faceOf t = v := by
  rw [faceOf, if_pos hlen, h, Option.getD_some]

theorem strAt_drop (hb : List Nat) (off : Nat) : strAt hb off = strAt (hb.drop off) 0 := by
  simp only [strAt, List.drop_drop, List.getElem?_drop, Nat.add_zero, Nat.zero_add]

theorem strAt_encStr (size : Nat) (cs rest : List Nat) : strAt (encStr size cs ++ rest) 0 = cs := by
  simp only [strAt, encStr, List.cons_append, List.getElem?_cons_zero, Option.getD_some, Nat.zero_add,
    List.drop_succ_cons, List.drop_zero, List.append_assoc]
  rw [List.take_left' rfl]

theorem header_read (c s f extra : List Nat) (b0 b1 b2 b3 : Nat) (hc : c.length = 8) (hs : s.length ≤ 39)
    (hf : f.length ≤ 19) :
    let t := c ++ encStr 39 s ++ encStr 19 f ++ [b0, b1, b2, b3] ++ extra
    t.length = 72 + extra.length ∧ t.take 8 = c ∧ strAt t 8 = s ∧ strAt t 48 = f ∧
      t[68]? = some b0 ∧ t[71]? = some b3 ∧ t.drop 72 = extra := by
  intro t
  have hS := encStr_length 39 s hs
  have hF := encStr_length 19 f hf
  have ht : t = c ++ (encStr 39 s ++ (encStr 19 f ++ ([b0, b1, b2, b3] ++ extra))) := by
    simp only [t, List.append_assoc]
  have d8 : t.drop 8 = encStr 39 s ++ (encStr 19 f ++ ([b0, b1, b2, b3] ++ extra)) := by
    rw [ht]; exact List.drop_left' hc
  have d48 : t.drop 48 = encStr 19 f ++ ([b0, b1, b2, b3] ++ extra) := by
    rw [show 48 = 8 + 40 from rfl, ← List.drop_drop, d8]; exact List.drop_left' hS
  have d68 : t.drop 68 = [b0, b1, b2, b3] ++ extra := by
    rw [show 68 = 48 + 20 from rfl, ← List.drop_drop, d48]; exact List.drop_left' hF
  refine ⟨?_, ?_, ?_, ?_, ?_, ?_, ?_⟩
  · simp only [t, List.length_append, hc, hS, hF, List.length_cons, List.length_nil]
  · rw [ht]; exact List.take_left' hc
  · rw [strAt_drop, d8, strAt_encStr]
  · rw [strAt_drop, d48, strAt_encStr]
  · rw [show 68 = 68 + 0 from rfl, ← List.getElem?_drop, d68]; rfl
  · rw [show 71 = 68 + 3 from rfl, ← List.getElem?_drop, d68]; rfl
  · rw [show 72 = 68 + 4 from rfl, ← List.drop_drop, d68]; rfl

theorem headerTrip_parts (safe : Bool) (hb : List Nat) (h : headerOk hb = true) :
    (headerTrip safe hb).length = 72 + (hb.length - 72) ∧
    (headerTrip safe hb).take 8 = hb.take 8 ∧
    strAt (headerTrip safe hb) 8 = schemeOf hb ∧
    strAt (headerTrip safe hb) 48 = familyOf hb ∧
    (headerTrip safe hb)[68]? = some (if safe then 128 else 0) ∧
    (headerTrip safe hb)[71]? = some (faceOf hb) ∧
    (headerTrip safe hb).drop 72 = hb.drop 72 := by
  simp only [headerOk, Bool.and_eq_true, decide_eq_true_eq] at h
  obtain ⟨⟨h8, hs39⟩, hf19⟩ := h
  have := header_read (hb.take 8) (schemeOf hb) (familyOf hb) (hb.drop 72) (if safe then 128 else 0) 0 0 (faceOf hb)
    (by rw [List.length_take]; omega) (fieldOf_le 48 8 39 hb hs39 (by decide)) (fieldOf_le 68 48 19 hb hf19 (by decide))
  rwa [List.length_drop] at this

end C11
