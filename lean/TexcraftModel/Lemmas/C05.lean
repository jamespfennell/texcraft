import TexcraftModel.Model.C05

/-!
# C05 — one round of the compiler as cursor moves; the shape of table entries; `spell`

After a ligature command `(a, b, c)` the compiler (`calculate_replacements`) moves the cursor along
`[l if b] z [r if c]` to the last element, one `link` at a time; passing over an element is what a pair
without a rule does, so a link is `applyChild` on the child pair's value or on `none`. The eight arms of
`pairResult` are this (`pairResult_succ_eq`), and facts about table entries are inductions on the fuel over
one link and two links in a row (`Good`). One lookup of the compiled run is the same cursor move
(`goL_cons`, `goL_nil`), which gives the run invariant behind `spell` for any table of good entries.
-/
namespace C05

/-- `consumes_left_lig` as `applyChild` starts with it. -/
def flagOf : Option C → Bool
  | none => false
  | some l => l.lig

def charOf : Option C → Option Nat
  | none => none
  | some l => some l.c

@[simp] theorem flagOf_leftC (l : Option Nat) : flagOf (leftC l) = false := by cases l <;> rfl

@[simp] theorem charOf_leftC (l : Option Nat) : charOf (leftC l) = l := by cases l <;> rfl

@[simp] theorem charOf_some (x : C) : charOf (some x) = some x.c := rfl

theorem applyChild_some (pl : Option C) (pr : C) (rep : Repl) :
    applyChild pl pr (some rep) = ((markFirst (flagOf pl) rep.1).1,
      ⟨rep.2.c, rep.2.lig || (markFirst (flagOf pl) rep.1).2 || pr.lig⟩) := by
  cases pl <;> rfl

theorem applyChild_leftC_none (l : Option Nat) (pr : C) : applyChild (leftC l) pr none = (leftOps l, pr) := by
  cases l <;> rfl

/-- One move of the cursor from `pl` to `pr` after a ligature command: through the value of the pair
if the command leaves the cursor on `pl` (`a = 0`); otherwise `pl` is passed over, which is what a
pair without a rule does. -/
def link (child : Option Nat → Nat → Option (Option Repl)) : Nat → Option C → C → Option Repl
  | 0, pl, pr => (child (charOf pl) pr.c).map (applyChild pl pr)
  | _ + 1, pl, pr => some (applyChild pl pr none)

/-- What a ligature command `(a, b, c)` (TeX82 §545) with new character `z` makes of the pair
`(l, r)`: the elements are `[l if b] z [r if c]`, the cursor starts `a` places in and moves to the
last element, one `link` at a time. -/
def ligResult (child : Option Nat → Nat → Option (Option Repl)) (l : Option Nat) (z r : Nat) :
    Nat × Bool × Bool → Option Repl
  | (_, false, false) => some ([], ⟨z, true⟩)
  | (a, true, false) => link child a (leftC l) ⟨z, true⟩
  | (a, false, true) => link child a (some ⟨z, true⟩) ⟨r, false⟩
  | (a, true, true) =>
    (link child a (leftC l) ⟨z, true⟩).bind fun s =>
      (link child (a - 1) (some s.2) ⟨r, false⟩).map fun t => (s.1 ++ t.1, t.2)

/-- A ligature command never passes the cursor beyond the last element it leaves. -/
theorem abc_le (post : PostLig) : post.abc.1 ≤ post.abc.2.1.toNat + post.abc.2.2.toNat := by
  cases post <;> decide

/-- One round of the compiler for the pair `(l, r)` whose instruction is the last argument, over the
values `child` of the pairs it looks up. -/
def roundResult (child : Option Nat → Nat → Option (Option Repl)) (l : Option Nat) (r : Nat) :
    Option Op → Option (Option Repl)
  | none => some none
  | some (.kern k) => some (some (leftOps l ++ [.kern k], ⟨r, false⟩))
  | some (.lig z post) => (ligResult child l z r post.abc).map some

theorem pairResult_succ_eq (p : Program) (n : Nat) (l : Option Nat) (r : Nat) :
    pairResult (n + 1) p l r = roundResult (pairResult n p) l r (rule p l r) := by
  rw [pairResult]
  cases rule p l r with
  | none => rfl
  | some op =>
    cases op with
    | kern k => rfl
    | lig z post =>
      cases post <;> simp only [roundResult, PostLig.abc, ligResult, Nat.reduceSub, link, charOf_leftC, charOf_some,
        Option.map_some, Option.bind_some, applyChild_leftC_none]
      case bothNowhere =>
        cases pairResult n p l z with
        | none => rfl
        | some c1 =>
          simp only [Option.map_some, Option.bind_some]
          cases pairResult n p _ r <;> rfl
      case bothInserted => cases pairResult n p (some z) r <;> rfl
      case rightInserted => cases pairResult n p (some z) r <;> rfl
      case leftNowhere => cases pairResult n p l z <;> rfl
      all_goals rfl

section
variable {child child' : Option Nat → Nat → Option (Option Repl)}
  (h : ∀ l r v, child l r = some v → child' l r = some v)
include h

theorem link_mono {a : Nat} {pl : Option C} {pr : C} {s : Repl} (hs : link child a pl pr = some s) :
    link child' a pl pr = some s := by
  cases a with
  | zero =>
    obtain ⟨v, hv, rfl⟩ := Option.map_eq_some_iff.mp hs
    exact congrArg (Option.map _) (h _ _ _ hv)
  | succ a => exact hs

theorem ligResult_mono {l : Option Nat} {z r : Nat} {abc : Nat × Bool × Bool} {t : Repl}
    (ht : ligResult child l z r abc = some t) : ligResult child' l z r abc = some t := by
  obtain ⟨a, b, c⟩ := abc
  cases b <;> cases c <;> simp only [ligResult] at ht ⊢
  · exact ht
  · exact link_mono h ht
  · exact link_mono h ht
  · obtain ⟨s, hs, h2⟩ := Option.bind_eq_some_iff.mp ht
    obtain ⟨t', ht', rfl⟩ := Option.map_eq_some_iff.mp h2
    rw [link_mono h hs, Option.bind_some, link_mono h ht']; rfl

theorem roundResult_mono {l : Option Nat} {r : Nat} {op : Option Op} {v : Option Repl}
    (hv : roundResult child l r op = some v) : roundResult child' l r op = some v := by
  match op with
  | none | some (.kern _) => exact hv
  | some (.lig z post) =>
    obtain ⟨t, ht, rfl⟩ := Option.map_eq_some_iff.mp hv
    exact congrArg (Option.map some) (ligResult_mono h ht)

end

theorem pairResult_congr {p q : Program} (h : rule p = rule q) : ∀ n, pairResult n p = pairResult n q := by
  intro n
  induction n with
  | zero => rfl
  | succ n ih =>
    funext l r
    rw [pairResult_succ_eq, pairResult_succ_eq, h, ih]

def allLig : List IOp → Bool
  | [] => true
  | .kern _ :: t => allLig t
  | .ch c :: t => c.lig && allLig t

/-- The ops contain a character op (not only kerns). -/
def hasCh : List IOp → Bool
  | [] => false
  | .kern _ :: t => hasCh t
  | .ch _ :: _ => true

/-- The first character op is a ligature or the left character itself; all later ones are ligatures. -/
def firstOK (l : Option Nat) : List IOp → Bool
  | [] => true
  | .kern _ :: t => firstOK l t
  | .ch c :: t => (c.lig || l == some c.c) && allLig t

/-- The character of the word that a cursor element stands for, if it is one: not the boundary, not
an inserted character. -/
def own (pl : Option C) : Option Nat := if flagOf pl then none else charOf pl

@[simp] theorem own_leftC (l : Option Nat) : own (leftC l) = l := by simp [own]

/-- The shape of what the cursor makes on its way from an element `pl` (boundary, character of the word,
or inserted character) to an element `pr` to its right: what one `applyChild` yields, what composes, and
what `spell` needs of a table entry. -/
structure Good (pl : Option C) (pr : C) (rep : Repl) : Prop where
  first : firstOK (own pl) rep.1 = true
  lastR : rep.2.lig = false → rep.2 = pr
  empty : hasCh rep.1 = false → rep.2.lig = false → pl = none

/-- The entry of the pair `(l, r)`: the cursor starts on the left character itself. -/
abbrev GoodRepl (l : Option Nat) (r : Nat) (rep : Repl) : Prop := Good (leftC l) ⟨r, false⟩ rep

theorem allLig_append (a b : List IOp) : allLig (a ++ b) = (allLig a && allLig b) := by
  induction a with
  | nil => simp [allLig]
  | cons x t ih => cases x <;> simp [allLig, ih, Bool.and_assoc]

theorem hasCh_append (a b : List IOp) : hasCh (a ++ b) = (hasCh a || hasCh b) := by
  induction a with
  | nil => simp [hasCh]
  | cons x t ih => cases x <;> simp [hasCh, ih]

theorem firstOK_append (l : Option Nat) (a b : List IOp) :
    firstOK l (a ++ b) = if hasCh a then (firstOK l a && allLig b) else firstOK l b := by
  induction a with
  | nil => simp [hasCh]
  | cons x t ih =>
    cases x with
    | kern k => simp only [List.cons_append, firstOK, hasCh]; exact ih
    | ch c => simp [firstOK, hasCh, allLig_append, Bool.and_assoc]

theorem firstOK_of_allLig (l : Option Nat) (a : List IOp) (h : allLig a = true) : firstOK l a = true := by
  induction a with
  | nil => rfl
  | cons x t ih =>
    cases x with
    | kern k => exact ih h
    | ch c => simp [allLig] at h; simp [firstOK, h]

theorem hasCh_leftOps (l : Option Nat) : hasCh (leftOps l) = l.isSome := by
  cases l <;> simp [leftOps, hasCh]

theorem hasCh_of_good {l : Nat} {r : Nat} {rep : Repl} (hg : GoodRepl (some l) r rep)
    (hl : rep.2.lig = false) : hasCh rep.1 = true := by
  cases hc : hasCh rep.1 with
  | true => rfl
  | false => exact absurd (hg.empty hc hl) (by simp [leftC])

theorem markFirst_false (ops : List IOp) : markFirst false ops = (ops, false) := by
  induction ops with
  | nil => rfl
  | cons x t ih =>
    cases x with
    | kern k => simp [markFirst, ih]
    | ch c => cases c; simp [markFirst]

theorem markFirst_snd (cl : Bool) (ops : List IOp) : (markFirst cl ops).2 = (cl && !hasCh ops) := by
  induction ops with
  | nil => simp [markFirst, hasCh]
  | cons x t ih => cases x <;> simp [markFirst, hasCh, ih]

theorem hasCh_markFirst (cl : Bool) (ops : List IOp) : hasCh (markFirst cl ops).1 = hasCh ops := by
  induction ops with
  | nil => rfl
  | cons x t ih => cases x <;> simp [markFirst, hasCh, ih]

theorem allLig_markFirst_true (l : Option Nat) (ops : List IOp) (h : firstOK l ops = true) :
    allLig (markFirst true ops).1 = true := by
  induction ops with
  | nil => rfl
  | cons x t ih =>
    cases x with
    | kern k => exact ih h
    | ch c => simp [firstOK] at h; simp [markFirst, allLig, h.2]

/-- In `applyChild`, the left-over `consumes_left_lig` flag never decides `last.is_lig`: it is
left over only if the child's ops contain no character, and then (the left character of the
child being a real character) the child's `last` is already flagged. (This is why dropping
`|| consumes_left_lig` from compiler.rs `is_lig: replacement.1.is_lig || consumes_left_lig ||
right_is_lig` is an equivalent change.) -/
theorem applyChild_flag_redundant (pl : Option C) (pr : C) (rep : Repl)
    (hg : GoodRepl (charOf pl) pr.c rep) :
    (rep.2.lig || (markFirst (flagOf pl) rep.1).2 || pr.lig) = (rep.2.lig || pr.lig) := by
  rw [markFirst_snd]
  cases hl : rep.2.lig with
  | true => simp
  | false =>
    cases hc : hasCh rep.1 with
    | true => simp
    | false =>
      have := hg.empty hc hl
      cases pl with
      | none => rfl
      | some x => cases this

theorem firstOK_none (ops : List IOp) : firstOK none ops = allLig ops := by
  induction ops with
  | nil => rfl
  | cons x t ih => cases x <;> simp [firstOK, allLig, ih]

theorem Good.lig {pl : Option C} {e : C} {s : Repl} (h : Good pl e s) (he : e.lig = true) : s.2.lig = true := by
  cases hl : s.2.lig with
  | true => rfl
  | false => rw [h.lastR hl, he] at hl; cases hl

theorem Good.of_lig {pl : Option C} {pr : C} {rep : Repl} (ha : firstOK (own pl) rep.1 = true)
    (hl : rep.2.lig = true) : Good pl pr rep :=
  ⟨ha, fun h => absurd (hl.symm.trans h) (by simp), fun _ h => absurd (hl.symm.trans h) (by simp)⟩

theorem Good.comp {pl : Option C} {e pr : C} {s t : Repl} (hs : Good pl e s) (he : e.lig = true)
    (ht : Good (some s.2) pr t) : Good pl pr (s.1 ++ t.1, t.2) := by
  have hown : own (some s.2) = none := if_pos (hs.lig he)
  have hall : allLig t.1 = true := by rw [← firstOK_none, ← hown]; exact ht.first
  refine ⟨?_, ht.lastR, fun h1 h2 => ?_⟩
  · rw [firstOK_append]
    split
    · simp [hs.first, hall]
    · exact firstOK_of_allLig _ _ hall
  · rw [hasCh_append, Bool.or_eq_false_iff] at h1
    cases ht.empty h1.2 h2

theorem applyChild_good (pl : Option C) (pr : C) (v : Option Repl)
    (hv : ∀ rep, v = some rep → GoodRepl (charOf pl) pr.c rep) : Good pl pr (applyChild pl pr v) := by
  cases v with
  | none =>
    rcases pl with _ | ⟨c, b⟩
    · exact ⟨rfl, fun _ => rfl, fun _ _ => rfl⟩
    · -- `-BEq.rfl`: on `Option Nat` it rests on `Classical.choice`; `simp` then closes `some c == some c` by `beq_iff_eq`
      exact ⟨by cases b <;> simp [applyChild, firstOK, own, flagOf, charOf, allLig, -BEq.rfl], fun _ => rfl,
        by simp [applyChild, hasCh]⟩
  | some rep =>
    have hg := hv rep rfl
    have hf : firstOK (charOf pl) rep.1 = true := own_leftC (charOf pl) ▸ hg.first
    rw [applyChild_some, applyChild_flag_redundant pl pr rep hg]
    refine ⟨?_, fun h => ?_, fun h1 h2 => ?_⟩
    · unfold own
      cases flagOf pl with
      | false => rw [markFirst_false]; exact hf
      | true => rw [if_pos rfl, firstOK_none]; exact allLig_markFirst_true _ _ hf
    · obtain ⟨c, b⟩ := pr
      obtain ⟨h1, h2⟩ := Bool.or_eq_false_iff.mp h
      cases h2
      rw [hg.lastR h1]; rfl
    · rw [hasCh_markFirst] at h1
      have := hg.empty h1 (Bool.or_eq_false_iff.mp h2).1
      cases pl with
      | none => rfl
      | some x => cases this

section
variable {child : Option Nat → Nat → Option (Option Repl)}
  (hc : ∀ l r rep, child l r = some (some rep) → GoodRepl l r rep)
include hc

theorem link_good {a : Nat} {pl : Option C} {pr : C} {s : Repl} (hs : link child a pl pr = some s) :
    Good pl pr s := by
  cases a with
  | zero =>
    obtain ⟨v, hv, rfl⟩ := Option.map_eq_some_iff.mp hs
    exact applyChild_good pl pr v fun rep hrep => hc _ _ _ (hrep ▸ hv)
  | succ a =>
    cases hs
    exact applyChild_good pl pr none nofun

theorem ligResult_good {l : Option Nat} {z r : Nat} {abc : Nat × Bool × Bool} {rep : Repl}
    (h : ligResult child l z r abc = some rep) : Good (leftC l) ⟨r, false⟩ rep := by
  obtain ⟨a, b, c⟩ := abc
  -- without `l`, the cursor starts on the inserted `z` with nothing emitted
  have start : Good (leftC l) ⟨z, true⟩ ([], ⟨z, true⟩) := .of_lig rfl rfl
  cases b <;> cases c <;> simp only [ligResult] at h
  · cases h; exact .of_lig rfl rfl
  · exact start.comp rfl (link_good hc h)
  · exact .of_lig (link_good hc h).first ((link_good hc h).lig rfl)
  · obtain ⟨s, hs, h2⟩ := Option.bind_eq_some_iff.mp h
    obtain ⟨t, ht, rfl⟩ := Option.map_eq_some_iff.mp h2
    exact (link_good hc hs).comp rfl (link_good hc ht)

theorem roundResult_good {l : Option Nat} {r : Nat} {op : Option Op} {rep : Repl}
    (h : roundResult child l r op = some (some rep)) : GoodRepl l r rep := by
  match op with
  | none => cases h
  | some (.kern k) =>
    cases h
    -- `-BEq.rfl` as in `applyChild_good`
    exact ⟨by rw [own_leftC, firstOK_append, hasCh_leftOps]; cases l <;> simp [leftOps, firstOK, allLig, -BEq.rfl],
      fun _ => rfl, by rw [hasCh_append, hasCh_leftOps]; cases l <;> simp [hasCh, leftC]⟩
  | some (.lig z post) =>
    obtain ⟨t, ht, ht'⟩ := Option.map_eq_some_iff.mp h
    cases ht'
    exact ligResult_good hc ht

end

theorem pairResult_good (p : Program) :
    ∀ fuel l r rep, pairResult fuel p l r = some (some rep) → GoodRepl l r rep := by
  intro fuel
  induction fuel with
  | zero => intro l r rep h; cases h
  | succ n ih =>
    intro l r rep h
    rw [pairResult_succ_eq] at h
    exact roundResult_good ih h

def GoodTable (tbl : Option Nat → Nat → Option Repl) : Prop :=
  ∀ l r rep, tbl l r = some rep → GoodRepl l r rep

theorem table_some (p : Program) (l : Option Nat) (r : Nat) (rep : Repl) (ht : table p l r = some rep) :
    pairResult (bound p) p l r = some (some rep) := by
  simp only [table] at ht
  split at ht
  · rename_i rep' h; cases ht; exact h
  · cases ht

theorem table_good (p : Program) : GoodTable (table p) :=
  fun l r rep h => pairResult_good p _ l r rep (table_some p l r rep h)

@[simp] theorem originals_nil : originals [] = [] := rfl
@[simp] theorem originals_cons (i : Item) (t : List Item) : originals (i :: t) = i.originals ++ originals t := by
  simp [originals]
@[simp] theorem originals_append (a b : List Item) : originals (a ++ b) = originals a ++ originals b := by
  simp [originals]

/-- The typed glyph/kern sequence of a replacement's ops: a character op is a ligature node iff its
`is_lig` flag is set. -/
def tgl : List IOp → List TGlyph
  | [] => []
  | .kern k :: t => .kern k :: tgl t
  | .ch c :: t => .glyph c.c c.lig :: tgl t

/-- After the pair is done the cursor is on `last` if that is an inserted character, and
otherwise on the element that was to the right. -/
def lastEl (c : C) (y : El × Bool) : El × Bool := if c.lig then (.ch c.c, true) else y

@[simp] def lastElO : Option Repl → El × Bool → El × Bool
  | none, y => y
  | some rep, y => lastEl rep.2 y

/-- What the machine emits while it evaluates a child pair whose value is the first argument. -/
@[simp] def childOps : Option Repl → Option Nat → Bool → List TGlyph
  | none, l, fl => emitT (elOf l, fl)
  | some rep, _, fl => tgl (markFirst fl rep.1).1

def tglyphs (l : List Item) : List TGlyph := l.map Item.tglyph

@[simp] theorem tglyphs_append (a b : List Item) : tglyphs (a ++ b) = tglyphs a ++ tglyphs b := by
  simp [tglyphs]

theorem tglyph_emitLeft (l : Nat) (lg : Option Pending) :
    (emitLeft l lg).tglyph = .glyph l lg.isSome := by
  cases lg <;> rfl

theorem tglyphs_drain (left : Option Nat) (nl : Bool) (ops : List IOp) :
    ∀ lg cl, tglyphs (drain left nl ops lg cl).1 = tgl (markFirst lg.isSome ops).1 := by
  intro lg cl
  -- every clause of `drain` puts the glyph of its op in front; after a character op nothing is pending
  fun_induction drain left nl ops lg cl with
  | case1 => rfl
  | case2 k t lg cl r ih => exact congrArg (TGlyph.kern k :: ·) ih
  | case3 c t lg cl it r ih =>
    rw [Option.isSome_none, markFirst_false] at ih
    cases lg <;> exact congrArg (_ :: ·) ih
  | case4 c t lg cl s it r ih =>
    rw [Option.isSome_none, markFirst_false] at ih
    cases lg <;> exact congrArg (_ :: ·) ih

theorem _root_.C14.drain_length (left : Option Nat) (nl : Bool) :
    ∀ (ops : List IOp) (lg : Option Pending) (cl : Bool),
      (drain left nl ops lg cl).1.length = ops.length := by
  intro ops lg cl
  fun_induction drain left nl ops lg cl with
  | case1 => rfl
  | case2 _ _ _ _ _ ih => exact congrArg Nat.succ ih
  | case3 _ _ _ _ _ _ ih => exact congrArg Nat.succ ih
  | case4 _ _ _ _ _ _ _ ih => exact congrArg Nat.succ ih

theorem drain_allLig (left : Option Nat) (nl : Bool) (ops : List IOp) (h : allLig ops = true) :
    originals (drain left nl ops none false).1 = [] ∧ (drain left nl ops none false).2 = (none, false) := by
  induction ops with
  | nil => exact ⟨rfl, rfl⟩
  | cons x t ih =>
    cases x with
    | kern k => simpa [drain, Item.originals] using ih h
    | ch c =>
      obtain ⟨c, lg⟩ := c
      simp only [allLig, Bool.and_eq_true] at h
      obtain ⟨rfl, h2⟩ := h
      simpa [drain, Item.originals, addLeft, pendOr] using ih h2

/-- The characters a run state still owes to the output: the fresh left character
(`consumes_left = true`, nothing pending) or the originals of the pending ligature
(`consumes_left = false`). -/
def owed (left : Option Nat) : Option Pending → List Nat
  | none => left.toList
  | some s => s.s

theorem addLeft_owed (left : Option Nat) (lg : Option Pending) :
    (addLeft lg.isNone left (pendOr lg)).s = owed left lg := by
  cases lg <;> cases left <;> rfl

theorem drain_owed (l : Option Nat) (nl : Bool) (lg : Option Pending) (ops : List IOp)
    (h : firstOK l ops = true) :
    originals (drain l nl ops lg lg.isNone).1 = (if hasCh ops then owed l lg else [])
      ∧ (drain l nl ops lg lg.isNone).2 = (if hasCh ops then (none, false) else (lg, lg.isNone)) := by
  induction ops with
  | nil => exact ⟨rfl, rfl⟩
  | cons x t ih =>
    cases x with
    | kern k =>
      simp only [drain, hasCh, originals_cons, Item.originals, List.nil_append]
      exact ih h
    | ch c =>
      obtain ⟨c, b⟩ := c
      simp only [firstOK, Bool.and_eq_true] at h
      obtain ⟨hrest, hfirst⟩ := drain_allLig l nl t h.2
      cases b with
      | true =>
        simp only [drain, hasCh, if_true, originals_cons, hrest, hfirst, Item.originals, addLeft_owed,
          List.append_nil, and_self]
      | false =>
        have hl : l = some c := by simpa using h.1
        subst hl
        cases lg <;> simp [drain, hasCh, hrest, hfirst, Item.originals, owed]

theorem originals_emitLeft (l : Nat) (lg : Option Pending) :
    (emitLeft l lg).originals = owed (some l) lg := by
  cases lg <;> rfl

theorem drain_next_lig (l : Option Nat) (nl : Bool) (lg : Option Pending) {r : Nat} {rep : Repl}
    (hg : GoodRepl l r rep) :
    originals (drain l nl rep.1 lg lg.isNone).1
        ++ (addLeft (drain l nl rep.1 lg lg.isNone).2.2 l (pendOr (drain l nl rep.1 lg lg.isNone).2.1)).s
      = owed l lg := by
  obtain ⟨ho, hs⟩ := drain_owed l nl lg rep.1 (own_leftC l ▸ hg.first)
  rw [ho, hs]
  cases hc : hasCh rep.1 with
  | true => simp [addLeft, pendOr]
  | false => simp [addLeft_owed]

theorem drain_next_char (l : Option Nat) (nl : Bool) (lg : Option Pending) {r : Nat} {rep : Repl}
    (hg : GoodRepl l r rep) (hlg : l = none → lg = none) (hl : rep.2.lig = false) :
    originals (drain l nl rep.1 lg lg.isNone).1 = owed l lg
      ∧ (drain l nl rep.1 lg lg.isNone).2.1 = none ∧ rep.2.c = r := by
  obtain ⟨ho, hs⟩ := drain_owed l nl lg rep.1 (own_leftC l ▸ hg.first)
  rw [ho, hs]
  cases hc : hasCh rep.1 with
  | true => exact ⟨rfl, rfl, congrArg C.c (hg.lastR hl)⟩
  | false =>
    -- no character op and an unflagged `last`: the pair is the left boundary's, which has nothing pending
    cases l with
    | some c => cases hg.empty hc hl
    | none =>
      cases hlg rfl
      exact ⟨rfl, rfl, congrArg C.c (hg.lastR hl)⟩

/-- One lookup of the run, from the state `(left, lg)` on the next character `r`, for a table of good
entries: the items it emits are, as typed glyphs, the value's ops under the cursor's flag, and their
originals pay what the state owes; the run goes on from the element the machine's cursor is on. -/
theorem goL_cons {tbl : Option Nat → Nat → Option Repl} (rb : Option Nat) (ht : GoodTable tbl)
    {left : Option Nat} {lg : Option Pending} (hlg : left = none → lg = none)
    (r : Nat) (rest : List Nat) :
    ∃ items c lg', goL tbl rb (r :: rest) left lg.isNone lg = items ++ goL tbl rb rest (some c) lg'.isNone lg' ∧
      originals items ++ owed (some c) lg' = owed left lg ++ [r] ∧
      tglyphs items = childOps (tbl left r) left lg.isSome ∧
      (El.ch c, lg'.isSome) = lastElO (tbl left r) (.ch r, false) := by
  simp only [goL]
  cases hrep : tbl left r with
  | none =>
    cases left with
    | none =>
      cases hlg rfl
      exact ⟨[], r, none, rfl, rfl, rfl, rfl⟩
    | some l => exact ⟨[emitLeft l lg], r, none, rfl, by simp [originals_emitLeft, owed], by
        simp [tglyphs, tglyph_emitLeft, emitT, elOf], rfl⟩
  | some rep =>
    have hg := ht _ _ _ hrep
    cases hl : rep.2.lig with
    | true =>
      refine ⟨_, rep.2.c, some _, by simp only [hl, if_true]; rfl, ?_, tglyphs_drain .., by simp [lastEl, hl]⟩
      rw [owed, ← List.append_assoc, drain_next_lig left false lg hg]
    | false =>
      obtain ⟨ho, hs, hr⟩ := drain_next_char left false lg hg hlg hl
      refine ⟨_, r, none, by simp only [hl, Bool.false_eq_true, if_false, hs, hr]; rfl, ?_, tglyphs_drain .., by simp [lastEl, hl]⟩
      rw [ho]; rfl

theorem goL_nil {tbl : Option Nat → Nat → Option Repl} (rb : Option Nat) (ht : GoodTable tbl)
    (l : Nat) (lg : Option Pending) :
    originals (goL tbl rb [] (some l) lg.isNone lg) = owed (some l) lg ∧
      tglyphs (goL tbl rb [] (some l) lg.isNone lg)
        = childOps (rb.bind (tbl (some l))) (some l) lg.isSome ++ emitT (lastElO (rb.bind (tbl (some l))) (.rb, false)) := by
  simp only [goL]
  cases hrb : rb.bind (fun r => tbl (some l) r) with
  | none => exact ⟨by simp [originals_emitLeft], by simp [tglyphs, tglyph_emitLeft, emitT, elOf]⟩
  | some rep =>
    obtain ⟨r, -, hrep⟩ := Option.bind_eq_some_iff.mp hrb
    have hg := ht _ _ _ hrep
    cases hl : rep.2.lig with
    | true =>
      exact ⟨by simpa [hl, Item.originals] using drain_next_lig (some l) (!rep.2.lig) lg hg,
        by simp only [hl, if_true, tglyphs_append, tglyphs_drain]; simp [lastEl, hl, emitT, tglyphs, Item.tglyph]⟩
    | false =>
      exact ⟨by simpa [hl] using (drain_next_char (some l) (!rep.2.lig) lg hg nofun hl).1,
        by simp only [hl, Bool.false_eq_true, if_false, tglyphs_drain]; simp [lastEl, hl, emitT]⟩

/-- The run invariant of the compiled run, in either state (`owed`). The hypothesis: the left boundary
never has a ligature pending. -/
theorem goL_originals {tbl : Option Nat → Nat → Option Repl} (rb : Option Nat) (ht : GoodTable tbl) :
    ∀ (w : List Nat) (left : Option Nat) (lg : Option Pending), (left = none → lg = none) →
      originals (goL tbl rb w left lg.isNone lg) = owed left lg ++ w := by
  intro w
  induction w with
  | nil =>
    intro left lg hlg
    cases left with
    | some l => simpa using (goL_nil rb ht l lg).1
    | none =>
      cases hlg rfl
      rfl
  | cons r rest ih =>
    intro left lg hlg
    obtain ⟨items, c, lg', he, ho, -, -⟩ := goL_cons rb ht hlg r rest
    rw [he, originals_append, ih (some c) lg' nofun, ← List.append_assoc, ho]
    simp

theorem goL_spell {tbl : Option Nat → Nat → Option Repl} (rb : Option Nat) (ht : GoodTable tbl) :
    ∀ (w : List Nat) (left : Option Nat), originals (goL tbl rb w left true none) = left.toList ++ w :=
  fun w left => goL_originals rb ht w left none fun _ => rfl

end C05
