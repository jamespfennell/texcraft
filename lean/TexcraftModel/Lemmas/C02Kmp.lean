import TexcraftModel.Lemmas.C02Defs
import TexcraftModel.Lemmas.C20Kmp

/-! C02: the Knuth–Morris–Pratt matcher (`substringsearch.rs`) is correct. `Model/C20Kmp.lean`
transcribes the same Rust file for an arbitrary element type and `Lemmas/C20Kmp.lean` proves it
correct. The matcher functions of `Model/C02.lean` are those at `α = Tok`, with both failures of
`C20.Res` reported as `none` and, in `kmpAdvance`, the comparison that follows the `while` loop fused
into the loop; `kmp_correct` is C20's theorem carried across these equations. -/
namespace C02
namespace Kmp
open C20.Kmp (fallback advance buildPf prefixFn MatchState TableOK)

/-- A C20 outcome as C02's matcher reports it: a panic and exhausted fuel are both `none`. -/
def ofRes {α : Type} : C20.Res α → Option α
  | .ok a => some a
  | _ => none

theorem kmpAdvance_eq_fallback (sub : List Tok) (pf : List Nat) (c : Tok) (fuel k : Nat) :
    kmpAdvance sub pf c fuel k =
      match fallback sub pf c fuel k with
      | .ok k' =>
        match sub[k']? with
        | none => none
        | some x => some (if x = c then k' + 1 else k')
      | _ => none := by
  fun_induction kmpAdvance sub pf c fuel k with
  | case1 _ h0 => simp only [fallback, h0]
  | case2 _ h0 => simp only [fallback, h0, if_true]
  | case3 _ y h0 hne => simp only [fallback, h0, if_neg hne]
  | case4 n => rfl
  | case5 fuel k h1 => simp only [fallback, h1]
  | case6 fuel k h1 => simp only [fallback, h1, if_true]
  | case7 fuel k y h1 hne hnone => simp only [fallback, h1, if_neg hne, hnone]
  | case8 fuel k y h1 hne k' hk' ih => simp only [fallback, h1, if_neg hne, hk', ih]

theorem kmpAdvance_eq (sub : List Tok) (pf : List Nat) (c : Tok) (k : Nat) :
    kmpAdvance sub pf c (k + 1) k = ofRes (advance sub pf c k) := by
  rw [kmpAdvance_eq_fallback, advance]
  cases fallback sub pf c (k + 1) k with
  | ok k' => dsimp only; cases sub[k']? <;> rfl
  | panic => rfl
  | fuel => rfl

theorem prefixFnLoop_eq (sub : List Tok) : ∀ (rest : List Tok) (k : Nat) (pf : List Nat),
    prefixFnLoop sub rest k pf = ofRes (buildPf sub rest pf k)
  | [], _, _ => rfl
  | c :: rest, k, pf => by
    rw [prefixFnLoop, buildPf, kmpAdvance_eq]
    cases advance sub pf c k with
    | ok k' => exact prefixFnLoop_eq sub rest k' _
    | panic => rfl
    | fuel => rfl

theorem next_eq (m : Matcher) (q : Nat) (c : Tok) :
    m.next q c = ofRes (C20.Kmp.next m.sub m.pf q c) := by
  rw [Matcher.next, C20.Kmp.next, kmpAdvance_eq]
  cases advance m.sub m.pf c q with
  | ok q' =>
    dsimp only [ofRes]
    split
    · cases m.pf[q' - 1]? <;> rfl
    · rfl
  | panic => rfl
  | fuel => rfl

theorem new?_eq (p : Tok) (rest : List Tok) :
    Matcher.new? (p :: rest) = (ofRes (prefixFn p rest)).map (Matcher.mk (p :: rest)) := by
  rw [Matcher.new?, prefixFnLoop_eq, prefixFn]
  cases buildPf (p :: rest) rest [0] 0 <;> rfl

theorem run_spec {P : List Tok} {pf : List Nat} (hT : TableOK P pf) (hlen : pf.length = P.length) :
    ∀ (text x : List Tok) (q : Nat), MatchState P x q →
      ∃ q', Matcher.run ⟨P, pf⟩ q text = some q' ∧ MatchState P (x ++ text) q'
  | [], x, q, hq => ⟨q, rfl, by rwa [List.append_nil]⟩
  | c :: cs, x, q, hq => by
    obtain ⟨q', b, hn, _, hq'⟩ := C20.Kmp.next_ok hT hlen hq c
    obtain ⟨q'', hr, hq''⟩ := run_spec hT hlen cs (x ++ [c]) q' hq'
    refine ⟨q'', ?_, by rwa [List.append_assoc] at hq''⟩
    simp only [Matcher.run, next_eq, hn, ofRes, hr]

end Kmp

open Kmp in
theorem kmp_correct (d : List Tok) (h : d ≠ []) :
    ∃ pf, Matcher.new? d = some ⟨d, pf⟩ ∧ MatcherOK ⟨d, pf⟩ := by
  obtain ⟨p, rest, rfl⟩ := List.exists_cons_of_ne_nil h
  obtain ⟨pf, hpf, hlen, hT⟩ := C20.Kmp.prefixFn_ok p rest
  refine ⟨pf, by rw [new?_eq, hpf]; rfl, fun text c => ?_⟩
  obtain ⟨q, hr, hq⟩ := run_spec hT hlen text [] 0 (C20.Kmp.matchState_nil _ (Nat.succ_pos _))
  obtain ⟨q', b, hn, hb, _⟩ := C20.Kmp.next_ok hT hlen hq c
  exact ⟨q, q', b, hr, by rw [next_eq, hn]; rfl, hb⟩

end C02
