import TexcraftModel.Model.C15Font

/-! C15: what the resolved items contribute equals what the raw TFM tables say. -/
namespace C15

theorem Node.resolve_dims (r : Repo) (n : Node) (i : Item) (h : n.resolve r = some i) :
    i.natWidth = n.width r ∧ i.boxHeight = n.height r ∧ i.boxDepth = n.depth r := by
  cases n with
  | other j => cases h; exact ⟨rfl, rfl, rfl⟩
  | glyph c font =>
    simp only [Node.resolve] at h
    cases hf : assoc r font with
    | none => rw [hf] at h; cases h
    | some f =>
      rw [hf] at h
      cases h
      simp only [Node.width, Node.height, Node.depth, hf]
      cases f.width c <;> cases f.height c <;> cases f.depth c <;> exact ⟨rfl, rfl, rfl⟩

theorem Node.resolve_isSome (r : Repo) (n : Node) : (n.resolve r).isSome = n.registered r := by
  cases n with
  | other j => rfl
  | glyph c font =>
    simp only [Node.resolve, Node.registered]
    cases assoc r font <;> rfl

theorem resolve_isSome (r : Repo) (ns : List Node) :
    (resolve r ns).isSome = ns.all (Node.registered r) := by
  induction ns with
  | nil => rfl
  | cons n ns ih =>
    have h1 := Node.resolve_isSome r n
    simp only [resolve, List.all_cons]
    rw [← h1, ← ih]
    cases n.resolve r <;> cases resolve r ns <;> rfl

theorem resolve_dims (r : Repo) (ns : List Node) : ∀ l, resolve r ns = some l →
    natWidth l = sum (ns.map (Node.width r)) ∧
    boxHeight l = max0 (ns.map (Node.height r)) ∧
    boxDepth l = max0 (ns.map (Node.depth r)) := by
  induction ns with
  | nil => intro l h; cases h; exact ⟨rfl, rfl, rfl⟩
  | cons n ns ih =>
    intro l h
    unfold resolve at h
    split at h
    · next i l' hn hr =>
      cases h
      obtain ⟨a, b, c⟩ := ih l' hr
      obtain ⟨x, y, z⟩ := Node.resolve_dims r n i hn
      show i.natWidth + natWidth l' = _ ∧ max i.boxHeight (boxHeight l') = _ ∧
        max i.boxDepth (boxDepth l') = _
      rw [a, b, c, x, y, z]
      exact ⟨rfl, rfl, rfl⟩
    · cases h

end C15
