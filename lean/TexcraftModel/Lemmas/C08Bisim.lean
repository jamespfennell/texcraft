import TexcraftModel.Lemmas.C01

/-!
# C08 — VM states whose command maps are abstractly equal behave identically

Two `C01.VMState`s that agree on every plain field and whose command maps (`cmds`, `active`) have
the same abstraction `GMap.abs` within `C20.Inv` (`VEquiv`) give the same outputs under `C01.run`,
for every `Variant`. For one map this is C20's refinement theorem (`gmap_refines`, `gmap_inv`:
`MEquiv.step`); operation by operation it gives `step_congr`, and C01's `runWith_sim` carries that
over whole programs (`run_congr`).
-/
namespace C08
open C20 C01

section GMapFacts
variable {K V : Type} [DecidableEq K]

/-- Same abstraction, both within C20's invariant: by C20's refinement theorem such maps cannot
be told apart by any history. -/
structure MEquiv (m m' : GMap K V) : Prop where
  abs : m.abs = m'.abs
  inv : Inv m
  inv' : Inv m'

theorem MEquiv.step {m m' : GMap K V} (h : MEquiv m m') (op : C20.Op K V) :
    MEquiv (m.step op).1 (m'.step op).1 ∧ (m.step op).2 = (m'.step op).2 := by
  have h1 := gmap_refines m op h.inv
  have h2 := gmap_refines m' op h.inv'
  rw [h.abs] at h1
  exact ⟨⟨h1.1.trans h2.1.symm, gmap_inv m op h.inv, gmap_inv m' op h.inv'⟩, h1.2.trans h2.2.symm⟩

theorem get_congr {m m' : GMap K V} (habs : m.abs = m'.abs) (k : K) : m.get k = m'.get k :=
  congrFun (congrArg Snap.cur habs) k

theorem MEquiv.insert {m m' : GMap K V} (h : MEquiv m m') (k : K) (v : V) (s : Scope) :
    MEquiv (m.insert k v s).1 (m'.insert k v s).1 :=
  (h.step (.insert k v s)).1

theorem MEquiv.beginGroup {m m' : GMap K V} (h : MEquiv m m') :
    MEquiv m.beginGroup m'.beginGroup :=
  (h.step .beginGroup).1

theorem MEquiv.endGroup {m m' : GMap K V} (h : MEquiv m m') :
    (m.endGroup = none ∧ m'.endGroup = none) ∨
      ∃ x x', m.endGroup = some x ∧ m'.endGroup = some x' ∧ MEquiv x x' := by
  have hs := h.step .endGroup
  unfold GMap.step at hs
  cases h1 : m.endGroup with
  | none =>
    cases h2 : m'.endGroup with
    | none => exact .inl ⟨rfl, rfl⟩
    | some x' => rw [h1, h2] at hs; cases hs.2
  | some x =>
    cases h2 : m'.endGroup with
    | none => rw [h1, h2] at hs; cases hs.2
    | some x' => rw [h1, h2] at hs; exact .inr ⟨x, x', rfl, rfl, hs.1⟩

end GMapFacts

/-- Equal plain fields; the two command maps abstractly equal and within C20's invariant. -/
structure VEquiv (a b : VMState) : Prop where
  vars : a.vars = b.vars
  save : a.save = b.save
  font : a.font = b.font
  fontSave : a.fontSave = b.fontSave
  scopeBit : a.scopeBit = b.scopeBit
  cmdsAbs : a.cmds.abs = b.cmds.abs
  activeAbs : a.active.abs = b.active.abs
  invCa : Inv a.cmds
  invCb : Inv b.cmds
  invAa : Inv a.active
  invAb : Inv b.active

theorem VEquiv.of_maps {c c' d d' : GMap Nat Cmd} (hc : MEquiv c c') (hd : MEquiv d d')
    (vars : AList Var Val) (save : List (AList Var (Action Val))) (font : Nat)
    (fontSave : List (Option Nat)) (bit : Scope) :
    VEquiv ⟨vars, save, c, d, font, fontSave, bit⟩ ⟨vars, save, c', d', font, fontSave, bit⟩ :=
  ⟨rfl, rfl, rfl, rfl, rfl, hc.abs, hd.abs, hc.inv, hc.inv', hd.inv, hd.inv'⟩

@[elab_as_elim]
theorem VEquiv.elim {motive : VMState → VMState → Prop} {a b : VMState} (h : VEquiv a b)
    (H : ∀ vars save font fontSave bit (c c' d d' : GMap Nat Cmd), MEquiv c c' → MEquiv d d' →
      motive ⟨vars, save, c, d, font, fontSave, bit⟩ ⟨vars, save, c', d', font, fontSave, bit⟩) :
    motive a b := by
  obtain ⟨vars, save, c, d, font, fontSave, bit⟩ := a
  obtain ⟨vars', save', c', d', font', fontSave', bit'⟩ := b
  obtain ⟨h1, h2, h3, h4, h5, h6, h7, h8, h9, h10, h11⟩ := h
  dsimp only at h1 h2 h3 h4 h5
  subst h1 h2 h3 h4 h5
  exact H _ _ _ _ _ _ _ _ _ ⟨h6, h8, h9⟩ ⟨h7, h10, h11⟩

theorem getCmd_congr {a b : VMState} (h : VEquiv a b) (t : CTarget) : getCmd a t = getCmd b t := by
  cases t with
  | cs n => exact get_congr h.cmdsAbs n
  | act c => exact get_congr h.activeAbs c

theorem setVar_congr (cfg : Variant) {a b : VMState} (h : VEquiv a b) (v : Var) (x : Val)
    (sc : Scope) : VEquiv (setVar cfg a v x sc) (setVar cfg b v x sc) := by
  refine h.elim ?_
  intro vars save font fontSave bit c c' d d' hc hd
  unfold setVar updateSaveStack
  cases save with
  | nil => exact .of_maps hc hd ..
  | cons g gs => cases sc <;> exact .of_maps hc hd ..

theorem globalDefs_congr {a b : VMState} (h : VEquiv a b) : globalDefs a = globalDefs b := by
  unfold globalDefs; rw [h.vars]

theorem setScope_congr {a b : VMState} (h : VEquiv a b) (s : Scope) :
    VEquiv (setScope a s) (setScope b s) :=
  h.elim fun _ _ _ _ _ _ _ _ _ hc hd => .of_maps hc hd ..

theorem applyPrefix_congr {a b : VMState} (h : VEquiv a b) (pre : Nat) :
    VEquiv (applyPrefix pre a) (applyPrefix pre b) := by
  unfold applyPrefix prefixGlobal
  split
  · exact h
  · exact setScope_congr h _

theorem readAndResetGlobal_congr {a b : VMState} (h : VEquiv a b) :
    (readAndResetGlobal a).1 = (readAndResetGlobal b).1 ∧
      VEquiv (readAndResetGlobal a).2 (readAndResetGlobal b).2 := by
  unfold readAndResetGlobal
  rw [globalDefs_congr h]
  by_cases h1 : globalDefs b < 0
  · rw [if_pos h1, if_pos h1]; exact ⟨rfl, h⟩
  · rw [if_neg h1, if_neg h1]
    by_cases h2 : globalDefs b = 0
    · rw [if_pos h2, if_pos h2]
      exact ⟨h.scopeBit, h.elim fun _ _ _ _ _ _ _ _ _ hc hd => .of_maps hc hd ..⟩
    · rw [if_neg h2, if_neg h2]; exact ⟨rfl, h⟩

theorem assign_congr (cfg : Variant) {a b : VMState} (h : VEquiv a b) (pre : Nat) (v : Var)
    (x : Val) : VEquiv (assign cfg a pre v x) (assign cfg b pre v x) := by
  have hr := readAndResetGlobal_congr (applyPrefix_congr h pre)
  unfold assign
  dsimp only
  rw [hr.1]
  exact setVar_congr cfg hr.2 v x _

theorem selectFont_congr {a b : VMState} (h : VEquiv a b) (pre f : Nat) :
    VEquiv (selectFont a pre f) (selectFont b pre f) := by
  have hr := readAndResetGlobal_congr (applyPrefix_congr h pre)
  have hm := hr.2
  unfold selectFont
  dsimp only
  rw [hr.1, hm.fontSave, hm.font]
  exact ⟨hm.vars, hm.save, rfl, rfl, hm.scopeBit, hm.cmdsAbs, hm.activeAbs, hm.invCa, hm.invCb,
    hm.invAa, hm.invAb⟩

theorem resolveDef_congr {a b : VMState} (h : VEquiv a b) (d : Def) :
    resolveDef a d = resolveDef b d := by
  cases d with
  | lcs src => exact getCmd_congr h src
  | _ => rfl

theorem insertCmd_congr {a b : VMState} (h : VEquiv a b) (t : CTarget) (c : Cmd) (s : Scope) :
    VEquiv (insertCmd a t c s) (insertCmd b t c s) := by
  refine h.elim ?_
  intro vars save font fontSave bit m m' d d' hc hd
  cases t with
  | cs n => exact .of_maps (hc.insert n c s) hd ..
  | act ch => exact .of_maps hc (hd.insert ch c s) ..

theorem define_congr (cfg : Variant) {a b : VMState} (h : VEquiv a b) (pre : Nat) (t : CTarget)
    (d : Def) :
    (C01.step cfg a (.define pre t d)).2 = (C01.step cfg b (.define pre t d)).2 ∧
      VEquiv (C01.step cfg a (.define pre t d)).1 (C01.step cfg b (.define pre t d)).1 := by
  have hr := readAndResetGlobal_congr (applyPrefix_congr h pre)
  rw [C01.step, C01.step]
  unfold define
  by_cases hc : pre ≠ 0 ∧ needsFixC d = true ∧ cfg.fixC = false
  · rw [if_pos hc, if_pos hc]; exact ⟨rfl, h⟩
  · rw [if_neg hc, if_neg hc]
    dsimp only
    rw [resolveDef_congr hr.2 d, hr.1]
    cases resolveDef (readAndResetGlobal (applyPrefix pre b)).2 d with
    | none => exact ⟨rfl, hr.2⟩
    | some c => exact ⟨rfl, insertCmd_congr hr.2 t c _⟩

theorem vmBeginGroup_congr (cfg : Variant) {a b : VMState} (h : VEquiv a b) :
    VEquiv (C01.beginGroup cfg a) (C01.beginGroup cfg b) := by
  refine h.elim ?_
  intro vars save font fontSave bit c c' d d' hc hd
  unfold C01.beginGroup mapBeginGroup
  cases cfg.fixB with
  | true => exact .of_maps hc.beginGroup hd.beginGroup ..
  | false => exact .of_maps hc.beginGroup hd ..

theorem mapEndGroup_congr (cfg : Variant) {a b : VMState} (h : VEquiv a b) :
    (mapEndGroup cfg a = none ∧ mapEndGroup cfg b = none) ∨
      ∃ x y, mapEndGroup cfg a = some x ∧ mapEndGroup cfg b = some y ∧ VEquiv x y := by
  refine h.elim ?_
  intro vars save font fontSave bit c c' d d' hc hd
  unfold mapEndGroup
  dsimp only
  rcases hc.endGroup with ⟨h1, h2⟩ | ⟨x, x', h1, h2, hx⟩
  · rw [h1, h2]; exact .inl ⟨rfl, rfl⟩
  · rw [h1, h2]
    dsimp only
    cases cfg.fixB with
    | false => exact .inr ⟨_, _, rfl, rfl, .of_maps hx hd ..⟩
    | true =>
      rw [if_pos rfl, if_pos rfl]
      rcases hd.endGroup with ⟨h3, h4⟩ | ⟨y, y', h3, h4, hy⟩
      · rw [h3, h4]; exact .inl ⟨rfl, rfl⟩
      · rw [h3, h4]; exact .inr ⟨_, _, rfl, rfl, .of_maps hx hy ..⟩

theorem vmEndGroup_congr (cfg : Variant) {a b : VMState} (h : VEquiv a b) :
    (C01.step cfg a .endGroup).2 = (C01.step cfg b .endGroup).2 ∧
      VEquiv (C01.step cfg a .endGroup).1 (C01.step cfg b .endGroup).1 := by
  rw [C01.step, C01.step]
  unfold C01.endGroup
  rcases mapEndGroup_congr cfg h with ⟨h1, h2⟩ | ⟨m, m', h1, h2, hm⟩
  · rw [h1, h2]; exact ⟨rfl, h⟩
  · rw [h1, h2]
    refine hm.elim ?_
    intro vars save font fontSave bit c c' d d' hc hd
    cases save with
    | nil => exact ⟨rfl, h⟩
    | cons g gs =>
      cases fontSave with
      | nil => exact ⟨rfl, h⟩
      | cons o fs => cases o <;> exact ⟨rfl, .of_maps hc hd ..⟩

theorem readTarget_congr {a b : VMState} (h : VEquiv a b) (t : Target) :
    readTarget a t = readTarget b t := by
  cases t with
  | var v => simp only [readTarget, h.vars]
  | cmd t => simp only [readTarget, getCmd_congr h t, h.vars]
  | font => simp only [readTarget, h.font]

theorem step_congr (cfg : Variant) {a b : VMState} (h : VEquiv a b) (op : C01.Op) :
    (C01.step cfg a op).2 = (C01.step cfg b op).2 ∧
      VEquiv (C01.step cfg a op).1 (C01.step cfg b op).1 := by
  cases op with
  | beginGroup => exact ⟨rfl, vmBeginGroup_congr cfg h⟩
  | endGroup => exact vmEndGroup_congr cfg h
  | assign pre v x => exact ⟨rfl, assign_congr cfg h pre v x⟩
  | define pre t d => exact define_congr cfg h pre t d
  | selectFont pre f => exact ⟨rfl, selectFont_congr h pre f⟩
  | read t => exact ⟨readTarget_congr h t, h⟩

theorem run_congr (cfg : Variant) {a b : VMState} (h : VEquiv a b) (ops : List C01.Op) :
    (C01.run cfg a ops).2 = (C01.run cfg b ops).2 ∧
      VEquiv (C01.run cfg a ops).1 (C01.run cfg b ops).1 := by
  rw [run_eq, run_eq]
  exact runWith_sim VEquiv (step_congr cfg) h

end C08
