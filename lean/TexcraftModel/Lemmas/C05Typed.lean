import TexcraftModel.Lemmas.C05Sem

/-!
# C05 — the compiled run against the typed cursor machine

A character is a ligature node iff an instruction inserted it. The compiler's `is_lig` flags
compose exactly like the machine's flags (`SemPair`, `sem_pair`, for the right character itself or
the right boundary). `goL_runsT` lifts this to words; the statements about the untyped machine are
its erasures.
-/
namespace C05

/-- The glyph/kern sequence of a replacement's ops (`tgl` without the node types). -/
def gl : List IOp → List Glyph
  | [] => []
  | .kern k :: t => .kern k :: gl t
  | .ch c :: t => .glyph c.c :: gl t

theorem tgl_append (a b : List IOp) : tgl (a ++ b) = tgl a ++ tgl b := by
  induction a with
  | nil => rfl
  | cons x t ih => cases x <;> simp [tgl, ih]

theorem tgl_erase (ops : List IOp) : (tgl ops).map TGlyph.erase = gl ops := by
  induction ops with
  | nil => rfl
  | cons x t ih => cases x <;> simp [tgl, gl, TGlyph.erase, ih]

theorem markFirst_append (b : Bool) (x y : List IOp) :
    (markFirst b (x ++ y)).1 = (markFirst b x).1 ++ (markFirst (markFirst b x).2 y).1 := by
  induction x with
  | nil => rfl
  | cons i t ih =>
    cases i with
    | kern k => simp [markFirst, ih]
    | ch c => simp [markFirst, markFirst_false]

theorem markFirst_markFirst (a b : Bool) (ops : List IOp) :
    (markFirst a (markFirst b ops).1).1 = (markFirst (b || a) ops).1 := by
  induction ops with
  | nil => rfl
  | cons i t ih =>
    cases i with
    | kern k => simp [markFirst, ih]
    | ch c => simp [markFirst, Bool.or_assoc]

theorem markFirst_false_fst (ops : List IOp) : (markFirst false ops).1 = ops := by
  rw [markFirst_false]

theorem tgl_leftOps {b : Bool} {l : Option Nat} (hb : l = none → b = false) (t : List IOp) :
    tgl (markFirst b (leftOps l ++ t)).1 = emitT (elOf l, b) ++ tgl t := by
  cases l with
  | none => cases hb rfl; simp [leftOps, markFirst_false_fst, emitT, elOf]
  | some c => simp [leftOps, markFirst, tgl, emitT, elOf]

theorem lastEl_or (a pr : C) (h : a.lig = false → a.c = pr.c) (y : El × Bool) :
    lastEl ⟨a.c, a.lig || pr.lig⟩ y = lastEl a (lastEl pr y) := by
  cases ha : a.lig with
  | true => simp [lastEl, ha]
  | false => cases hp : pr.lig <;> simp [lastEl, ha, hp, h ha]

theorem applyChild_typed (pl : Option C) (pr : C) (v : Option Repl)
    (hv : ∀ rep, v = some rep → GoodRepl (charOf pl) pr.c rep) (b : Bool) (y : El × Bool) :
    tgl (markFirst b (applyChild pl pr v).1).1 = childOps v (charOf pl) (flagOf pl || b)
      ∧ lastEl (applyChild pl pr v).2 y = lastElO v (lastEl pr y) := by
  cases v with
  | none =>
    rcases pl with _ | ⟨c, f⟩
    · exact ⟨rfl, rfl⟩
    · exact ⟨rfl, rfl⟩
  | some rep =>
    have hg := hv rep rfl
    simp only [applyChild_some, applyChild_flag_redundant pl pr rep hg, childOps, lastElO, markFirst_markFirst,
      lastEl_or rep.2 pr (fun h => by rw [hg.lastR h]), and_self]

/-- What the value of a pair computed with fuel `n` (a replacement, or `none`: no rule) means for the
typed machine: started on the left element (flagged `bl`) and an element `y` that stands for the right
character, it emits the value's ops, the first character op taking the flag `bl` (without a rule: the left
element alone), and goes on from `lastElO`. -/
def SemPair (p : Program) (n : Nat) : Prop :=
  ∀ {l r c}, pairResult n p l r = some c →
    ∀ (bl : Bool) (y : El × Bool) (tail) {out}, (l = none → bl = false) → rightOf p y.1 = some r →
    RunsT p (lastElO c y :: tail) out →
    RunsT p ((elOf l, bl) :: y :: tail) (childOps c l bl ++ out)

theorem sem_link (p : Program) (n : Nat) (ih : SemPair p n) {a : Nat} {pl : Option C} {pr : C} {s : Repl}
    (hs : link (pairResult n p) a pl pr = some s) (b : Bool) (y : El × Bool) (tail : List (El × Bool))
    (out : List TGlyph) (hb : pl = none → b = false) (hy : rightOf p (lastEl pr y).1 = some pr.c)
    (h : PassT p (a - 1) (lastEl s.2 y :: tail) out) :
    PassT p a ((elOf (charOf pl), flagOf pl || b) :: lastEl pr y :: tail) (tgl (markFirst b s.1).1 ++ out) := by
  cases a with
  | zero =>
    obtain ⟨v, hv, rfl⟩ := Option.map_eq_some_iff.mp hs
    obtain ⟨o, ho, rfl⟩ := h
    obtain ⟨e1, e2⟩ := applyChild_typed pl pr v (fun rep hrep => pairResult_good p n _ _ rep (hrep ▸ hv)) b y
    rw [e1]
    rw [List.drop_zero, e2] at ho
    refine .zero rfl (ih hv _ _ tail (fun hn => ?_) hy ho)
    cases pl with
    | none => exact hb rfl
    | some x => cases hn
  | succ a =>
    cases hs
    obtain ⟨e1, e2⟩ := applyChild_typed pl pr none nofun b y
    rw [e1]
    rw [e2] at h
    exact .succ h

theorem sem_pair (p : Program) : ∀ n, SemPair p n := by
  intro n
  induction n with
  | zero => intro l r rep h; cases h
  | succ n ih =>
    intro l r c h bl y tail out hbl hy hout
    have hne : (elOf l, bl).1 ≠ El.rb := elOf_ne_rb l
    have hlk : lookup p (elOf l, bl).1 y.1 = rule p l r := lookup_eq p l hy
    rw [pairResult_succ_eq] at h
    generalize rule p l r = op at h hlk
    match op with
    | none =>
      cases h
      exact .noRule hne hlk hout
    | some (.kern k) =>
      cases h
      simpa [tgl_leftOps hbl, tgl] using RunsT.kern hne hlk hout
    | some (.lig z post) =>
      obtain ⟨t, ht, ht'⟩ := Option.map_eq_some_iff.mp h
      cases ht'
      refine .lig hne hlk ?_
      have hle := abc_le post
      simp only [childOps, lastElO] at hout ⊢
      generalize post.abc = abc at ht hle
      obtain ⟨a, b, c⟩ := abc
      have hl0 : leftC l = none → bl = false := fun h => hbl (charOf_leftC l ▸ congrArg charOf h)
      -- in each of the four shapes `ligSeq` reduces to the elements kept, and `ligResult` to its links
      cases b <;> cases c <;> simp only [ligResult] at ht <;> simp only [Bool.toNat_true, Bool.toNat_false] at hle
      · cases ht
        exact .zero (by omega) hout
      · exact sem_link p n ih ht bl y tail out nofun hy (.zero (by omega) hout)
      · have := sem_link p n ih ht bl y tail out hl0 rfl (.zero (by omega) hout)
        rwa [charOf_leftC, flagOf_leftC] at this
      · obtain ⟨s, hs, h2⟩ := Option.bind_eq_some_iff.mp ht
        obtain ⟨t', ht', rfl⟩ := Option.map_eq_some_iff.mp h2
        -- the element between the two links is an inserted character
        have hs2 : s.2.lig = true :=
          (link_good (pairResult_good p n) hs).lig rfl
        obtain ⟨ops, e, lig⟩ := s
        cases hs2
        have h2 := sem_link p n ih ht' (markFirst bl ops).2 y tail out nofun hy (.zero (by omega) hout)
        have h1 := sem_link p n ih hs bl y (y :: tail) _ hl0 rfl h2
        rw [charOf_leftC, flagOf_leftC] at h1
        rwa [markFirst_append, tgl_append, List.append_assoc]

theorem sem_real (p : Program) {n : Nat} {l : Option Nat} {r : Nat} {rep : Repl}
    (h : pairResult n p l r = some (some rep)) (tail : List El) (out : List Glyph) (f : Nat)
    (hcont : interp p f (.ch rep.2.c :: tail) = some out) :
    ∃ f', interp p f' (elOf l :: .ch r :: tail) = some (gl rep.1 ++ out) := by
  have hlast : (lastEl rep.2 (.ch r, false)).1 = .ch rep.2.c := by
    cases hl : rep.2.lig with
    | true => simp [lastEl, hl]
    | false => simp [lastEl, (pairResult_good p n l r rep h).lastR hl]
  rw [← map_untag tail, ← hlast, ← List.map_cons] at hcont
  obtain ⟨tout, ht, rfl⟩ := RunsT.of_interp hcont
  have := (sem_pair p n h false (.ch r, false) _ (fun _ => rfl) rfl ht).erase
  simpa [markFirst_false_fst, tgl_erase, elOf, Function.comp_def] using this

theorem tglyphs_erase (l : List Item) : (tglyphs l).map TGlyph.erase = glyphs l := by
  simp only [tglyphs, glyphs, List.map_map]
  congr 1
  funext i
  cases i <;> rfl

theorem RunsT.untyped {p : Program} {s : List El} {items : List Item}
    (h : RunsT p (s.map (fun e => (e, false))) (tglyphs items)) :
    (∃ fuel, interp p fuel s = some (glyphs items)) ∧
    (∀ fuel out, interp p fuel s = some out → out = glyphs items) := by
  obtain ⟨f, hf⟩ := h.erase
  rw [map_untag, tglyphs_erase] at hf
  exact ⟨⟨f, hf⟩, fun fuel out h => interp_det p h hf⟩

/-- The right-boundary element that ends the typed sequence of a word, if the font has a boundary
character. -/
def rbT (p : Program) : List (El × Bool) := if p.rb.isSome then [(El.rb, false)] else []

/-- The characters of a word as elements of the typed machine: none of them was inserted. -/
def untagged (w : List Nat) : List (El × Bool) := w.map (fun c => (El.ch c, false))

theorem untagged_cons (r : Nat) (rest : List Nat) :
    untagged (r :: rest) = (El.ch r, false) :: untagged rest := rfl

/-- The run invariant: the left character is a fresh character of the word (nothing pending,
element not flagged) or the `last` of a replacement that is an inserted character (a pending
ligature, element flagged). The left boundary is only ever fresh, and has a word after it. -/
theorem goL_runsT (p : Program) (hac : acyclicB p = true) :
    ∀ (w : List Nat) (left : Option Nat) (lg : Option Pending), (left = none → lg = none ∧ w ≠ []) →
      RunsT p ((elOf left, lg.isSome) :: (untagged w ++ rbT p))
        (tglyphs (goL (table p) p.rb w left lg.isNone lg)) := by
  intro w
  induction w with
  | nil =>
    intro left lg hleft
    cases left with
    | none => exact absurd rfl (hleft rfl).2
    | some l =>
      rw [(goL_nil p.rb (table_good p) l lg).2]
      cases hrb : p.rb with
      | none => simpa [rbT, hrb, emitT, untagged] using RunsT.single (p := p) (elOf (some l), lg.isSome)
      | some r =>
        simpa [rbT, hrb, untagged] using
          sem_pair p _ (table_value p hac (some l) r) lg.isSome (.rb, false) [] (by simp) hrb (.single _)
  | cons r rest ih =>
    intro left lg hleft
    -- one lookup is one cursor move of the machine, for the value the table holds (`table_value`)
    obtain ⟨items, c, lg', he, -, ht, hn⟩ := goL_cons p.rb (table_good p) (fun h => (hleft h).1) r rest
    rw [he, tglyphs_append, ht]
    exact sem_pair p _ (table_value p hac left r) _ (.ch r, false) _ (fun h => by simp [(hleft h).1]) rfl
      (hn ▸ ih (some c) lg' nofun)

theorem seqNoLB_untagged (p : Program) (w : List Nat) :
    (seqNoLB p w).map (fun e => (e, false)) = untagged w ++ rbT p := by
  simp only [seqNoLB, untagged, rbT]
  cases p.rb <;> simp

theorem runM_runsT (p : Program) (hac : acyclicB p = true) (w : List Nat) (hw : w ≠ []) :
    RunsT p ((seqOf p w).map (fun e => (e, false))) (tglyphs (runM p w)) := by
  have hs : seqOf p w = .lb :: seqNoLB p w := rfl
  rw [hs, List.map_cons, seqNoLB_untagged]
  exact goL_runsT p hac w none none (fun _ => ⟨rfl, hw⟩)

theorem runNoLB_runsT (p : Program) (hac : acyclicB p = true) (c : Nat) (w : List Nat) :
    RunsT p ((seqNoLB p (c :: w)).map (fun e => (e, false))) (tglyphs (runNoLB p (c :: w))) := by
  rw [seqNoLB_untagged]
  exact goL_runsT p hac w (some c) none nofun

end C05
