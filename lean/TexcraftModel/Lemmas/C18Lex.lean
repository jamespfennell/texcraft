import TexcraftModel.Lemmas.C18

/-! C18: the lexer as a whole. Every scanner returns a suffix of its input with a printable
token, or an error whose label span is a valid range of the text (`Located`); so every step
consumes a character, the fuel of `lexAux` never runs out, and `lex` returns tokens the printer
can write or a located error (`lex_spec`). -/
namespace C18

theorem ite_rec {α} {p : α → Prop} {c : Prop} [Decidable c] {a b : α} (ha : c → p a) (hb : ¬ c → p b) :
    p (if c then a else b) := by
  split
  · exact ha ‹_›
  · exact hb ‹_›

theorem suffix_cons_of {α} {a b : List α} (c : α) (h : a <:+ b) : a <:+ c :: b :=
  List.IsSuffix.trans h (List.suffix_cons c b)

theorem dropLine_suffix : ∀ r : List Char, dropLine r <:+ r
  | [] => List.suffix_refl _
  | c :: r => by
    rw [dropLine]
    split
    · exact List.suffix_cons c r
    · exact suffix_cons_of c (dropLine_suffix r)

theorem scanFrac_suffix : ∀ (cs : List Char), (scanFrac cs).2 <:+ cs
  | [] => List.suffix_refl _
  | c :: r => by
    rw [scanFrac]
    cases digitVal c with
    | some d => exact suffix_cons_of c (scanFrac_suffix r)
    | none => exact List.suffix_refl _

theorem scanDigits_suffix (cs : List Char) (acc : Nat) : (scanDigits acc cs).2 <:+ cs := by
  rw [scanDigits_eq_scanFrac]; exact scanFrac_suffix cs

theorem scanDigits_suffix_tail {c : Char} (h : (digitVal c).isSome = true) (r : List Char) (acc : Nat) :
    (scanDigits acc (c :: r)).2 <:+ r := by
  rw [scanDigits]
  cases hv : digitVal c with
  | some d => exact scanDigits_suffix r _
  | none => rw [hv] at h; cases h

theorem scanWord_suffix : ∀ (cs : List Char), (scanWord cs).2 <:+ cs
  | [] => List.suffix_refl _
  | c :: r => by
    rw [scanWord]
    split
    · exact suffix_cons_of c (scanWord_suffix r)
    · exact List.suffix_refl _

theorem scanWord_all : ∀ r : List Char,
    ((scanWord r).1).all (fun x => isAlpha x || decide (x = '_')) = true
  | [] => rfl
  | c :: r => by
    rw [scanWord]
    split
    · next h =>
      simp only [List.all_cons, Bool.and_eq_true]
      exact ⟨by simpa using h, scanWord_all r⟩
    · rfl

/-- The tokens the printer can write back: names are words, numbers are in the ranges the text
level carries (`intOk`, `dimOk`). -/
def tokOk : BTok → Bool
  | .kw w => isWord w
  | .int n => intOk n
  | .dim s => dimOk s
  | .inf s _ => intOk s
  | _ => true

/-- What `lex` returns on success (`lex_spec`); the hypothesis under which a parsed CST is printable. -/
def toksOk (l : List BTok) : Bool := l.all tokOk

/-- The label span of `e` is a range of the text `src`. -/
def LexErr.Within (src : List Char) (e : LexErr) : Prop :=
  ∃ f t, e.span = some (f, t) ∧ t <:+ f ∧ f <:+ src

/-- What the scanner of one token, standing at `cs` in the text `src` that begins with the token,
may return: the rest is a suffix of `cs` and the token is one the printer can write; an error
other than the end of the text has its span in `src`. -/
def Located (src cs : List Char) : Res (BTok × List Char) → Prop
  | .ok (t, r) => r <:+ cs ∧ tokOk t = true
  | .err e => e = .unterminatedString ∨ e.Within src
  | .unsupported => True

theorem Located.mono {src cs cs' : List Char} (h : cs <:+ cs') :
    ∀ {x : Res (BTok × List Char)}, Located src cs x → Located src cs' x
  | .ok (_, _), hx => ⟨hx.1.trans h, hx.2⟩
  | .err _, hx => hx
  | .unsupported, _ => trivial

theorem Located.err {src cs f t : List Char} {e : LexErr} (hs : e.span = some (f, t)) (ht : t <:+ f)
    (hf : f <:+ src) : Located src cs (.err e) :=
  .inr ⟨f, t, hs, ht, hf⟩

/-- Inside an escape, the scanner at `cs` has not left the text `bs` from the backslash on, which
lies in `src`. -/
def SState.Inside (src cs : List Char) : SState → Prop
  | .norm => True
  | .esc bs | .afterU bs | .hex bs _ _ => cs <:+ bs ∧ bs <:+ src

/-- `Located` for the string scanner: of its result as the token `lexStep` makes of it. -/
def StrLocated (src cs : List Char) (x : Res (Str × List Char)) : Prop :=
  Located src cs (x.map fun p => (.str p.1, p.2))

theorem StrLocated.push {src cs cs' : List Char} (h : cs <:+ cs') (y : Char) :
    ∀ {x : Res (Str × List Char)}, StrLocated src cs x → StrLocated src cs' (x.push y)
  | .ok _, hx => ⟨hx.1.trans h, rfl⟩
  | .err _, hx => hx
  | .unsupported, _ => trivial

theorem scanStr_located {src : List Char} (cs : List Char) : ∀ (st : SState), cs <:+ src →
    st.Inside src cs → StrLocated src cs (scanStr st cs) := by
  induction cs with
  | nil =>
    intro st _ hb
    cases st with
    | norm | esc bs => exact .inl rfl
    | afterU bs | hex bs v valid => exact Located.err rfl hb.1 hb.2
  | cons c cs ih =>
    intro st hs hb
    have hc := List.suffix_cons c cs
    have go : ∀ st', st'.Inside src cs → StrLocated src (c :: cs) (scanStr st' cs) :=
      fun st' h => Located.mono hc (ih st' (hc.trans hs) h)
    have push : ∀ y, StrLocated src (c :: cs) ((scanStr .norm cs).push y) :=
      fun y => (ih .norm (hc.trans hs) trivial).push hc y
    cases st with
    | norm =>
      rw [scanStr]
      exact ite_rec (fun _ => ⟨hc, rfl⟩) fun _ => ite_rec (fun _ => go _ ⟨hc, hs⟩) fun _ => push c
    | esc bs =>
      rw [scanStr]
      exact ite_rec (fun _ => push _) fun _ => ite_rec (fun _ => push _) fun _ =>
        ite_rec (fun _ => push _) fun _ => ite_rec (fun _ => push _) fun _ =>
        ite_rec (fun _ => push _) fun _ => ite_rec (fun _ => go _ ⟨hc.trans hb.1, hb.2⟩) fun _ =>
          Located.err rfl (hc.trans hb.1) hb.2
    | afterU bs =>
      rw [scanStr]
      exact ite_rec (fun _ => go _ ⟨hc.trans hb.1, hb.2⟩) fun _ => Located.err rfl hb.1 hb.2
    | hex bs v valid =>
      rw [scanStr]
      refine ite_rec (fun _ => ite_rec (fun _ => push _) fun _ => Located.err rfl (hc.trans hb.1) hb.2)
        fun _ => ?_
      cases hexVal c with
      | some d => exact go _ ⟨hc.trans hb.1, hb.2⟩
      | none => exact Located.err rfl hb.1 hb.2

/-- Whatever the unit, a result of `Scaled::new` is within `±max_dimen` (its integer part is
below 16384 in absolute value and its fraction below `2^16`). -/
theorem scaledNew_range (n f num den : Nat) (isSp : Bool) (s : Int)
    (h : scaledNew (n : Int) f num den isSp = some s) : -1073741823 ≤ s ∧ s ≤ 1073741823 := by
  unfold scaledNew maxDimen at h
  cases isSp with
  | true =>
    rw [if_pos rfl, Option.ite_none_left_eq_some, Option.some.injEq] at h
    -- the bounds one by one, here and below: on a conjunction `omega` argues classically
    exact ⟨by omega, by omega⟩
  | false =>
    simp only [Bool.false_eq_true, if_false, Option.ite_none_left_eq_some, Option.some.injEq] at h
    obtain ⟨-, hip, rfl⟩ := h
    simp only [Bool.or_eq_true, decide_eq_true_eq, not_or, Int.not_le] at hip
    generalize ((((f * num : Nat) : Int) + ((n : Int) * (num : Int)).tmod (den : Int) * 65536).tdiv (den : Int)) = fq at *
    have h1 := Int.tmod_lt_of_pos fq (show (0 : Int) < 65536 by decide)
    have h2 := Int.lt_tmod_of_pos fq (show (0 : Int) < 65536 by decide)
    exact ⟨by omega, by omega⟩

theorem signed_range (neg : Bool) {m s : Int} (h : -m ≤ s ∧ s ≤ m) :
    -m ≤ (if neg then -1 else 1) * s ∧ (if neg then -1 else 1) * s ≤ m := by
  cases neg
  · rwa [if_neg Bool.false_ne_true, Int.one_mul]
  · rw [if_pos rfl, Int.neg_one_mul]
    exact ⟨Int.neg_le_neg h.2, Int.neg_le_of_neg_le h.1⟩

theorem lexInt_located {src : List Char} (neg : Bool) (n : Nat) (r : List Char) (h : r <:+ src) :
    Located src r (lexInt src neg n r) := by
  unfold lexInt
  exact ite_rec (fun _ => Located.err rfl h (List.suffix_refl _))
    (fun hn => ⟨List.suffix_refl r, decide_eq_true (signed_range neg ⟨by omega, by omega⟩)⟩)

theorem lexUnit_located {src : List Char} (neg : Bool) (n : Nat) (ds : List Nat) (r : List Char)
    (h : r <:+ src) : Located src r (lexUnit src neg n ds r) := by
  unfold lexUnit
  have hw := scanWord_suffix r
  generalize scanWord r = p at hw
  obtain ⟨u, r'⟩ := p
  have range : Located src r (.err (.numberOutOfRange (src, r'))) :=
    Located.err rfl (hw.trans h) (List.suffix_refl _)
  refine ite_rec (fun _ => range) fun _ => ?_
  dsimp only
  cases unitFraction u with
  | some q =>
    obtain ⟨num, den, isSp⟩ := q
    dsimp only
    cases hs : scaledNew n (fromDecimalDigits ds) num den isSp with
    | none => exact range
    | some s => exact ⟨hw, decide_eq_true (signed_range neg (scaledNew_range _ _ _ _ _ _ hs))⟩
  | none =>
    cases InfOrder.ofUnit u with
    | some o =>
      exact ite_rec (fun _ => range) fun hs => ⟨hw, decide_eq_true (signed_range neg ⟨by omega, by omega⟩)⟩
    | none => exact Located.err rfl hw h

/-- `src` is the text from the start of the number: the spans lie in it, and the rest is a
suffix of what the digit loop left. -/
theorem lexNumber_located {src : List Char} (neg : Bool) (cs : List Char) (hst : cs <:+ src) :
    Located src (scanDigits 0 cs).2 (lexNumber src neg cs) := by
  unfold lexNumber
  have hd := (scanDigits_suffix cs 0).trans hst
  generalize scanDigits 0 cs = p at hd
  obtain ⟨n, r1⟩ := p
  cases r1 with
  | nil => exact lexInt_located neg n [] hd
  | cons c r2 =>
    refine ite_rec (fun _ => ?_) fun _ =>
      ite_rec (fun _ => lexUnit_located neg n [] _ hd) fun _ => lexInt_located neg n _ hd
    have hf := (scanFrac_suffix r2).trans (List.suffix_cons c r2)
    generalize scanFrac r2 = q at hf
    obtain ⟨ds, r3⟩ := q
    cases r3 with
    | nil => exact Located.err rfl (List.suffix_refl _) List.nil_suffix
    | cons c' r4 =>
      have h3 := hf.trans hd
      exact ite_rec (fun _ => (lexUnit_located neg n ds _ h3).mono hf) fun _ =>
        ite_rec (fun _ => Located.err rfl (List.suffix_cons c' r4) h3) fun _ =>
          Located.err rfl (List.suffix_cons c' r4) h3

/-- What one call of `Lexer::next` at `c :: r` may return: the rest is a suffix of `r`, a
token is one the printer can write, the span of an error is a range of `c :: r`. -/
def Step.Located (c : Char) (r : List Char) : Step → Prop
  | .skip r' => r' <:+ r
  | .tok t r' => r' <:+ r ∧ tokOk t = true
  | .err e => e.Within (c :: r)
  | .stop => True

theorem ofRes_located {c : Char} {r cs : List Char} {x : Res (BTok × List Char)}
    (h : Located (c :: r) cs x) (hcs : cs <:+ r) : (Step.ofRes x).Located c r := by
  match x, h with
  | .ok (t, r'), h => exact ⟨h.1.trans hcs, h.2⟩
  | .err e, .inl h => rw [h]; trivial
  | .err e, .inr h =>
    cases e with
    | unterminatedString => trivial
    | _ => exact h
  | .unsupported, _ => trivial

theorem lexStep_located (c : Char) (r : List Char) : (lexStep c r).Located c r := by
  have punct : ∀ t, tokOk t = true → Step.Located c r (.tok t r) := fun t h => ⟨List.suffix_refl r, h⟩
  have hr := List.suffix_cons c r
  unfold lexStep
  refine ite_rec (fun _ => dropLine_suffix r) fun _ => ?_
  refine ite_rec (fun _ => List.suffix_refl r) fun _ => ?_
  refine ite_rec (fun _ => punct _ rfl) fun _ => ite_rec (fun _ => punct _ rfl) fun _ => ?_
  refine ite_rec (fun _ => punct _ rfl) fun _ => ite_rec (fun _ => punct _ rfl) fun _ => ?_
  refine ite_rec (fun _ => punct _ rfl) fun _ => ite_rec (fun _ => punct _ rfl) fun _ => ?_
  refine ite_rec (fun _ => ofRes_located (scanStr_located r .norm hr trivial)
    (List.suffix_refl r)) fun _ => ?_
  refine ite_rec (fun _ => ofRes_located (lexNumber_located true r hr) (scanDigits_suffix r 0)) fun _ => ?_
  refine ite_rec (fun hd => ofRes_located (lexNumber_located false _ (List.suffix_refl _))
    (scanDigits_suffix_tail hd r 0)) fun _ => ?_
  refine ite_rec (fun ha => ?_) fun _ => ⟨_, _, rfl, hr, List.suffix_refl _⟩
  have hw := scanWord_suffix r
  have ha' := scanWord_all r
  generalize scanWord r = p at hw ha'
  exact ⟨hw, by simp only [tokOk, isWord, ha, ha', Bool.and_self]⟩

theorem lexStep_shorter (c : Char) (r : List Char) :
    (∀ r', lexStep c r = .skip r' → r'.length ≤ r.length) ∧
    (∀ t r', lexStep c r = .tok t r' → r'.length ≤ r.length) := by
  have h := lexStep_located c r
  exact ⟨fun r' e => by rw [e] at h; exact h.length_le,
    fun t r' e => by rw [e] at h; exact h.1.length_le⟩

/-- What `lex` returns on `s`: tokens the printer can write, or an error of one of the six
located classes whose span is a range of `s`; the fuel does not run out. -/
def LexSpec (s : List Char) : Res (List BTok) → Prop
  | .ok toks => toksOk toks = true
  | .err e => e.Within s
  | .unsupported => False

theorem LexErr.Within.mono {s s' : List Char} {e : LexErr} (h : s <:+ s') : e.Within s → e.Within s'
  | ⟨f, t, hs, ht, hf⟩ => ⟨f, t, hs, ht, hf.trans h⟩

theorem LexSpec.mono {s s' : List Char} (h : s <:+ s') : ∀ {x : Res (List BTok)}, LexSpec s x → LexSpec s' x
  | .ok _, hx => hx
  | .err _, hx => LexErr.Within.mono h hx

theorem LexSpec.cons {s : List Char} {t : BTok} (ht : tokOk t = true) :
    ∀ {x : Res (List BTok)}, LexSpec s x → LexSpec s (x.cons t)
  | .ok _, hx => (Bool.and_eq_true _ _).mpr ⟨ht, hx⟩
  | .err _, hx => hx

theorem lexAux_mono : ∀ (f : Nat) (s : List Char), lexAux f s ≠ .unsupported →
    ∀ g, f ≤ g → lexAux g s = lexAux f s
  | 0, _, h, _, _ => absurd rfl h
  | _ + 1, _, _, 0, hg => absurd hg (Nat.not_succ_le_zero _)
  | _ + 1, [], _, _ + 1, _ => rfl
  | f + 1, c :: r, h, g + 1, hg => by
    simp only [lexAux] at h ⊢
    generalize lexStep c r = st at h ⊢
    cases st with
    | skip r' => exact lexAux_mono f r' h g (Nat.le_of_succ_le_succ hg)
    | tok t r' =>
      exact congrArg (Res.cons t)
        (lexAux_mono f r' (fun e => h (congrArg (Res.cons t) e)) g (Nat.le_of_succ_le_succ hg))
    | err e | stop => rfl

theorem lexAux_spec : ∀ (f : Nat) (s : List Char), s.length < f → LexSpec s (lexAux f s)
  | 0, _, h => absurd h (Nat.not_lt_zero _)
  | _ + 1, [], _ => rfl
  | f + 1, c :: r, h => by
    have tail : ∀ r', r' <:+ r → LexSpec (c :: r) (lexAux f r') := fun r' hr =>
      (lexAux_spec f r' (Nat.lt_of_le_of_lt hr.length_le (Nat.lt_of_succ_lt_succ h))).mono
        (suffix_cons_of c hr)
    have hl := lexStep_located c r
    simp only [lexAux]
    generalize lexStep c r = st at hl ⊢
    cases st with
    | skip r' => exact tail r' hl
    | tok t r' => exact (tail r' hl.1).cons hl.2
    | err e => exact hl
    | stop => rfl

theorem lex_spec (s : List Char) : LexSpec s (lex s) := lexAux_spec _ s (Nat.lt_succ_self _)

theorem lex_fuel (s : List Char) (f : Nat) (hf : s.length < f) : lexAux f s = lex s :=
  lexAux_mono _ s (fun e => by have := lex_spec s; rw [lex, e] at this; exact this) f hf

theorem lex_cons (c : Char) (r : List Char) :
    lex (c :: r) =
      match lexStep c r with
      | .skip r' => lex r'
      | .tok t r' => (lex r').cons t
      | .err e => .err e
      | .stop => .ok [] := by
  have hl := lexStep_located c r
  rw [lex, List.length_cons, lexAux]
  generalize lexStep c r = st at hl ⊢
  cases st with
  | skip r' => exact lex_fuel r' _ (Nat.lt_succ_of_le hl.length_le)
  | tok t r' => exact congrArg (Res.cons t) (lex_fuel r' _ (Nat.lt_succ_of_le hl.1.length_le))
  | err e | stop => rfl

theorem lex_nil : lex [] = .ok [] := rfl

end C18
