import TexcraftModel.Lemmas.C20AList

/-!
# C20 — the scoped map (`GMap`) refines the stack of snapshots (`Snap`)

The invariant `Inv` and its preservation (`insert` is first given in closed form, `GMap.insert_eq`:
what it does to the logs is `logInsert`, for a local insert `logLocal`); one-step and
whole-history refinement; `iterAll` never panics under `Inv`; `fromIter (iterAll m)` has the same
abstraction (hence the same behaviour) as `m`.
-/

namespace C20
open Snap (fupd)

variable {K V : Type} [DecidableEq K]

/-- A `Delete` entry for `k` in a group means that no outer group logs `k`. -/
def GroupsOK : List (AList K (Action V)) → Prop
  | [] => True
  | g :: gs => (∀ k, alookup g k = some .delete → ∀ g' ∈ gs, alookup g' k = none) ∧ GroupsOK gs

structure Inv (m : GMap K V) : Prop where
  /-- keys of the backing container are distinct -/
  bcNodup : NodupKeys m.bc
  /-- keys of every group log are distinct -/
  logsNodup : ∀ g ∈ m.groups, NodupKeys g
  /-- every logged key is visible -/
  visible : ∀ g ∈ m.groups, ∀ k, (alookup g k).isSome → (alookup m.bc k).isSome
  groupsOK : GroupsOK m.groups

/-- What `Inv` says of the group logs, relative to the snapshot `s` they are to be undone on
(`s` = the lookup in the backing container for the whole list, an outer snapshot for a suffix). -/
structure GOK (s : K → Option V) (gs : List (AList K (Action V))) : Prop where
  ok : GroupsOK gs
  nodup : ∀ g ∈ gs, NodupKeys g
  vis : ∀ g ∈ gs, ∀ k, (alookup g k).isSome → (s k).isSome

theorem Inv.gok {m : GMap K V} (h : Inv m) : GOK (fun k => alookup m.bc k) m.groups :=
  ⟨h.groupsOK, h.logsNodup, h.visible⟩

theorem Inv.of_gok {bc : AList K V} {gs : List (AList K (Action V))} (hb : NodupKeys bc)
    (hg : GOK (fun k => alookup bc k) gs) : Inv { bc := bc, groups := gs } :=
  ⟨hb, hg.nodup, hg.vis, hg.ok⟩

theorem inv_empty : Inv (GMap.empty : GMap K V) :=
  ⟨nodupKeys_nil, nofun, nofun, trivial⟩

theorem Inv.not_logged {m : GMap K V} (h : Inv m) {k : K} (hk : alookup m.bc k = none) :
    ∀ g ∈ m.groups, alookup g k = none := by
  intro g hg
  cases hl : alookup g k with
  | none => rfl
  | some a =>
    have hv := h.visible g hg k (by rw [hl]; rfl)
    rw [hk] at hv
    cases hv

/-- What a log entry restores. -/
def savedOf : Action V → Option V
  | .delete => none
  | .revert old => some old

theorem undo_of_not_logged (g : AList K (Action V)) (f : K → Option V) (k : K)
    (h : alookup g k = none) : undo g f k = f k := by
  simp only [undo, h]

theorem undo_cons_fupd (a : K) (act : Action V) (t : AList K (Action V)) (f : K → Option V)
    (ha : alookup t a = none) : undo t (fupd f a (savedOf act)) = undo ((a, act) :: t) f := by
  funext k
  simp only [undo, alookup_cons, fupd]
  by_cases h : a = k
  · subst h
    simp only [ha, if_true]
    cases act <;> rfl
  · simp only [if_neg h]

theorem logged_tail_visible {a : K} {act : Action V} {t : AList K (Action V)} {s : K → Option V}
    (ha : alookup t a = none) (hv : ∀ k, (alookup ((a, act) :: t) k).isSome → (s k).isSome)
    (o : Option V) : ∀ k, (alookup t k).isSome → (fupd s a o k).isSome := by
  intro k hk
  have hne : ¬ a = k := fun e => by rw [← e, ha] at hk; cases hk
  rw [fupd, if_neg hne]
  exact hv k (by rw [alookup_cons, if_neg hne]; exact hk)

theorem cur_applyLog (g : AList K (Action V)) (bc : AList K V) (hg : NodupKeys g) :
    (fun k => alookup (GMap.applyLog g bc) k) = undo g (fun k => alookup bc k) := by
  induction g generalizing bc with
  | nil => rfl
  | cons p t ih =>
    obtain ⟨a, act⟩ := p
    rw [nodupKeys_cons] at hg
    rw [← undo_cons_fupd a act t _ hg.1]
    cases act with
    | delete => exact (ih _ hg.2).trans (congrArg (undo t) (funext (alookup_aerase a bc)))
    | revert v => exact (ih _ hg.2).trans (congrArg (undo t) (funext (alookup_ainsert a v bc)))

theorem nodupKeys_applyLog (g : AList K (Action V)) (bc : AList K V) (h : NodupKeys bc) :
    NodupKeys (GMap.applyLog g bc) := by
  induction g generalizing bc with
  | nil => exact h
  | cons p t ih =>
    obtain ⟨a, act⟩ := p
    cases act with
    | delete => exact ih _ (nodupKeys_aerase a bc h)
    | revert v => exact ih _ (nodupKeys_ainsert a v bc h)

theorem GOK.tail {s : K → Option V} {g : AList K (Action V)} {gs : List (AList K (Action V))}
    (h : GOK s (g :: gs)) : GOK (undo g s) gs := by
  refine ⟨h.ok.2, fun g' hg' => h.nodup g' (List.mem_cons_of_mem _ hg'), fun g' hg' k hk => ?_⟩
  have hv := h.vis g' (List.mem_cons_of_mem _ hg') k hk
  simp only [undo]
  cases hgk : alookup g k with
  | none => exact hv
  | some act =>
    cases act with
    | revert v => rfl
    | delete =>
      -- what `GroupsOK` is for: a `Delete` entry stands only in the outermost group that logs the key
      rw [h.ok.1 k hgk g' hg'] at hk
      cases hk

/-- What a local insert of `k` leaves in the innermost log, `old` being the value visible before:
the two `Some(group)` arms of the `match` in `insert`. An existing entry is kept. -/
def logLocal (k : K) (old : Option V) (g : AList K (Action V)) : AList K (Action V) :=
  match old with
  | none => ainsert k .delete g
  | some o =>
    match alookup g k with
    | none => ainsert k (.revert o) g
    | some _ => g

/-- What `insert` makes of the group logs, `old` being the value visible before: a global insert
purges `k` from every log, a local one records it in the innermost. -/
def logInsert (k : K) (old : Option V) :
    Scope → List (AList K (Action V)) → List (AList K (Action V))
  | .glob, gs => gs.map (aerase k)
  | .loc, [] => []
  | .loc, g :: gs => logLocal k old g :: gs

theorem GMap.insert_eq (m : GMap K V) (k : K) (v : V) (s : Scope) :
    m.insert k v s =
      ({ bc := ainsert k v m.bc, groups := logInsert k (alookup m.bc k) s m.groups },
        (alookup m.bc k).isSome) := by
  obtain ⟨bc, gs⟩ := m
  unfold GMap.insert
  cases s <;> cases alookup bc k <;> cases gs <;> rfl

theorem nodupKeys_logLocal (k : K) (old : Option V) (g : AList K (Action V))
    (h : NodupKeys g) : NodupKeys (logLocal k old g) := by
  cases old with
  | none => exact nodupKeys_ainsert k _ g h
  | some o =>
    unfold logLocal
    cases alookup g k with
    | none => exact nodupKeys_ainsert k _ g h
    | some _ => exact h

theorem alookup_logLocal (k : K) (old : Option V) (g : AList K (Action V)) (k' : K) :
    alookup (logLocal k old g) k' = if k = k' then some (match alookup g k, old with
      | some a, some _ => a
      | _, some o => .revert o
      | _, none => .delete) else alookup g k' := by
  cases old with
  | none => rw [logLocal, alookup_ainsert]; cases alookup g k <;> rfl
  | some o =>
    unfold logLocal
    cases hg : alookup g k with
    | none => rw [alookup_ainsert]
    | some a =>
      by_cases hk : k = k'
      · rw [if_pos hk, ← hk, hg]
      · rw [if_neg hk]

theorem undo_logLocal (k : K) (v : V) (g : AList K (Action V)) (f : K → Option V)
    (hvis : (alookup g k).isSome → (f k).isSome) :
    undo (logLocal k (f k) g) (fupd f k (some v)) = undo g f := by
  funext k'
  by_cases hk : k = k'
  · subst hk
    simp only [undo, alookup_logLocal, if_pos]
    cases hg : alookup g k with
    | none => cases f k <;> rfl
    | some a =>
      cases hf : f k with
      | none => rw [hg, hf] at hvis; cases hvis rfl
      | some o => cases a <;> rfl
  · simp only [undo, alookup_logLocal, fupd, if_neg hk]

theorem groupsOK_map_aerase (k : K) (gs : List (AList K (Action V))) (h : GroupsOK gs) :
    GroupsOK (gs.map (aerase k)) := by
  induction gs with
  | nil => trivial
  | cons g gs ih =>
    simp only [List.map_cons, GroupsOK]
    refine ⟨?_, ih h.2⟩
    intro k'' hk'' g' hg'
    rw [List.mem_map] at hg'
    obtain ⟨g0, hg0, rfl⟩ := hg'
    rw [alookup_aerase] at hk'' ⊢
    by_cases hk : k = k''
    · simp [hk]
    · simp only [hk, if_false] at hk'' ⊢
      exact h.1 k'' hk'' g0 hg0

theorem inv_insert (m : GMap K V) (k : K) (v : V) (s : Scope) (h : Inv m) :
    Inv (m.insert k v s).1 := by
  obtain ⟨bc, groups⟩ := m
  rw [GMap.insert_eq]
  have hbc := nodupKeys_ainsert k v bc h.bcNodup
  cases s with
  | glob =>
    refine ⟨hbc, List.forall_mem_map.2 fun g hg => nodupKeys_aerase _ _ (h.logsNodup g hg),
      List.forall_mem_map.2 fun g hg k' hk' => ?_, groupsOK_map_aerase k _ h.groupsOK⟩
    rw [alookup_aerase] at hk'
    split at hk'
    · cases hk'
    · exact isSome_alookup_ainsert k v (h.visible g hg k' hk')
  | loc =>
    cases groups with
    | nil => exact ⟨hbc, nofun, nofun, trivial⟩
    | cons g gs =>
      have hg := List.mem_cons_self (a := g) (l := gs)
      refine ⟨hbc, List.forall_mem_cons.2 ⟨nodupKeys_logLocal k _ g (h.logsNodup g hg), ?_⟩,
        List.forall_mem_cons.2 ⟨?_, ?_⟩, ?_, h.groupsOK.2⟩
      · exact fun g' hg' => h.logsNodup g' (List.mem_cons_of_mem _ hg')
      · intro k' hk'
        by_cases hk : k = k'
        · rw [alookup_ainsert, if_pos hk]; rfl
        · rw [alookup_logLocal, if_neg hk] at hk'
          exact isSome_alookup_ainsert k v (h.visible g hg k' hk')
      · exact fun g' hg' k' hk' =>
          isSome_alookup_ainsert k v (h.visible g' (List.mem_cons_of_mem _ hg') k' hk')
      · intro k' hk' g' hg'
        by_cases hk : k = k'
        · subst hk
          -- the new entry is `Delete` only if `k` was not visible, hence logged nowhere
          rw [alookup_logLocal, if_pos rfl] at hk'
          cases hb : alookup bc k with
          | none => exact h.not_logged hb g' (List.mem_cons_of_mem _ hg')
          | some o =>
            rw [hb] at hk'
            cases hgk : alookup g k with
            | none => rw [hgk] at hk'; cases hk'
            | some a =>
              rw [hgk] at hk'
              exact h.groupsOK.1 k (hgk.trans hk') g' hg'
        · rw [alookup_logLocal, if_neg hk] at hk'
          exact h.groupsOK.1 k' hk' g' hg'

theorem inv_beginGroup (m : GMap K V) (h : Inv m) : Inv m.beginGroup :=
  ⟨h.bcNodup, List.forall_mem_cons.2 ⟨nodupKeys_nil, h.logsNodup⟩,
    List.forall_mem_cons.2 ⟨nofun, h.visible⟩, nofun, h.groupsOK⟩

theorem inv_endGroup (bc : AList K V) (g : AList K (Action V)) (gs : List (AList K (Action V)))
    (h : Inv { bc := bc, groups := g :: gs }) :
    Inv { bc := GMap.applyLog g bc, groups := gs } :=
  Inv.of_gok (nodupKeys_applyLog g bc h.bcNodup)
    (cur_applyLog g bc (h.logsNodup g List.mem_cons_self) ▸ h.gok.tail)

theorem gmap_inv (m : GMap K V) (op : Op K V) (h : Inv m) : Inv (m.step op).1 := by
  cases op with
  | insert k v s => exact inv_insert m k v s h
  | beginGroup => exact inv_beginGroup m h
  | endGroup =>
    obtain ⟨bc, groups⟩ := m
    cases groups with
    | nil => exact h
    | cons g gs => exact inv_endGroup bc g gs h
  | get k => exact h

omit [DecidableEq K] in
theorem snap_ext {s t : Snap K V} (h1 : s.cur = t.cur) (h2 : s.saved = t.saved) : s = t := by
  cases s; cases t; simp_all

theorem cur_ainsert (k : K) (v : V) (bc : AList K V) :
    (fun k' => alookup (ainsert k v bc) k') = fupd (fun k' => alookup bc k') k (some v) := by
  funext k'; simp only [fupd, alookup_ainsert]

theorem undo_aerase_fupd (k : K) (g : AList K (Action V)) (f : K → Option V) (o : Option V) :
    undo (aerase k g) (fupd f k o) = fupd (undo g f) k o := by
  funext k'
  simp only [undo, fupd, alookup_aerase]
  by_cases h : k = k' <;> simp [h]

theorem absGroups_glob (k : K) (o : Option V) (gs : List (AList K (Action V)))
    (f : K → Option V) :
    absGroups (fupd f k o) (gs.map (aerase k)) = (absGroups f gs).map (fun s => fupd s k o) := by
  induction gs generalizing f with
  | nil => rfl
  | cons g gs ih => simp only [List.map_cons, absGroups, undo_aerase_fupd, ih]

theorem gmap_refines (m : GMap K V) (op : Op K V) (h : Inv m) :
    (m.step op).1.abs = (m.abs.step op).1 ∧ (m.step op).2 = (m.abs.step op).2 := by
  obtain ⟨bc, groups⟩ := m
  cases op with
  | insert k v s =>
    cases s with
    | glob =>
      simp only [GMap.step, GMap.insert_eq, logInsert, Snap.step, GMap.abs]
      exact ⟨snap_ext (cur_ainsert k v bc) (by simp only [cur_ainsert, absGroups_glob]), trivial⟩
    | loc =>
      cases groups with
      | nil =>
        simp only [GMap.step, GMap.insert_eq, logInsert, Snap.step, GMap.abs]
        exact ⟨snap_ext (cur_ainsert k v bc) rfl, trivial⟩
      | cons g gs =>
        have hu := undo_logLocal k v g (fun k => alookup bc k) (h.visible g List.mem_cons_self k)
        simp only [GMap.step, GMap.insert_eq, logInsert, Snap.step, GMap.abs, absGroups, cur_ainsert, hu]
        exact ⟨trivial, trivial⟩
  | beginGroup => exact ⟨rfl, rfl⟩
  | endGroup =>
    cases groups with
    | nil => exact ⟨rfl, rfl⟩
    | cons g gs =>
      simp only [GMap.step, GMap.endGroup, Snap.step, GMap.abs, absGroups,
        cur_applyLog g bc (h.logsNodup g List.mem_cons_self)]
      exact ⟨trivial, trivial⟩
  | get k => exact ⟨rfl, rfl⟩

/-- `m` implements the stack of snapshots `s`: it satisfies the invariant and abstracts to `s`. -/
def GImpl (m : GMap K V) (s : Snap K V) : Prop := Inv m ∧ m.abs = s

theorem gimpl_empty : GImpl (GMap.empty : GMap K V) Snap.init := ⟨inv_empty, rfl⟩

theorem length_absGroups (f : K → Option V) (gs : List (AList K (Action V))) :
    (absGroups f gs).length = gs.length := by
  induction gs generalizing f with
  | nil => rfl
  | cons g t ih => simp only [absGroups, List.length_cons, ih]

theorem GImpl.depth {m : GMap K V} {s : Snap K V} (h : GImpl m s) :
    m.groups.length = s.saved.length :=
  h.2 ▸ (length_absGroups _ m.groups).symm

theorem GImpl.step {m : GMap K V} {s : Snap K V} (h : GImpl m s) (op : Op K V) :
    GImpl (m.step op).1 (s.step op).1 ∧ (m.step op).2 = (s.step op).2 := by
  obtain ⟨hi, rfl⟩ := h
  exact ⟨⟨gmap_inv m op hi, (gmap_refines m op hi).1⟩, (gmap_refines m op hi).2⟩

theorem GImpl.run {m : GMap K V} {s : Snap K V} (h : GImpl m s) (ops : List (Op K V)) :
    GImpl (m.run ops).1 (s.run ops).1 ∧ (m.run ops).2 = (s.run ops).2 := by
  induction ops generalizing m s with
  | nil => exact ⟨h, rfl⟩
  | cons op ops ih =>
    obtain ⟨h1, h2⟩ := h.step op
    obtain ⟨i1, i2⟩ := ih h1
    exact ⟨i1, by simp only [GMap.run, Snap.run, h2, i2]⟩

theorem gmap_refines_run (ops : List (Op K V)) :
    ((GMap.empty : GMap K V).run ops).2 = (Snap.init.run ops).2 ∧
      ((GMap.empty : GMap K V).run ops).1.abs = (Snap.init.run ops).1 :=
  ⟨(gimpl_empty.run ops).2, (gimpl_empty.run ops).1.2⟩

/-- What `key_to_val` (`ktv`) makes of the visible values `f`. -/
def view (ktv : AList K (Option V)) (f : K → Option V) : K → Option V :=
  fun k => match alookup ktv k with
    | none => f k
    | some o => o

theorem view_ainsert (k : K) (o : Option V) (ktv : AList K (Option V)) (f : K → Option V) :
    view (ainsert k o ktv) f = fupd (view ktv f) k o := by
  funext k'
  simp only [view, fupd, alookup_ainsert]
  by_cases h : k = k' <;> simp [h]

theorem iterGroup_cons (bc : AList K V) (a : K) (act : Action V) (t : AList K (Action V))
    (ktv : AList K (Option V)) :
    GMap.iterGroup bc ((a, act) :: t) ktv =
      match view ktv (fun k => alookup bc k) a with
      | none => .panic
      | some v =>
        match GMap.iterGroup bc t (ainsert a (savedOf act) ktv) with
        | .ok (ktv', items) => .ok (ktv', .value a v :: items)
        | .panic => .panic
        | .fuel => .fuel := by
  cases act <;> rfl

/-- What `FromIterator` does with one item, on the specification: `begin_group`, or a local insert. -/
def specFeed (s : Snap K V) : Item K V → Snap K V
  | .beginGroup => (s.step .beginGroup).1
  | .value k v => (s.step (.insert k v .loc)).1

def specFeedAll (s : Snap K V) (items : List (Item K V)) : Snap K V := items.foldl specFeed s

theorem specFeedAll_nil (s : Snap K V) : specFeedAll s [] = s := rfl

theorem specFeedAll_cons (s : Snap K V) (i : Item K V) (l : List (Item K V)) :
    specFeedAll s (i :: l) = specFeedAll (specFeed s i) l := rfl

theorem specFeedAll_append (s : Snap K V) (a b : List (Item K V)) :
    specFeedAll s (a ++ b) = specFeedAll (specFeedAll s a) b := by
  simp only [specFeedAll, List.foldl_append]

theorem specFeed_value (c : K → Option V) (S : List (K → Option V)) (k : K) (v : V) :
    specFeed { cur := c, saved := S } (.value k v) = { cur := fupd c k (some v), saved := S } :=
  rfl

theorem specFeed_beginGroup (c : K → Option V) (S : List (K → Option V)) :
    specFeed { cur := c, saved := S } (.beginGroup : Item K V) = { cur := c, saved := c :: S } :=
  rfl

/-- The operation that `FromIterator` performs for one item. -/
def Item.op : Item K V → Op K V
  | .beginGroup => .beginGroup
  | .value k v => .insert k v .loc

theorem specFeed_eq (s : Snap K V) (i : Item K V) : specFeed s i = (s.step i.op).1 := by
  cases i <;> rfl

theorem GMap.feed_eq (m : GMap K V) (i : Item K V) : m.feed i = (m.step i.op).1 := by
  cases i <;> rfl

theorem GImpl.feedAll {m : GMap K V} {s : Snap K V} (h : GImpl m s) (items : List (Item K V)) :
    GImpl (items.foldl GMap.feed m) (specFeedAll s items) :=
  List.foldl_rel h fun i _ m s hms => by
    rw [GMap.feed_eq, specFeed_eq]
    exact (hms.step i.op).1

theorem fupd_self (c : K → Option V) (a : K) : fupd c a (c a) = c := by
  funext k
  by_cases h : a = k <;> simp [fupd, h]

theorem fupd_fupd_self (s : K → Option V) (a : K) (x : Option V) :
    fupd (fupd s a x) a (s a) = s := by
  funext k
  by_cases h : a = k <;> simp [fupd, h]

/-- The inner loop does not panic and moves the view one group outwards; replayed backwards its
pushes undo that move. -/
theorem iterGroup_spec (bc : AList K V) (g : AList K (Action V)) (ktv : AList K (Option V))
    (hg : NodupKeys g)
    (hs : ∀ k, (alookup g k).isSome → (view ktv (fun k => alookup bc k) k).isSome) :
    ∃ ktv' items, GMap.iterGroup bc g ktv = .ok (ktv', items) ∧
      view ktv' (fun k => alookup bc k) = undo g (view ktv (fun k => alookup bc k)) ∧
      ∀ S, specFeedAll { cur := view ktv' (fun k => alookup bc k), saved := S } items.reverse =
        { cur := view ktv (fun k => alookup bc k), saved := S } := by
  induction g generalizing ktv with
  | nil => exact ⟨ktv, [], rfl, rfl, fun _ => rfl⟩
  | cons p t ih =>
    obtain ⟨a, act⟩ := p
    rw [nodupKeys_cons] at hg
    have ha := hs a (by rw [alookup_cons, if_pos rfl]; rfl)
    have hview1 := view_ainsert a (savedOf act) ktv (fun k => alookup bc k)
    cases hv : view ktv (fun k => alookup bc k) a with
    | none => rw [hv] at ha; cases ha
    | some v =>
      obtain ⟨ktv', items, h1, h2, h3⟩ := ih (ainsert a (savedOf act) ktv) hg.2
        (hview1 ▸ logged_tail_visible hg.1 hs _)
      refine ⟨ktv', .value a v :: items, by rw [iterGroup_cons, hv]; simp only [h1], ?_, fun S => ?_⟩
      · rw [h2, hview1, undo_cons_fupd a act t _ hg.1]
      · -- the last item fed back is `a` with the value the view showed before the entry was applied
        rw [List.reverse_cons, specFeedAll_append, h3, hview1, specFeedAll_cons, specFeed_value,
          specFeedAll_nil, ← hv, fupd_fupd_self]

/-- Replaying the first phase of `IterAll::next`: every key of `l` gets what `ktv` makes of its
value (nothing, if `ktv` hides it). -/
theorem specFeedAll_visibleItems (ktv : AList K (Option V)) (l : AList K V) (hl : NodupKeys l)
    (c : K → Option V) (S : List (K → Option V)) :
    specFeedAll { cur := c, saved := S } (GMap.visibleItems ktv l) =
      { cur := fun k => if (alookup l k).isSome then (view ktv (fun k => alookup l k) k).or (c k)
          else c k, saved := S } := by
  induction l generalizing c with
  | nil => rfl
  | cons p t ih =>
    obtain ⟨a, v⟩ := p
    rw [nodupKeys_cons] at hl
    -- whichever of the three arms is taken, `a` ends up with its view `o`, or else keeps `c a`
    have key : ∀ o : Option V, view ktv (fun _ => some v) a = o →
        specFeedAll { cur := fupd c a (o.or (c a)), saved := S } (GMap.visibleItems ktv t) =
          { cur := fun k => if (alookup ((a, v) :: t) k).isSome
              then (view ktv (fun k => alookup ((a, v) :: t) k) k).or (c k) else c k, saved := S } := by
      intro o ho
      rw [ih hl.2]
      refine snap_ext (funext fun k => ?_) rfl
      by_cases h : a = k
      · subst h; simp [hl.1, ← ho, fupd, alookup_cons, view]
      · simp [view, fupd, alookup_cons, h]
    rw [GMap.visibleItems]
    cases hk : alookup ktv a with
    | none => exact key (some v) (by simp only [view, hk])
    | some o =>
      cases o with
      | none =>
        have := key none (by simp only [view, hk])
        rwa [Option.none_or, fupd_self] at this
      | some w => exact key (some w) (by simp only [view, hk])

/-- The outer loop does not panic; replayed backwards on a specification state that shows the
snapshot it ends on, its pushes rebuild the snapshot it started from and one saved snapshot per
group; a key that no group logs keeps its view. -/
theorem iterGroups_spec (bc : AList K V) (gs : List (AList K (Action V)))
    (ktv : AList K (Option V)) (h : GOK (view ktv (fun k => alookup bc k)) gs) :
    ∃ ktvF pushed, GMap.iterGroups bc gs ktv = .ok (ktvF, pushed) ∧
      (∀ k, (∀ g ∈ gs, alookup g k = none) →
        view ktvF (fun k => alookup bc k) k = view ktv (fun k => alookup bc k) k) ∧
      ∀ t : Snap K V, t.cur = view ktvF (fun k => alookup bc k) →
        specFeedAll t pushed.reverse =
          { cur := view ktv (fun k => alookup bc k),
            saved := absGroups (view ktv (fun k => alookup bc k)) gs ++ t.saved } := by
  induction gs generalizing ktv with
  | nil => exact ⟨ktv, [], rfl, fun _ _ => rfl, fun t ht => snap_ext ht rfl⟩
  | cons g gs ih =>
    have hg := List.mem_cons_self (a := g) (l := gs)
    obtain ⟨ktv1, vals, h1, h2, hv⟩ := iterGroup_spec bc g ktv (h.nodup g hg) (h.vis g hg)
    obtain ⟨ktvF, rest, h3, h4, h5⟩ := ih ktv1 (h2 ▸ h.tail)
    refine ⟨ktvF, vals ++ .beginGroup :: rest, by simp only [GMap.iterGroups, h1, h3],
      fun k hk => ?_, fun t ht => ?_⟩
    · rw [h4 k fun g' hg' => hk g' (List.mem_cons_of_mem _ hg'), h2,
        undo_of_not_logged g _ k (hk g hg)]
    · simp only [List.reverse_append, List.reverse_cons, specFeedAll_append, h5 t ht,
        specFeedAll_cons, specFeedAll_nil, specFeed_beginGroup, hv]
      rw [h2]
      rfl

theorem iterAll_spec (m : GMap K V) (h : Inv m) :
    ∃ items, m.iterAll = .ok items ∧ specFeedAll Snap.init items = m.abs := by
  obtain ⟨bc, gs⟩ := m
  obtain ⟨ktvF, pushed, h1, h2, h3⟩ := iterGroups_spec bc gs [] h.gok
  refine ⟨GMap.visibleItems ktvF bc ++ pushed.reverse, by rw [GMap.iterAll, h1], ?_⟩
  rw [specFeedAll_append, Snap.init, specFeedAll_visibleItems ktvF bc h.bcNodup, h3 _ ?_]
  · exact congrArg (Snap.mk _) (List.append_nil _)
  · -- the visible items rebuild the outermost snapshot: a key that is not visible is logged nowhere
    funext k
    dsimp only
    cases hb : alookup bc k with
    | some v => exact (if_pos rfl).trans Option.or_none
    | none => exact (if_neg nofun).trans ((h2 k (h.not_logged hb)).trans hb).symm

/-- The two `unwrap`s in `iter_all` cannot fail. -/
theorem iterAll_total (m : GMap K V) (h : Inv m) : ∃ items, m.iterAll = .ok items := by
  obtain ⟨items, hi, _⟩ := iterAll_spec m h
  exact ⟨items, hi⟩

theorem GImpl.iterAll {m : GMap K V} {s : Snap K V} (h : GImpl m s) :
    ∃ items, m.iterAll = .ok items ∧ GImpl (GMap.fromIter items) s := by
  obtain ⟨items, hi, hs⟩ := iterAll_spec m h.1
  exact ⟨items, hi, hs.trans h.2 ▸ gimpl_empty.feedAll items⟩

theorem iterAll_roundtrip (m : GMap K V) (h : Inv m) :
    ∃ items, m.iterAll = .ok items ∧ (GMap.fromIter items).abs = m.abs ∧
      Inv (GMap.fromIter items) := by
  obtain ⟨items, hi, hf⟩ := GImpl.iterAll ⟨h, rfl⟩
  exact ⟨items, hi, hf.2, hf.1⟩

theorem iterAll_same_behaviour (m : GMap K V) (h : Inv m) (items : List (Item K V))
    (hi : m.iterAll = .ok items) (ops : List (Op K V)) :
    ((GMap.fromIter items).run ops).2 = (m.run ops).2 := by
  obtain ⟨items', hi', hf⟩ := GImpl.iterAll (s := m.abs) ⟨h, rfl⟩
  cases hi.symm.trans hi'
  exact (hf.run ops).2.trans (GImpl.run ⟨h, rfl⟩ ops).2.symm

end C20
