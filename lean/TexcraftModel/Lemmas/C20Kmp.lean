import TexcraftModel.Model.C20Kmp
import TexcraftModel.Lemmas.C20ListIdx

/-!
# C20 — KMP streaming matcher against its specification

Search state, table entry and the outcome of one `advance` are all said with one notion, `Longest`; the
`while` loop is one induction on its fuel (`fallback_ok`), which the table construction and the search
share. `Lemmas/C02Kmp.lean` takes `prefixFn_ok` and `next_ok` from here for the matcher on tokens.
-/
namespace C20.Kmp

variable {α : Type} [DecidableEq α]

/-- `n` is a matching length: the length-`n` prefix of `pat` is a suffix of `c`. -/
structure M (pat c : List α) (n : Nat) : Prop where
  le : n ≤ pat.length
  suffix : pat.take n <:+ c

omit [DecidableEq α] in
theorem M_succ_iff (pat c : List α) (x : α) (n : Nat) :
    M pat (c ++ [x]) (n + 1) ↔ M pat c n ∧ pat[n]? = some x := by
  constructor
  · rintro ⟨hn, hs⟩
    have hlt : n < pat.length := hn
    rw [List.take_succ_eq_append_getElem hlt,
      List.suffix_append_inj_of_length_eq (by simp)] at hs
    refine ⟨⟨by omega, hs.1⟩, ?_⟩
    rw [List.getElem?_eq_getElem hlt]
    simpa using hs.2
  · rintro ⟨⟨_, hs⟩, hx⟩
    obtain ⟨hlt, hx'⟩ := List.getElem?_eq_some_iff.1 hx
    refine ⟨hlt, ?_⟩
    rw [List.take_succ_eq_append_getElem hlt,
      List.suffix_append_inj_of_length_eq (by simp)]
    exact ⟨hs, by rw [hx']⟩

omit [DecidableEq α] in
theorem take_suffix_of_suffix {pat A B : List α} {n : Nat} (hn : pat.take n <:+ A) (hB : B <:+ A)
    (hle : n ≤ B.length) : pat.take n <:+ B :=
  List.suffix_of_suffix_length_le hn hB (Nat.le_trans (List.length_take_le n pat) hle)

omit [DecidableEq α] in
theorem M_le_length {pat c : List α} {n : Nat} (h : M pat c n) : n ≤ c.length := by
  have := h.suffix.length_le
  rw [List.length_take_of_le h.le] at this
  exact this

/-- `k` is the greatest matching length of `c` below `b`. The search state is the case `b = |pat|`
(`matchState_iff`), a table entry the case `c = pat.take (i + 1)`, `b = i + 1`, the outcome of one
`advance` the case `b = |pat| + 1`. -/
structure Longest (pat c : List α) (b k : Nat) : Prop where
  lt : k < b
  suffix : pat.take k <:+ c
  max : ∀ n, n < b → pat.take n <:+ c → n ≤ k

/-- The matcher state `q` after consuming `consumed`: the longest proper prefix of `pat`
that is a suffix of `consumed`. -/
def MatchState (pat consumed : List α) (q : Nat) : Prop :=
  q < pat.length ∧ pat.take q <:+ consumed ∧
    ∀ n, n < pat.length → pat.take n <:+ consumed → n ≤ q

omit [DecidableEq α] in
theorem matchState_nil (pat : List α) (h : 0 < pat.length) : MatchState pat [] 0 :=
  ⟨h, List.nil_suffix, fun _ hn hs =>
    List.length_take_of_le (Nat.le_of_lt hn) ▸ hs.length_le⟩

omit [DecidableEq α] in
theorem matchState_iff {pat c : List α} {q : Nat} : MatchState pat c q ↔ Longest pat c pat.length q :=
  ⟨fun ⟨h1, h2, h3⟩ => ⟨h1, h2, h3⟩, fun h => ⟨h.lt, h.suffix, h.max⟩⟩

omit [DecidableEq α] in
theorem Longest.mono {pat c : List α} {b b' k : Nat} (h : Longest pat c b k) (hk : k < b') (hb : b' ≤ b) :
    Longest pat c b' k :=
  ⟨hk, h.suffix, fun n hn => h.max n (Nat.lt_of_lt_of_le hn hb)⟩

omit [DecidableEq α] in
theorem Longest.nest {pat c : List α} {b k r : Nat} (h : Longest pat (pat.take k) b r) (hk : M pat c k)
    (hb : b ≤ k + 1) : Longest pat c b r :=
  ⟨h.lt, h.suffix.trans hk.suffix, fun n hn hs =>
    have hnk : n ≤ k := Nat.le_of_lt_succ (Nat.lt_of_lt_of_le hn hb)
    h.max n hn (take_suffix_of_suffix hs hk.suffix (by rw [List.length_take_of_le hk.le]; exact hnk))⟩

omit [DecidableEq α] in
theorem Longest.border {pat d : List α} {k : Nat} (a : α) (h : Longest pat d (pat.length + 1) k)
    (hd : d.length ≤ pat.length) : Longest pat (a :: d) (d.length + 1) k :=
  ⟨Nat.lt_succ_of_le (M_le_length ⟨Nat.le_of_lt_succ h.lt, h.suffix⟩), h.suffix.trans (List.suffix_cons a d),
    fun n hn hs => h.max n (Nat.lt_of_lt_of_le hn (Nat.succ_le_succ hd))
      (take_suffix_of_suffix hs (List.suffix_cons a d) (Nat.le_of_lt_succ hn))⟩

/-- How the loop of `advance` ends: at a matching length `k` of `c` above which no matching length can
be extended by `x`, and which is `0` unless it can be extended itself. -/
theorem Longest.step {pat c : List α} {x d : α} {k : Nat} (hM : M pat c k) (hd : pat[k]? = some d)
    (hmax : ∀ n, M pat c n → pat[n]? = some x → n ≤ k) (h0 : d ≠ x → k = 0) :
    Longest pat (c ++ [x]) (pat.length + 1) (if d = x then k + 1 else k) := by
  have hstep : ∀ n, n + 1 < pat.length + 1 → pat.take (n + 1) <:+ c ++ [x] → n ≤ k ∧ pat[n]? = some x :=
    fun n hn hs =>
      have h := (M_succ_iff pat c x n).1 ⟨Nat.le_of_lt_succ hn, hs⟩
      ⟨hmax n h.1 h.2, h.2⟩
  by_cases hdx : d = x
  · rw [if_pos hdx]
    have hk1 := (M_succ_iff pat c x k).2 ⟨hM, hdx ▸ hd⟩
    refine ⟨Nat.lt_succ_of_le hk1.le, hk1.suffix, fun n hn hs => ?_⟩
    cases n with
    | zero => exact Nat.zero_le _
    | succ n => exact Nat.succ_le_succ (hstep n hn hs).1
  · rw [if_neg hdx]
    have hk0 := h0 hdx
    subst hk0
    refine ⟨Nat.succ_pos _, List.nil_suffix, fun n hn hs => ?_⟩
    cases n with
    | zero => exact Nat.zero_le _
    | succ n =>
      obtain ⟨hnk, hxn⟩ := hstep n hn hs
      rw [Nat.le_zero.1 hnk, hd] at hxn
      exact absurd (Option.some.inj hxn) hdx

/-- `pf[i]` is the length of the longest proper border of `pat.take (i+1)`. -/
def TableOK (pat : List α) (pf : List Nat) : Prop :=
  ∀ i r, pf[i]? = some r → Longest pat (pat.take (i + 1)) (i + 1) r

theorem fallback_ok {pat : List α} {pf : List Nat} (hT : TableOK pat pf) {c : List α} {x : α}
    {fuel k : Nat} (hfuel : k < fuel) (hk : k < pat.length) (hpf : k ≤ pf.length) (hM : M pat c k)
    (hmax : ∀ n, M pat c n → pat[n]? = some x → n ≤ k) :
    ∃ k' d, fallback pat pf x fuel k = .ok k' ∧ pat[k']? = some d ∧
      Longest pat (c ++ [x]) (pat.length + 1) (if d = x then k' + 1 else k') := by
  induction fuel generalizing k with
  | zero => exact absurd hfuel (Nat.not_lt_zero k)
  | succ fuel ih =>
    cases k with
    | zero => exact ⟨0, pat[0], rfl, List.getElem?_eq_getElem hk,
        Longest.step hM (List.getElem?_eq_getElem hk) hmax fun _ => rfl⟩
    | succ k =>
      obtain ⟨d, hd⟩ : ∃ d, pat[k + 1]? = some d := ⟨_, List.getElem?_eq_getElem hk⟩
      by_cases hx : d = x
      · exact ⟨k + 1, d, by simp only [fallback, hd, if_pos hx], hd,
          Longest.step hM hd hmax fun h => absurd hx h⟩
      · -- fall back to the greatest matching length of `c` below `k + 1`
        obtain ⟨r, hr⟩ : ∃ r, pf[k]? = some r := ⟨_, List.getElem?_eq_getElem hpf⟩
        have hL := (hT k r hr).nest hM (Nat.le_succ _)
        have hrk : r ≤ k := Nat.le_of_lt_succ hL.lt
        obtain ⟨k', d', he, hd', hL'⟩ := ih (Nat.lt_of_le_of_lt hrk (Nat.lt_of_succ_lt_succ hfuel))
          (Nat.lt_of_le_of_lt hrk (Nat.lt_of_succ_lt hk)) (Nat.le_trans hrk (Nat.le_of_succ_le hpf))
          ⟨Nat.le_trans hrk (Nat.le_of_lt (Nat.lt_of_succ_lt hk)), hL.suffix⟩
          fun n hMn hxn => hL.max n
            (Nat.lt_of_le_of_ne (hmax n hMn hxn) fun e => hx (Option.some.inj (hd.symm.trans (e ▸ hxn))))
            hMn.suffix
        exact ⟨k', d', by simp only [fallback, hd, if_neg hx, hr, he], hd', hL'⟩

theorem advance_ok {pat : List α} {pf : List Nat} (hT : TableOK pat pf) {c : List α} {k : Nat}
    (hpf : k ≤ pf.length) (hq : Longest pat c pat.length k) (x : α) :
    ∃ k', advance pat pf x k = .ok k' ∧ Longest pat (c ++ [x]) (pat.length + 1) k' := by
  obtain ⟨k', d, he, hd, hL⟩ := fallback_ok hT (Nat.lt_succ_self k) hq.lt hpf
    ⟨Nat.le_of_lt hq.lt, hq.suffix⟩ fun n hn hx => hq.max n (List.getElem?_eq_some_iff.1 hx).1 hn.suffix
  exact ⟨_, by simp only [advance, he, hd], hL⟩

theorem next_ok {pat : List α} {pf : List Nat} (hT : TableOK pat pf)
    (hlen : pf.length = pat.length) {consumed : List α} {q : Nat} (hq : MatchState pat consumed q)
    (x : α) :
    ∃ q' b, next pat pf q x = .ok (q', b) ∧ (b = true ↔ pat <:+ consumed ++ [x]) ∧
      MatchState pat (consumed ++ [x]) q' := by
  have hq := matchState_iff.1 hq
  obtain ⟨k', he, hL⟩ := advance_ok hT (hlen ▸ Nat.le_of_lt hq.lt) hq x
  by_cases hk : k' = pat.length
  · -- the whole pattern matches: the new state is its longest proper border
    have hpos : 0 < pat.length := Nat.lt_of_le_of_lt (Nat.zero_le q) hq.lt
    have hpred : pat.length - 1 < pat.length := Nat.sub_lt hpos Nat.one_pos
    obtain ⟨r, hr⟩ : ∃ r, pf[pat.length - 1]? = some r := ⟨_, List.getElem?_eq_getElem (hlen ▸ hpred)⟩
    have hfull := hL.suffix
    have hB := hT _ _ hr
    rw [Nat.sub_add_cancel hpos] at hB
    rw [hk] at hfull
    refine ⟨_, true, by simp only [next, he, hk, hr, if_true], iff_of_true rfl ?_,
      matchState_iff.2 (hB.nest ⟨Nat.le_refl _, hfull⟩ (Nat.le_succ _))⟩
    rwa [List.take_length] at hfull
  · have hk'l : k' < pat.length := Nat.lt_of_le_of_ne (Nat.le_of_lt_succ hL.lt) hk
    refine ⟨k', false, by simp only [next, he, if_neg hk], iff_of_false nofun fun h => ?_,
      matchState_iff.2 (hL.mono hk'l (Nat.le_succ _))⟩
    exact Nat.not_le_of_lt hk'l (hL.max _ (Nat.lt_succ_self _) (by rwa [List.take_length]))

theorem buildPf_ok {pat : List α} {a : α} {rest d : List α} {pf : List Nat} {k : Nat}
    (hpat : pat = a :: d ++ rest) (hlen : pf.length = d.length + 1) (hT : TableOK pat pf)
    (hq : Longest pat d pat.length k) :
    ∃ pf', buildPf pat rest pf k = .ok pf' ∧ pf'.length = pat.length ∧ TableOK pat pf' := by
  induction rest generalizing d pf k with
  | nil => exact ⟨pf, rfl, by rw [hlen, hpat, List.append_nil, List.length_cons], hT⟩
  | cons x rest ih =>
    have hdp : d.length + 1 < pat.length := by
      rw [hpat, List.length_append, List.length_cons, List.length_cons]; omega
    have hkd : k ≤ d.length := M_le_length ⟨Nat.le_of_lt hq.lt, hq.suffix⟩
    obtain ⟨k', he, hL⟩ := advance_ok hT (hlen ▸ Nat.le_succ_of_le hkd) hq x
    -- the new entry: `k'` is the state after `d ++ [x]`, hence the longest proper border of `a :: d ++ [x]`
    have hB := hL.border a (by rw [List.length_append]; exact Nat.le_of_lt hdp)
    rw [List.length_append] at hB
    have hT' : TableOK pat (pf ++ [k']) := by
      intro i r hir
      rcases (getElem?_concat_eq_some ..).mp hir with hir | ⟨rfl, rfl⟩
      · exact hT i r hir
      · have htake : pat.take (pf.length + 1) = a :: (d ++ [x]) := by
          rw [hpat, List.append_cons, hlen]
          exact List.take_left' (by rw [List.length_append]; rfl)
        rw [htake, hlen]; exact hB
    obtain ⟨pf', hb, hl', hT''⟩ := ih (d := d ++ [x])
      (by rw [hpat, List.append_cons]; rfl)
      (by rw [List.length_append, List.length_append, hlen]; rfl) hT'
      (hL.mono (Nat.lt_of_lt_of_le hB.lt hdp) (Nat.le_succ _))
    exact ⟨pf', by simp only [buildPf, he, hb], hl', hT''⟩

theorem prefixFn_ok (first : α) (tail : List α) :
    ∃ pf, prefixFn first tail = .ok pf ∧ pf.length = tail.length + 1 ∧
      TableOK (first :: tail) pf := by
  refine buildPf_ok (d := []) rfl rfl ?_ (matchState_iff.1 (matchState_nil _ (Nat.succ_pos _)))
  intro i r hir
  cases i with
  | zero =>
    cases hir
    exact ⟨Nat.zero_lt_one, List.nil_suffix, fun n hn _ => Nat.le_of_lt_succ hn⟩
  | succ i => cases hir

theorem search_next_spec (first : α) (tail : List α) (pf : List Nat) (pat consumed : List α)
    (q : Nat) (x : α) (hpf : prefixFn first tail = .ok pf) (hpat : pat = first :: tail)
    (hq : MatchState pat consumed q) :
    ∃ q' b, next pat pf q x = .ok (q', b) ∧ (b = true ↔ pat <:+ consumed ++ [x]) ∧
      MatchState pat (consumed ++ [x]) q' := by
  obtain ⟨pf', h1, h2, h3⟩ := prefixFn_ok first tail
  cases hpf.symm.trans h1
  subst hpat
  exact next_ok h3 (by simpa using h2) hq x

theorem searchFrom_ok {pat : List α} {pf : List Nat} (hT : TableOK pat pf)
    (hlen : pf.length = pat.length) (text : List α) {consumed : List α} {q : Nat}
    (hq : MatchState pat consumed q) :
    searchFrom pat pf q text = .ok (specFrom pat consumed text) := by
  induction text generalizing consumed q with
  | nil => rfl
  | cons x xs ih =>
    obtain ⟨q', b, hn, hb, hq'⟩ := next_ok hT hlen hq x
    have hbe : b = pat.isSuffixOf (consumed ++ [x]) := by
      rw [Bool.eq_iff_iff, hb, List.isSuffixOf_iff_suffix]
    simp [searchFrom, specFrom, hn, ih hq', hbe]

theorem search_spec (first : α) (tail text : List α) :
    search first tail text = .ok (spec (first :: tail) text) := by
  obtain ⟨pf, h1, h2, h3⟩ := prefixFn_ok first tail
  simp only [search, h1, spec]
  exact searchFrom_ok h3 (by simpa using h2) text (matchState_nil _ (Nat.succ_pos _))

omit [DecidableEq α] in
theorem isBorder_iff (s : List α) (n : Nat) :
    IsBorder s n ↔ n ≤ s.length ∧ s.take n <:+ s := by
  unfold IsBorder
  constructor
  · rintro ⟨h, e⟩
    exact ⟨h, by rw [e]; exact List.drop_suffix _ _⟩
  · rintro ⟨h, e⟩
    refine ⟨h, ?_⟩
    have := List.suffix_iff_eq_drop.1 e
    rwa [List.length_take, Nat.min_eq_left h] at this

theorem prefixFn_spec (first : α) (tail : List α) :
    ∃ pf, prefixFn first tail = .ok pf ∧ pf.length = tail.length + 1 ∧
      ∀ i (hi : i < pf.length),
        IsBorder ((first :: tail).take (i + 1)) pf[i] ∧
        pf[i] < ((first :: tail).take (i + 1)).length ∧
        ∀ n, n < ((first :: tail).take (i + 1)).length →
          IsBorder ((first :: tail).take (i + 1)) n → n ≤ pf[i] := by
  obtain ⟨pf, h1, h2, h3⟩ := prefixFn_ok first tail
  refine ⟨pf, h1, h2, fun i hi => ?_⟩
  obtain ⟨hr, hs, hmax⟩ := h3 i pf[i] (List.getElem?_eq_getElem hi)
  have hl : ((first :: tail).take (i + 1)).length = i + 1 := List.length_take_of_le (h2 ▸ hi : i < tail.length + 1)
  rw [hl]
  refine ⟨?_, hr, fun n hn hb => ?_⟩
  · rw [isBorder_iff, hl, List.take_take, Nat.min_eq_left (Nat.le_of_lt hr)]
    exact ⟨Nat.le_of_lt hr, hs⟩
  · rw [isBorder_iff, List.take_take, Nat.min_eq_left (Nat.le_of_lt hn)] at hb
    exact hmax n hn hb.2

theorem longestProperBorder_eq (s : List α) (r : Nat) (hb : IsBorder s r) (hr : r < s.length)
    (hmax : ∀ n, n < s.length → IsBorder s n → n ≤ r) : longestProperBorder s = r := by
  -- `foldl max 0 l` is `(0 :: l).max?` by definition, and that is the least upper bound of the list
  have hm : List.max? (0 :: _) = some (longestProperBorder s) := rfl
  apply Nat.le_antisymm
  · refine (List.max?_le_iff hm).2 fun y hy => ?_
    rcases List.mem_cons.1 hy with rfl | hy
    · exact Nat.zero_le r
    · rw [List.mem_filter, List.mem_range] at hy
      exact hmax y hy.1 ⟨Nat.le_of_lt hy.1, by simpa using hy.2⟩
  · exact (List.max?_le_iff hm).1 (Nat.le_refl _) r
      (List.mem_cons_of_mem _ (List.mem_filter.2 ⟨List.mem_range.2 hr, by simpa using hb.2⟩))

theorem prefixFn_eq_specPf (first : α) (tail : List α) :
    prefixFn first tail = .ok (specPf (first :: tail)) := by
  obtain ⟨pf, h1, h2, h3⟩ := prefixFn_spec first tail
  rw [h1]
  congr 1
  apply List.ext_getElem
  · simp [specPf, h2]
  · intro i hi hi'
    obtain ⟨hb, hr, hmax⟩ := h3 i hi
    simp only [specPf, List.getElem_map, List.getElem_range]
    exact (longestProperBorder_eq _ _ hb hr hmax).symm

end C20.Kmp
