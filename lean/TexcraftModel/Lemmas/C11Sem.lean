/-
C11 — the driver's semantic comparison `firstRuleDiff` (requests `sem` and `rawsem`) is a proved checker
(`C11.Thm.sem_check_sound`, `Props/C11.lean`) because a pair that has a rule is among the pairs it
searches (`rule_mem`).
-/
import TexcraftModel.Lemmas.C05Loop
import TexcraftModel.Model.C11Bridge

namespace C11

theorem mem_dedup {α : Type} [DecidableEq α] {x : α} {l : List α} : x ∈ dedup l ↔ x ∈ l := by
  induction l with
  | nil => simp [dedup]
  | cons a t ih =>
    simp only [dedup]
    split
    · next ha =>
      exact ⟨fun h => List.mem_cons_of_mem _ (ih.mp h),
        fun h => (List.mem_cons.mp h).elim (fun e => e ▸ ha) ih.mpr⟩
    · simp only [List.mem_cons, ih]

theorem rule_mem {p : C05.Program} {l : Option Nat} {r : Nat} {o : C05.Op} (h : C05.rule p l r = some o) :
    l ∈ lefts p ∧ r ∈ rights p := by
  obtain ⟨i, hi, _⟩ := Option.bind_eq_some_iff.mp h
  simp only [C05.rawRule] at hi
  cases he : C05.entryOf p l with
  | none => simp [he] at hi
  | some e =>
    rw [he] at hi
    obtain ⟨h2, h1⟩ := C05.findInstr_mem r e p.instrs i hi
    refine ⟨?_, List.mem_map.mpr ⟨i, h2, h1⟩⟩
    cases l with
    | none => exact List.mem_cons_self ..
    | some c =>
      obtain ⟨ce, hce, _⟩ := Option.map_eq_some_iff.mp he
      have hc : ce.1 = c := by simpa using List.find?_some hce
      exact List.mem_cons_of_mem _ (List.mem_map.mpr ⟨ce, List.mem_of_find?_eq_some hce, by rw [hc]⟩)

end C11
