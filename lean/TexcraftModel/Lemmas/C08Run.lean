import TexcraftModel.Model.C08
import TexcraftModel.Lemmas.C08Bisim
import TexcraftModel.Model.C08Input

/-! C08 — what the property theorems need beside the round trip of `Lemmas/C08.lean`: whole runs
from the initial VM (they stay within C20's invariant and leave the pending-`\global` flag `Local`;
`run` split at the checkpoint), the soundness of the driver's name table, and `next_unexpanded` on
the input stack. -/
namespace C08
open C20 C01

theorem vequiv_init : VEquiv VMState.init VMState.init :=
  ⟨rfl, rfl, rfl, rfl, rfl, rfl, rfl, inv_empty, inv_empty, inv_empty, inv_empty⟩

theorem reachable_inv (cfg : Variant) (ops : List C01.Op) :
    Inv (C01.run cfg VMState.init ops).1.cmds ∧ Inv (C01.run cfg VMState.init ops).1.active :=
  let h := (run_congr cfg vequiv_init ops).2
  ⟨h.invCa, h.invAa⟩

theorem run_append (cfg : Variant) (pre post : List C01.Op) (m : VMState) :
    (C01.run cfg m (pre ++ post)).2 =
      if (C01.run cfg m pre).2.any Out.fatal then (C01.run cfg m pre).2
      else (C01.run cfg m pre).2 ++ (C01.run cfg (C01.run cfg m pre).1 post).2 := by
  simp only [run_eq]
  cases h : (runWith (C01.step cfg) m pre).2.any Out.fatal with
  | true => rw [runWith_append_fatal _ _ _ _ h]; rfl
  | false =>
    rw [runWith_append _ _ _ _ fun o ho => Bool.eq_false_iff.2 fun hh =>
      Bool.eq_false_iff.1 h (List.any_eq_true.2 ⟨o, ho, hh⟩)]
    rfl

theorem stdVarOfName_param : ∀ j, j < 6 → stdVarOfName (30 + j) 0 = some ⟨.param, j⟩ := by
  decide

theorem stdTable_sound : NameTableSound stdTable := by
  refine ⟨?_, ?_⟩
  · intro p n h
    dsimp only [stdTable] at h ⊢
    by_cases hc : p < 5 ∨ (20 ≤ p ∧ p < 26) ∨ (40 ≤ p ∧ p < 60)
    · rw [if_pos hc] at h
      cases h
      rw [if_pos, Nat.add_sub_cancel_left]
      -- the name of `p` is `10 + p`: every bound moves up by 10
      exact hc.imp (fun h => ⟨Nat.le_add_right 10 p, Nat.add_lt_add_left h 10⟩)
        (Or.imp (fun h => ⟨Nat.add_le_add_left h.1 10, Nat.add_lt_add_left h.2 10⟩)
          (fun h => ⟨Nat.add_le_add_left h.1 10, Nat.add_lt_add_left h.2 10⟩))
    · rw [if_neg hc] at h; cases h
  · intro v n i h
    obtain ⟨k, idx⟩ := v
    dsimp only [stdTable, stdNameOfVar] at h ⊢
    cases k with
    | param =>
      dsimp only at h
      split at h
      · cases h; exact stdVarOfName_param idx ‹_›
      · cases h
    | _ => cases h; rfl

/-! ## The pending `\global` flag is `Local` between operations

`prefix::Component.scope` is set by `\global` and consumed by the very next assignment or
definition (`read_and_reset_global`); a `\global` with nothing after it is an end-of-input error,
so a VM whose run returned `Ok` — the only VMs a checkpoint is taken of — has the flag `Local`.
In the model: every operation of C01's `step` keeps `scopeBit = .loc`. This is why a
deserialiser that forgets the flag (mutant 21 of the sweep) is equivalent. -/

theorem setVar_scope (cfg : Variant) (m : VMState) (v : Var) (x : Val) (sc : Scope) :
    (setVar cfg m v x sc).scopeBit = m.scopeBit := by
  unfold setVar updateSaveStack
  cases m.save with
  | nil => rfl
  | cons g gs => cases sc <;> rfl

theorem insertCmd_scope (m : VMState) (t : CTarget) (c : Cmd) (sc : Scope) :
    (insertCmd m t c sc).scopeBit = m.scopeBit := by
  cases t <;> rfl

theorem mapEndGroup_scope (cfg : Variant) (m m' : VMState) (h : mapEndGroup cfg m = some m') :
    m'.scopeBit = m.scopeBit := by
  unfold mapEndGroup at h
  split at h
  · cases h
  · split at h
    · split at h
      · cases h
      · cases h; rfl
    · cases h; rfl

theorem endGroup_scope (cfg : Variant) (m m' : VMState) (h : C01.endGroup cfg m = .ok m') :
    m'.scopeBit = m.scopeBit := by
  unfold C01.endGroup at h
  split at h
  · cases h
  · rename_i m1 h1
    rw [← mapEndGroup_scope cfg m m1 h1]
    split at h
    · cases h
    · dsimp only at h
      split at h
      · cases h
      · cases h; rfl
      · cases h; rfl

theorem step_scope (cfg : Variant) (m : VMState) (op : C01.Op) (h : m.scopeBit = .loc) :
    (C01.step cfg m op).1.scopeBit = .loc := by
  cases op with
  | beginGroup => exact h
  | endGroup =>
    rw [C01.step]
    cases he : C01.endGroup cfg m with
    | ok m' => exact (endGroup_scope cfg m m' he).trans h
    | errNoGroup => exact h
    | panic => exact h
  | assign pre v x =>
    rw [C01.step, assign, hook_eq m pre h]
    exact (setVar_scope ..).trans h
  | define pre t d =>
    rw [C01.step]
    cases hd : C01.define cfg m pre t d with
    | none => exact h
    | some m' =>
      rw [define, hook_eq m pre h] at hd
      split at hd
      · cases hd
      · dsimp only at hd
        split at hd
        · cases hd; exact h
        · cases hd; exact (insertCmd_scope ..).trans h
  | selectFont pre f =>
    rw [C01.step, selectFont, hook_eq m pre h]
    exact h
  | read t => exact h

theorem reachable_scope_local (cfg : Variant) (ops : List C01.Op) :
    ∀ m : VMState, m.scopeBit = .loc → (C01.run cfg m ops).1.scopeBit = .loc :=
  run_inv cfg (·.scopeBit = .loc) (step_scope cfg) ops

namespace Input

theorem remaining_cons (cur s : Src) (rest : List Src) :
    Stack.remaining ⟨cur, s :: rest⟩ =
      (cur.expansions.map some ++ cur.lexer) ++ Stack.remaining ⟨s, rest⟩ := rfl

/-- `next_unexpanded` takes the first element off the remaining input, whatever it answers, and
answers `Ok(None)` only with nothing left on the stack. -/
theorem next_spec (sources : List Src) (cur : Src) :
    Stack.remaining { cur := cur, sources := sources } =
        (match (next sources cur).1 with
        | .token t => some t :: (next sources cur).2.remaining
        | .invalid => none :: (next sources cur).2.remaining
        | .endOfInput => []) ∧
      ((next sources cur).1 = .endOfInput →
        (next sources cur).2 = { cur := { expansions := [], lexer := [] }, sources := [] }) := by
  fun_induction next sources cur with
  | case1 => exact ⟨rfl, nofun⟩
  | case2 => exact ⟨rfl, nofun⟩
  | case3 => exact ⟨rfl, nofun⟩
  | case4 => exact ⟨rfl, fun _ => rfl⟩
  | case5 s rest ih => exact ⟨(remaining_cons ..).trans ih.1, ih.2⟩

end Input

end C08
