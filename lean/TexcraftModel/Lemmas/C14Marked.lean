import TexcraftModel.Lemmas.C14
import TexcraftModel.Model.C14Recon

/-! Lists of nodes paired with their mark (`true` = inserted discretionary): how `erase`,
`allMarkedDisc`, `P2` and `discPositions` behave under concatenation, on a stretch of original nodes
(`unmarkedL u`), and at the one shape in which the pass inserts a discretionary. -/
namespace C14

/-- The marks of a marked list: the first argument of `P1`/`P2`. -/
abbrev mk (l : List (Item × Bool)) : List Bool := l.map (·.2)
/-- Its nodes: the second argument of `P1`/`P2`. -/
abbrev it (l : List (Item × Bool)) : List Item := l.map (·.1)

theorem it_append (a b : List (Item × Bool)) : it (a ++ b) = it a ++ it b := List.map_append

theorem unmarkedL_append (a b : List Item) : unmarkedL (a ++ b) = unmarkedL a ++ unmarkedL b := List.map_append

theorem unmarkedL_map {α : Type} (f : α → Item) (l : List α) :
    unmarkedL (l.map f) = l.map (fun n => (f n, false)) := List.map_map

theorem it_unmarkedL (u : List Item) : it (unmarkedL u) = u := List.map_map.trans (List.map_id u)

theorem mk_unmarkedL (u : List Item) : mk (unmarkedL u) = u.map (fun _ => false) := List.map_map

theorem erase_append (a b : List (Item × Bool)) :
    erase (mk (a ++ b)) (it (a ++ b)) = erase (mk a) (it a) ++ erase (mk b) (it b) := by
  induction a with
  | nil => rfl
  | cons x a ih =>
    obtain ⟨i, m⟩ := x
    cases m
    · simp only [List.cons_append, List.map_cons, erase, Bool.false_eq_true, if_false, ih]
    · simp only [List.cons_append, List.map_cons, erase, if_true, ih]

theorem amd_append (a b : List (Item × Bool)) :
    allMarkedDisc (mk (a ++ b)) (it (a ++ b)) = (allMarkedDisc (mk a) (it a) && allMarkedDisc (mk b) (it b)) := by
  induction a with
  | nil => rfl
  | cons x a ih => simp only [List.cons_append, List.map_cons, allMarkedDisc, ih, Bool.and_assoc]

theorem discOk_append (pre post : List DElem) (rc : Nat) (a b : List (Item × Bool))
    (h : discOk pre post rc (mk a) (it a) = true) : discOk pre post rc (mk (a ++ b)) (it (a ++ b)) = true := by
  simp only [discOk, Bool.and_eq_true, decide_eq_true_eq, List.length_map, ← List.map_take] at h ⊢
  obtain ⟨⟨hrc, hun⟩, hlet⟩ := h
  rw [List.take_append_of_le_length hrc]
  exact ⟨⟨by rw [List.length_append]; omega, hun⟩, hlet⟩

/-- A closed prefix: every discretionary of `a` covers nodes of `a` only. -/
theorem P2_append (a b : List (Item × Bool)) (ha : P2 (mk a) (it a) = true) (hb : P2 (mk b) (it b) = true) :
    P2 (mk (a ++ b)) (it (a ++ b)) = true := by
  induction a with
  | nil => exact hb
  | cons x a ih =>
    obtain ⟨i, m⟩ := x
    simp only [List.map_cons, P2, Bool.and_eq_true] at ha
    simp only [List.cons_append, List.map_cons, P2, Bool.and_eq_true]
    refine ⟨?_, ih ha.2⟩
    cases m with
    | false => rfl
    | true =>
      cases i with
      | disc pre post rc => exact discOk_append pre post rc a b ha.1
      | _ => simp at ha

theorem discPositions_append (a b : List (Item × Bool)) (ha : P2 (mk a) (it a) = true) (acc : Nat) :
    discPositions (mk (a ++ b)) (it (a ++ b)) acc =
      discPositions (mk a) (it a) acc ++
        discPositions (mk b) (it b) (acc + (lettersL (erase (mk a) (it a))).length) := by
  induction a generalizing acc with
  | nil => rfl
  | cons x a ih =>
    obtain ⟨i, m⟩ := x
    simp only [List.map_cons, P2, Bool.and_eq_true] at ha
    cases m with
    | false =>
      simp only [List.cons_append, List.map_cons, discPositions, Bool.false_eq_true, if_false, erase,
        lettersL_cons, List.length_append, ih ha.2, Nat.add_assoc]
    | true =>
      cases i with
      | disc pre post rc =>
        have hrc : rc ≤ (it a).length := by
          have := ha.1
          simp only [if_true, discOk, Bool.and_eq_true, decide_eq_true_eq] at this
          exact this.1.1
        simp only [List.cons_append, List.map_cons, discPositions, if_true, erase, ih ha.2]
        rw [List.map_append, List.take_append_of_le_length hrc]
      | _ => simp at ha

theorem discPositions_unmarked (u : List Item) (acc : Nat) :
    discPositions (mk (unmarkedL u)) (it (unmarkedL u)) acc = [] := by
  induction u generalizing acc with
  | nil => rfl
  | cons x u ih => exact ih _

theorem lettersL_it (l : List (Item × Bool)) (h : allMarkedDisc (mk l) (it l) = true) :
    lettersL (it l) = lettersL (erase (mk l) (it l)) := by
  induction l with
  | nil => rfl
  | cons x l ih =>
    obtain ⟨i, m⟩ := x
    simp only [List.map_cons, allMarkedDisc, Bool.and_eq_true] at h
    cases m with
    | false => simp only [List.map_cons, erase, Bool.false_eq_true, if_false, lettersL_cons, ih h.2]
    | true =>
      cases i with
      | disc pre post rc => simp only [List.map_cons, erase, if_true, lettersL_cons, lettersI, List.nil_append, ih h.2]
      | _ => simp [Item.isDisc] at h

/-- The three facts about a marked list relative to its unbroken form `u`. -/
structure Good (out : List (Item × Bool)) (u : List Item) : Prop where
  erased : erase (mk out) (it out) = u
  amd : allMarkedDisc (mk out) (it out) = true
  p2 : P2 (mk out) (it out) = true

theorem Good.unmarked (u : List Item) : Good (unmarkedL u) u := by
  induction u with
  | nil => exact ⟨rfl, rfl, rfl⟩
  | cons x u ih => exact ⟨congrArg (x :: ·) ih.erased, ih.amd, ih.p2⟩

theorem Good.append {a b : List (Item × Bool)} {ua ub : List Item} (ha : Good a ua) (hb : Good b ub) :
    Good (a ++ b) (ua ++ ub) :=
  ⟨by rw [erase_append, ha.erased, hb.erased], by rw [amd_append, ha.amd, hb.amd]; rfl,
    P2_append _ _ ha.p2 hb.p2⟩

/-- A discretionary that covers everything after it, all of it original nodes: the shape in which
the pass inserts one (`replace_count` = the nodes from the last separation point on). -/
theorem Good.disc {u : List Item} {pre post : List DElem} {a : List Nat}
    (hpre : preLetters pre = some a) (hlet : a ++ lettersDL post = lettersL u) :
    Good ((Item.disc pre post u.length, true) :: unmarkedL u) u := by
  have g := Good.unmarked u
  refine ⟨g.erased, g.amd, ?_⟩
  show (discOk pre post u.length (C14.mk (unmarkedL u)) (it (unmarkedL u)) && P2 _ _) = true
  rw [g.p2, Bool.and_true, discOk, hpre, it_unmarkedL, List.take_length, mk_unmarkedL]
  simp [hlet, ← List.map_take]

theorem discPositions_disc {A : List (Item × Bool)} (hA : P2 (mk A) (it A) = true) (u : List Item)
    (pre post : List DElem) {a : List Nat} (hpre : preLetters pre = some a) (acc : Nat) :
    discPositions (mk (A ++ (Item.disc pre post u.length, true) :: unmarkedL u))
        (it (A ++ (Item.disc pre post u.length, true) :: unmarkedL u)) acc
      = discPositions (mk A) (it A) acc ++
          [(acc + (lettersL (erase (mk A) (it A))).length + a.length,
            acc + (lettersL (erase (mk A) (it A))).length,
            acc + (lettersL (erase (mk A) (it A))).length + (lettersL u).length)] := by
  rw [discPositions_append _ _ hA]
  simp only [List.map_cons, discPositions, if_true, hpre, Option.getD_some, discPositions_unmarked]
  -- `rw` does not see through the abbreviation `it`
  simp only [it_unmarkedL, List.take_length]

end C14
