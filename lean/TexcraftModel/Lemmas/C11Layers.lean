/-
C11 — the character layer: `charsTrip` preserves every value (width, height, depth, italic
correction, tag, NEXTLARGER, VARCHAR recipe) of every character, and what it writes (index bytes,
tables, recipe words) is fixed under a second trip, which makes it idempotent.
-/
import TexcraftModel.Model.C11
import TexcraftModel.Model.C11Layers
import TexcraftModel.Lemmas.C11Dims

namespace C11

theorem sel_of_lt {t : List Int} {i : Nat} (hi : i < t.length) : sel t i = some t[i] := by
  simp [sel, List.getElem?_eq_getElem hi]

theorem filterMap_congr {α β : Type} (f g : α → Option β) : ∀ (l : List α), (∀ x ∈ l, f x = g x) →
    l.filterMap f = l.filterMap g := by
  intro l
  induction l with
  | nil => intro _; rfl
  | cons a t ih =>
    intro h
    rw [List.filterMap_cons, List.filterMap_cons, h a (List.mem_cons_self ..),
      ih (fun x hx => h x (List.mem_cons_of_mem _ hx))]

/-- The height (depth, italic correction) tftopl prints for index byte `i`: index 0 and an index
beyond the table print nothing, which pltotf reads as 0. -/
def hval (t : List Int) (i : Nat) : Int := if i = 0 then 0 else (sel t i).getD 0

theorem hval_get {t : List Int} {i : Nat} {v : Int} (hi : i ≠ 0) (h : t[i]? = some v) : hval t i = v := by
  simp only [hval, hi, if_false, sel, h, Option.getD_some]

theorem contrib_eq (t : List Int) (i : Nat) : contrib t i = if hval t i = 0 then none else some (hval t i) := by
  simp only [contrib, hval]
  split
  · rfl
  · cases sel t i with
    | none => rfl
    | some v => simp only [Option.bind_some, Option.getD_some]

theorem mem_pushed {t : List Int} {idx : List Nat} {v : Int} :
    v ∈ pushed t idx ↔ v ≠ 0 ∧ ∃ i ∈ idx, hval t i = v := by
  simp only [pushed, List.mem_filterMap, contrib_eq]
  constructor
  · rintro ⟨i, hi, h⟩
    split at h
    · cases h
    · cases h; exact ⟨‹_›, i, hi, rfl⟩
  · rintro ⟨hv, i, hi, rfl⟩
    exact ⟨i, hi, if_neg hv⟩

theorem dimIndex_zero_pushed (t : List Int) (idx : List Nat) : dimIndex 0 (pushed t idx) = 0 :=
  (index_absent fun h => (mem_pushed.mp h).1 rfl).1

theorem newIdx_eq (t : List Int) (idx : List Nat) (i : Nat) :
    newIdx t idx i = dimIndex (hval t i) (pushed t idx) := by
  have h0 := dimIndex_zero_pushed t idx
  simp only [newIdx, hval]
  split
  · exact h0.symm
  · cases sel t i with
    | none => exact h0.symm
    | some v => rfl

theorem hval_newIdx (t : List Int) (idx : List Nat) (i : Nat) (hmem : i ∈ idx) :
    hval (table (pushed t idx)) (newIdx t idx i) = hval t i := by
  rw [newIdx_eq]
  by_cases hv : hval t i = 0
  · rw [hv, dimIndex_zero_pushed]; rfl
  · have hin : hval t i ∈ pushed t idx := mem_pushed.mpr ⟨hv, i, hmem, rfl⟩
    have hg := index_preserved hin
    have hne : dimIndex (hval t i) (pushed t idx) ≠ 0 := by
      intro h0
      rw [h0] at hg
      exact hv (Option.some.inj hg).symm
    exact hval_get hne hg

theorem pushed_stable (t : List Int) (idx : List Nat) :
    pushed (table (pushed t idx)) (idx.map (newIdx t idx)) = pushed t idx := by
  show (idx.map (newIdx t idx)).filterMap _ = idx.filterMap _
  rw [List.filterMap_map]
  apply filterMap_congr
  intro i hi
  simp only [Function.comp, contrib_eq, hval_newIdx t idx i hi]

theorem newIdx_stable (t : List Int) (idx : List Nat) (i : Nat) (hmem : i ∈ idx) :
    newIdx (table (pushed t idx)) (idx.map (newIdx t idx)) (newIdx t idx i) = newIdx t idx i := by
  rw [newIdx_eq, pushed_stable, hval_newIdx t idx i hmem, ← newIdx_eq]

theorem sel_eq_hval {t : List Int} {i : Nat} (h0 : t[0]? = some 0) (hi : i < t.length) : sel t i = some (hval t i) := by
  simp only [hval]
  split
  · subst_vars; exact h0
  · rw [sel_of_lt hi]; rfl

theorem sel_newIdx (t : List Int) (idx : List Nat) (i : Nat) (h0 : t[0]? = some 0) (hi : i < t.length)
    (hmem : i ∈ idx) : sel (table (pushed t idx)) (newIdx t idx i) = sel t i := by
  have hlt : newIdx t idx i < (table (pushed t idx)).length := by
    rw [newIdx_eq]; exact Nat.lt_succ_of_le (dimIndex_le _ _)
  rw [sel_eq_hval rfl hlt, hval_newIdx t idx i hmem, sel_eq_hval h0 hi]

theorem sel_newWi (W : List Int) (rows : List CharRow) (r : CharRow) (hr : r ∈ rows) (hi : r.wi < W.length) :
    sel (table (widthVals W rows)) (newWi W (widthVals W rows) r.wi) = sel W r.wi := by
  have hs := sel_of_lt hi
  simp only [newWi, hs]
  apply index_preserved
  simp only [widthVals, List.mem_filterMap]
  exact ⟨r, hr, hs⟩

theorem newWi_stable (W : List Int) (rows : List CharRow) (r : CharRow) (hr : r ∈ rows) (hi : r.wi < W.length) :
    newWi (table (widthVals W rows)) (widthVals W rows) (newWi W (widthVals W rows) r.wi) =
      newWi W (widthVals W rows) r.wi := by
  have hs := sel_of_lt hi
  rw [newWi, sel_newWi W rows r hr hi, hs]
  simp only [newWi, hs]

theorem tripRows_filterMap {β : Type} (x : RawChars) (wv : List Int) (his dis iis : List Nat)
    (F G : CharRow → Option β) : ∀ (rows : List CharRow) (n : Nat),
    (∀ r ∈ rows, ∀ n, F (tripRow x wv his dis iis n r) = G r) →
    (tripRows x wv his dis iis n rows).filterMap F = rows.filterMap G := by
  intro rows
  induction rows with
  | nil => intro n _; rfl
  | cons r rest ih =>
    intro n h
    simp only [tripRows, List.filterMap_cons, h r (List.mem_cons_self ..) n]
    rw [ih _ (fun r' hr' => h r' (List.mem_cons_of_mem _ hr'))]

theorem tripRows_map {β : Type} (x : RawChars) (wv : List Int) (his dis iis : List Nat)
    (F G : CharRow → β) : ∀ (rows : List CharRow) (n : Nat),
    (∀ r ∈ rows, ∀ n, F (tripRow x wv his dis iis n r) = G r) →
    (tripRows x wv his dis iis n rows).map F = rows.map G := by
  intro rows n h
  rw [← List.filterMap_eq_map, ← List.filterMap_eq_map]
  exact tripRows_filterMap x wv his dis iis _ _ rows n (fun r hr n => congrArg some (h r hr n))

theorem tripRows_fixed (x x' : RawChars) (wv wv' : List Int) (his dis iis his' dis' iis' : List Nat) :
    ∀ (rows : List CharRow) (n : Nat),
    (∀ r ∈ rows, ∀ n, tripRow x' wv' his' dis' iis' n (tripRow x wv his dis iis n r) = tripRow x wv his dis iis n r) →
    tripRows x' wv' his' dis' iis' n (tripRows x wv his dis iis n rows) = tripRows x wv his dis iis n rows := by
  intro rows
  induction rows with
  | nil => intro n _; rfl
  | cons r rest ih =>
    intro n h
    simp only [tripRows, h r (List.mem_cons_self ..) n]
    have htag : (tripRow x wv his dis iis n r).tag = r.tag := rfl
    rw [htag, ih _ (fun r' hr' => h r' (List.mem_cons_of_mem _ hr'))]

/-- The recipe word tftopl prints for a VARCHAR row (tag 3), `none` for any other row: the summand
of `newExt`. -/
def recipeOf (x : RawChars) (codes : List Nat) (r : CharRow) : Option Recipe :=
  if r.tag = 3 then some (printedRecipe codes r.code ((x.ext[r.rem]?).getD default)) else none

theorem recipeOf_varchar {x : RawChars} {codes : List Nat} {r : CharRow} (h : r.tag = 3) :
    recipeOf x codes r = some (printedRecipe codes r.code ((x.ext[r.rem]?).getD default)) := if_pos h

theorem recipeOf_other {x : RawChars} {codes : List Nat} {r : CharRow} (h : r.tag ≠ 3) :
    recipeOf x codes r = none := if_neg h

theorem newExt_eq (x : RawChars) : newExt x = x.rows.filterMap (recipeOf x (x.rows.map (·.code))) := rfl

theorem printedRecipe_idem (codes : List Nat) (c : Nat) (hc : c ∈ codes) (rc : Recipe) :
    printedRecipe codes c (printedRecipe codes c rc) = printedRecipe codes c rc := by
  have hc' : codes.contains c = true := by simpa [List.contains_iff_mem] using hc
  by_cases h : codes.contains rc.rep = true
  · simp only [printedRecipe, h, if_true]
  · have h' : codes.contains rc.rep = false := by simpa using h
    simp only [printedRecipe, h', Bool.false_eq_true, if_false, hc', if_true]

/-- `tripRows` hands out the recipe indices in the order of `newExt`: read through its new
remainder (`φ` says how), a VARCHAR character meets its own recipe word. -/
theorem ext_rows {β : Type} (x : RawChars) (wv : List Int) (his dis iis : List Nat) (codes : List Nat)
    (φ : Nat → Option Recipe → Option β) :
    ∀ (rest : List CharRow) (pre : List Recipe),
    (tripRows x wv his dis iis pre.length rest).filterMap
        (fun r' => if r'.tag = 3 then φ r'.code ((pre ++ rest.filterMap (recipeOf x codes))[r'.rem]?) else none) =
      rest.filterMap (fun r => (recipeOf x codes r).bind fun rc => φ r.code (some rc)) := by
  intro rest
  induction rest with
  | nil => intro pre; rfl
  | cons r tl ih =>
    intro pre
    simp only [tripRows, List.filterMap_cons]
    by_cases ht : r.tag = 3
    · have ih' := ih (pre ++ [printedRecipe codes r.code ((x.ext[r.rem]?).getD default)])
      simp only [List.length_append, List.length_cons, List.length_nil, List.append_assoc, List.singleton_append] at ih'
      simp only [ht, if_true, recipeOf_varchar ht, tripRow, List.getElem?_append_right (Nat.le_refl _), Nat.sub_self,
        List.getElem?_cons_zero, Option.bind_some, ih']
    · simp only [ht, if_false, recipeOf_other ht, tripRow, Option.bind_none]
      exact ih pre

theorem ext_fixed (x : RawChars) (wv : List Int) (his dis iis : List Nat) (codes : List Nat)
    (rest : List CharRow) (pre : List Recipe) (h : ∀ r ∈ rest, r.code ∈ codes) :
    (tripRows x wv his dis iis pre.length rest).filterMap
        (fun r' => if r'.tag = 3 then
          some (printedRecipe codes r'.code (((pre ++ rest.filterMap (recipeOf x codes))[r'.rem]?).getD default)) else none) =
      rest.filterMap (recipeOf x codes) := by
  rw [ext_rows x wv his dis iis codes (fun c o => some (printedRecipe codes c (o.getD default)))]
  apply filterMap_congr
  intro r hr
  by_cases ht : r.tag = 3
  · simp only [recipeOf_varchar ht, Option.bind_some, Option.getD_some, printedRecipe_idem codes r.code (h r hr)]
  · simp only [recipeOf_other ht, Option.bind_none]

theorem charsOk_parts {x : RawChars} (h : charsOk x = true) :
    (∀ r ∈ x.rows, r.wi < x.W.length ∧ r.hi < x.H.length ∧ r.di < x.D.length ∧ r.ii < x.I.length) ∧
      x.H[0]? = some 0 ∧ x.D[0]? = some 0 ∧ x.I[0]? = some 0 := by
  simp only [charsOk, Bool.and_eq_true, List.all_eq_true, decide_eq_true_eq, beq_iff_eq] at h
  obtain ⟨⟨⟨hr, hH⟩, hD⟩, hI⟩ := h
  refine ⟨?_, hH, hD, hI⟩
  intro r hr'
  have := hr r hr'
  exact ⟨this.1.1.1.1, this.1.1.1.2, this.1.1.2, this.1.2⟩

end C11
