/-
C11 — closing the loop: `normalise` of a well-formed PL-level program in which every step is
reachable, with any words put in front of and behind it (`framed`), is that program. `pack` builds
such a table, and so does the reader of the written table, which forgets the redirect flags. With
`normalise_wf_allReach` this makes the second TFM→PL→TFM trip the identity on the lig/kern program.
-/
import TexcraftModel.Model.C11
import TexcraftModel.Model.C11Norm
import TexcraftModel.Lemmas.C11Pack
import TexcraftModel.Lemmas.C11Norm

namespace C11

theorem reachFrom_prefix : ∀ (F : List Instr) (ms : List Nat) (X : List Instr),
    reachFrom (ms.map (F.length + ·)) (F ++ X) = List.replicate F.length false ++ reachFrom ms X := by
  intro F
  induction F with
  | nil => intro ms X; simp
  | cons a F' ih =>
    intro ms X
    rw [List.cons_append, reachFrom_cons]
    have hc : (ms.map ((a :: F').length + ·)).contains 0 = false := by
      simp
    have hsh : ((ms.map ((a :: F').length + ·)).filter (· ≠ 0)).map (· - 1) = ms.map (F'.length + ·) := by
      rw [List.filter_eq_self.mpr]
      · rw [List.map_map]
        apply List.map_congr_left
        intro m _
        simp only [Function.comp, List.length_cons]
        omega
      · intro m hm
        obtain ⟨m0, _, rfl⟩ := List.mem_map.mp hm
        simp
    simp only [List.length_cons] at hc hsh ⊢
    simp only [hc, Bool.false_eq_true, if_false, List.nil_append, hsh, ih, List.replicate_succ, List.cons_append]

theorem reachFrom_nil_marks (l : List Instr) : reachFrom [] l = List.replicate l.length false := by
  have h := reachFrom_prefix l [] []
  rw [List.append_nil] at h
  simpa [reachFrom] using h

theorem reachFrom_suffix : ∀ (I : List Instr) (ms : List Nat) (Q : List Instr), closed I = true →
    (∀ m ∈ ms, m < I.length) →
    reachFrom ms (I ++ Q) = reachFrom ms I ++ List.replicate Q.length false := by
  intro I
  induction I with
  | nil =>
    intro ms Q _ hms
    obtain rfl : ms = [] := List.eq_nil_iff_forall_not_mem.mpr fun m hm => Nat.not_lt_zero _ (hms m hm)
    simp [reachFrom_nil_marks, reachFrom]
  | cons i rest ih =>
    intro ms Q hc hms
    obtain ⟨hnext, hcrest⟩ := closed_cons hc
    rw [List.cons_append, reachFrom_cons, reachFrom_cons]
    simp only [List.cons_append, List.cons.injEq, true_and]
    apply ih _ Q hcrest
    intro m hm
    rcases List.mem_append.mp hm with hm | hm
    · split at hm
      · exact hnext m (Option.mem_toList.mp hm)
      · exact absurd hm List.not_mem_nil
    · exact Nat.lt_of_succ_lt_succ (hms _ (mem_shifted.mp hm))

theorem compact_prefix_false : ∀ (F X : List Instr) (fx : List Bool),
    compact (F ++ X) (List.replicate F.length false ++ fx) = compact X fx := by
  intro F
  induction F with
  | nil => intro X fx; simp
  | cons a F' ih => intro X fx; simp [compact, List.replicate_succ, ih]

theorem compact_all_false (Q : List Instr) : compact Q (List.replicate Q.length false) = [] := by
  have h := compact_prefix_false Q [] []
  rw [List.append_nil, List.append_nil] at h
  exact h

theorem countTrue_take_trues (a k : Nat) (x : List Bool) (hk : k ≤ a) :
    countTrue ((List.replicate a true ++ x).take k) = k := by
  rw [countTrue_eq_count, List.take_append_of_le_length (by simpa using hk), List.take_replicate,
    List.count_replicate_self, Nat.min_eq_left hk]

theorem countTrue_take_falses (a k : Nat) (x : List Bool) :
    countTrue ((List.replicate a false ++ x).take (a + k)) = countTrue (x.take k) := by
  have h := List.take_length_add_append (l₁ := List.replicate a false) (l₂ := x) k
  rw [List.length_replicate] at h
  rw [h, countTrue_eq_count, countTrue_eq_count, List.count_append, List.count_replicate]
  simp

theorem outNext_trues (next : Option Nat) (a : Nat) (x : List Bool)
    (h : ∀ s, next = some s → s < a) : outNext next (List.replicate a true ++ x) = next := by
  rw [outNext_eq_map _ _ fun s hs => by have := h s hs; simp; omega]
  cases next with
  | none => rfl
  | some s => rw [Option.map_some, countTrue_take_trues a s x (Nat.le_of_lt (h s rfl))]

theorem compact_trues : ∀ (I Q : List Instr), noRedirect I = true → closed I = true →
    compact (I ++ Q) (List.replicate I.length true ++ List.replicate Q.length false) = I := by
  intro I
  induction I with
  | nil => intro Q _ _; simpa using compact_all_false Q
  | cons i rest ih =>
    intro Q hnr hc
    obtain ⟨hnext, hcrest⟩ := closed_cons hc
    obtain ⟨hop, hnr'⟩ := noRedirect_cons.mp hnr
    rw [List.cons_append, List.length_cons, List.replicate_succ, List.cons_append, compact_cons_true hop,
      outNext_trues i.next rest.length _ hnext, ih Q hnr' hcrest]

theorem noReachRedirect_embedded (F I Q : List Instr) (fx : List Bool) (hl : fx.length = I.length)
    (hnr : noRedirect I = true) :
    noReachRedirect (F ++ I ++ Q)
      (List.replicate F.length false ++ (fx ++ List.replicate Q.length false)) = true := by
  rw [noReachRedirect_iff, List.append_assoc, List.zip_append (by simp), List.zip_append hl.symm]
  have hfalse : ∀ (A : List Instr) (p : Instr × Bool), p ∈ A.zip (List.replicate A.length false) → p.2 = false :=
    fun A p hp => List.eq_of_mem_replicate (List.of_mem_zip hp).2
  intro p hp ht
  rcases List.mem_append.mp hp with hp | hp
  · exact absurd ht (by simp [hfalse F p hp])
  rcases List.mem_append.mp hp with hp | hp
  · exact not_redirect_of_mem hnr (List.of_mem_zip hp).1
  · exact absurd ht (by simp [hfalse Q p hp])

theorem plainMarks_framed (F Q : List Instr) (q : Prog) (es : List (Nat × Nat)) :
    plainMarks (framed F Q q) (shift F.length es) = (plainMarks q es).map (F.length + ·) :=
  plainMarks_map (F.length + ·) es rfl

/-- `Q ≠ []` keeps the left-boundary entry point off the last word, which `startMarks` would drop. -/
theorem framed_lb_lt (F Q : List Instr) {q : Prog} {es : List (Nat × Nat)} (hwf : wf q es = true)
    (hQ : q.lb.isSome = true → Q ≠ []) :
    ∀ l, (framed F Q q).lb = some l → l + 1 < (framed F Q q).instrs.length := by
  intro l hl
  obtain ⟨l0, hl0, rfl⟩ := Option.map_eq_some_iff.mp hl
  have := (wf_parts hwf).2.2.2 l0 hl0
  have := List.length_pos_iff.mpr (hQ (by simp [hl0]))
  simp only [framed, List.length_append]
  omega

theorem reachable_framed (F Q : List Instr) {q : Prog} {es : List (Nat × Nat)} (hwf : wf q es = true)
    (hQ : q.lb.isSome = true → Q ≠ []) :
    reachable (framed F Q q) (shift F.length es) =
      List.replicate F.length false ++
        (reachFrom (plainMarks q es) q.instrs ++ List.replicate Q.length false) := by
  simp only [reachable, startMarks_eq (framed_lb_lt F Q hwf hQ), plainMarks_framed]
  simp only [framed]
  rw [List.append_assoc, reachFrom_prefix, reachFrom_suffix _ _ _ (wf_parts hwf).2.1 (wf_marks hwf)]

theorem noReachRedirect_framed (F Q : List Instr) {q : Prog} {es : List (Nat × Nat)} (hwf : wf q es = true)
    (hQ : q.lb.isSome = true → Q ≠ []) :
    noReachRedirect (framed F Q q).instrs (reachable (framed F Q q) (shift F.length es)) = true := by
  rw [reachable_framed F Q hwf hQ]
  exact noReachRedirect_embedded _ _ _ _ (reachFrom_length _ _) (wf_parts hwf).1

theorem normalise_framed (F Q : List Instr) {q : Prog} {es : List (Nat × Nat)} (hwf : wf q es = true)
    (hall : AllReach q es) (hQ : q.lb.isSome = true → Q ≠ []) :
    normalise (framed F Q q) (shift F.length es) = (q, es) := by
  obtain ⟨hnr, hcl, _, _⟩ := wf_parts hwf
  obtain ⟨FL, hFL⟩ : ∃ FL, FL = List.replicate F.length false ++
      (List.replicate q.instrs.length true ++ List.replicate Q.length false) := ⟨_, rfl⟩
  have hfl : reachable (framed F Q q) (shift F.length es) = FL := by
    rw [reachable_framed F Q hwf hQ, hFL,
      show reachFrom (plainMarks q es) q.instrs = List.replicate q.instrs.length true from hall]
  have hcomp : compact (F ++ q.instrs ++ Q) FL = q.instrs := by
    rw [hFL, List.append_assoc, compact_prefix_false, compact_trues _ _ hnr hcl]
  have hpos : ∀ e ∈ plainMarks q es,
      FL[F.length + e]? = some true ∧ posOf (F ++ q.instrs ++ Q) FL (F.length + e) = e := by
    intro e hm
    have he := wf_marks hwf e hm
    have hnrFL := noReachRedirect_embedded F q.instrs Q
      (List.replicate q.instrs.length true) List.length_replicate hnr
    constructor
    · rw [hFL, List.getElem?_append_right (by simp), List.getElem?_append_left (by simpa using he)]
      simp [he]
    · rw [hFL, posOf_eq_count _ _ _ hnrFL (by simp; omega),
        countTrue_take_falses, countTrue_take_trues _ _ _ (Nat.le_of_lt he)]
  rw [normalise_of_reach (by
    rw [plainMarks_framed, hfl]
    exact List.forall_mem_map.mpr fun e he => (hpos e he).1), hfl]
  obtain ⟨h1, h2⟩ := map_marks_id (fun m => posOf (F ++ q.instrs ++ Q) FL (F.length + m)) fun m hm => (hpos m hm).2
  simp only [framed, shift, hcomp, closed_fixLast _ hcl, Option.map_map, List.map_map, Function.comp_def, h1, h2]

theorem closed_append : ∀ (A B : List Instr), closed A = true → closed B = true → closed (A ++ B) = true := by
  intro A
  induction A with
  | nil => intro B _ hB; simpa using hB
  | cons a t ih =>
    intro B hA hB
    obtain ⟨hnext, hct⟩ := closed_cons hA
    simp only [List.cons_append, closed, ih B hct hB, Bool.and_true]
    cases hn : a.next with
    | none => rfl
    | some s =>
      have := hnext s hn
      simp only [List.length_append, decide_eq_true_eq]
      omega

theorem closed_of_next_none : ∀ (A : List Instr), (∀ i ∈ A, i.next = none) → closed A = true := by
  intro A
  induction A with
  | nil => intro _; rfl
  | cons a t ih =>
    intro h
    simp only [closed, h a (List.mem_cons_self ..), ih (fun i hi => h i (List.mem_cons_of_mem _ hi)), Bool.and_self]

theorem nwf_framed (F Q : List Instr) {q : Prog} {es : List (Nat × Nat)} (hwf : wf q es = true)
    (hF : closed F = true) (hQc : closed Q = true) (hQ : q.lb.isSome = true → Q ≠ []) :
    nwf (framed F Q q) (shift F.length es) = true := by
  obtain ⟨_, hcl, hent, _⟩ := wf_parts hwf
  simp only [nwf, Bool.and_eq_true, List.all_eq_true, decide_eq_true_eq]
  refine ⟨⟨⟨?_, ?_⟩, ?_⟩, noReachRedirect_framed F Q hwf hQ⟩
  · simp only [framed]
    rw [List.append_assoc]
    exact closed_append _ _ hF (closed_append _ _ hcl hQc)
  · intro ce hce
    obtain ⟨ce0, hce0, rfl⟩ := List.mem_map.mp hce
    have := hent ce0 hce0
    simp only [framed, List.length_append]
    omega
  · have := framed_lb_lt F Q hwf hQ
    cases hl : (framed F Q q).lb with
    | none => rfl
    | some l => simpa using this l hl

end C11
