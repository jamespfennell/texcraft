import TexcraftModel.Model.C07Scan
import TexcraftModel.Lemmas.C07

/-! # C07 — lemmas about operand scanning on tokens (Model/C07Scan.lean)

The surface machine simulates the abstract one token by token: `surfaceT_step` when the operand
is terminated (or the machine is skipping), `loose_pair` when a stopper ends the number and is
read again (`ustep_reread`). The fuel parameter of `ustepF` and `ufinishF` shows only in the three
walks over their clauses at the end: that it suffices (`ustepF_no_fuel`, `ufinishF_no_fuel`) and
that the code and TeX's rule differ only in the situation of C07-i (`ustepF_boundary`). -/
namespace C07

theorem usteps_append (tex : Bool) : ∀ (a b : List UTok) (s : USt),
    usteps tex s (a ++ b) = match usteps tex s a with | .ok s' => usteps tex s' b | .error e => .error e
  | [], b, s => rfl
  | t :: ts, b, s => by
    simp only [List.cons_append, usteps]
    cases ustep tex s t with
    | error e => rfl
    | ok s' => exact usteps_append tex ts b s'

theorem urun_append (tex : Bool) : ∀ (a b : List UTok) (s : USt),
    urun tex s (a ++ b) = match usteps tex s a with | .ok s' => urun tex s' b | .error e => .error e
  | [], b, s => rfl
  | t :: ts, b, s => by
    simp only [List.cons_append, urun, usteps]
    cases ustep tex s t with
    | error e => rfl
    | ok s' => exact urun_append tex ts b s'

theorem ustep_nil (tex : Bool) (st g o) (t : UTok) :
    ustep tex ⟨st, .deliver, g, o, []⟩ t =
      if isIf t || isClosing t then ucond ⟨st, .deliver, g, o, []⟩ t
      else umain ⟨st, .deliver, g, o, []⟩ t := rfl

theorem ustep_cond (tex : Bool) (st g o) (f : Frame) (rest : List Frame) (t : UTok)
    (h : ((isIf t || isClosing t) && !(tex && isClosing t && st.length == f.base)) = true) :
    ustep tex ⟨st, .deliver, g, o, f :: rest⟩ t = ucond ⟨st, .deliver, g, o, f :: rest⟩ t :=
  if_pos h

theorem ustep_digit (tex : Bool) (st g o) (k neg) (acc : Int) (base rest) (d : Nat)
    (h : acc * 10 + d ≤ 2147483647) :
    ustep tex ⟨st, .deliver, g, o, .digits k neg acc base :: rest⟩ (.dig d) =
      .ok ⟨st, .deliver, g, o, .digits k neg (acc * 10 + d) base :: rest⟩ := by
  have h' : ¬ (acc * 10 + (d : Int) > 2147483647) := by omega
  exact if_neg h'

theorem ustep_first_digit (tex : Bool) (st g o) (k neg) (base rest) (d : Nat) :
    ustep tex ⟨st, .deliver, g, o, .signs k neg base :: rest⟩ (.dig d) =
      .ok ⟨st, .deliver, g, o, .digits k neg d base :: rest⟩ := rfl

theorem ustep_minus (tex : Bool) (st g o) (k neg) (base rest) :
    ustep tex ⟨st, .deliver, g, o, .signs k neg base :: rest⟩ .minus =
      .ok ⟨st, .deliver, g, o, .signs k (!neg) base :: rest⟩ := rfl

theorem ustep_sp_digits (tex : Bool) (st g o) (k neg) (acc : Int) (base rest) :
    ustep tex ⟨st, .deliver, g, o, .digits k neg acc base :: rest⟩ .sp =
      .ok (complete ⟨st, .deliver, g, o, .digits k neg acc base :: rest⟩ k
        (if neg then negate32 acc else acc) base rest) := rfl

theorem complete_frames (s : USt) (k : Pending) (v : Int) (base : Nat) (rest : List Frame) (hk : k ≠ .num1) :
    (complete s k v base rest).frames = rest := by
  cases k with
  | num1 => exact absurd rfl hk
  | odd | case | num2 a r => simp only [complete]; split <;> rfl

/-- `hc`: the token reaches the scanner (it is no conditional command, or TeX's rule withholds it
from the conditional machine). The fuel handed on is the fuel `ustep` gives the completed state;
when the relation comes next it is one less, and that clause reads nothing twice. -/
theorem ustep_reread (tex : Bool) (st g o) (k : Pending) (neg : Bool) (acc : Int) (base : Nat)
    (rest : List Frame) (t : UTok)
    (hc : ((isIf t || isClosing t) && !(tex && isClosing t && st.length == base)) = false)
    (hd : ∀ d, t ≠ .dig d) (hsp : t ≠ .sp) :
    ustep tex ⟨st, .deliver, g, o, .digits k neg acc base :: rest⟩ t =
      ustep tex (complete ⟨st, .deliver, g, o, .digits k neg acc base :: rest⟩ k
        (if neg then negate32 acc else acc) base rest) t := by
  have h : ustep tex ⟨st, .deliver, g, o, .digits k neg acc base :: rest⟩ t =
      ustepF tex (rest.length + 2) (complete ⟨st, .deliver, g, o, .digits k neg acc base :: rest⟩ k
        (if neg then negate32 acc else acc) base rest) t := by
    show ustepF tex ((rest.length + 2) + 1) _ t = _
    rw [ustepF]
    -- the match on `t` falls through to its last clause by `hd` and `hsp`
    simp only [Frame.base, hc, Bool.false_eq_true, if_false]
  rw [h]
  cases k with
  | num1 => rfl
  | odd | case | num2 a r =>
    show _ = ustepF tex ((complete _ _ _ base rest).frames.length + 2) _ t
    rw [complete_frames _ _ _ _ _ (by simp)]

theorem ustep_rel (tex : Bool) (st g o) (neg : Bool) (acc : Int) (base rest) (r : Rel) :
    ustep tex ⟨st, .deliver, g, o, .digits .num1 neg acc base :: rest⟩ (.rel r) =
      .ok ⟨st, .deliver, g, o, .signs (.num2 (if neg then negate32 acc else acc) r) false base :: rest⟩ :=
  ustep_reread tex st g o .num1 neg acc base rest (.rel r) rfl nofun nofun

theorem scan_decDigits (tex : Bool) (st g o) (k neg) (base rest) : ∀ (n : Nat), n ≤ 2147483647 →
    usteps tex ⟨st, .deliver, g, o, .signs k neg base :: rest⟩ ((decDigits n).map .dig) =
      .ok ⟨st, .deliver, g, o, .digits k neg n base :: rest⟩ := by
  intro n
  fun_induction decDigits n with
  | case1 n h => intro _; rfl
  | case2 n h ih =>
    intro hn
    have e : ((n / 10 : Nat) : Int) * 10 + ((n % 10 : Nat) : Int) = (n : Int) := by
      exact_mod_cast Nat.div_add_mod' n 10
    rw [List.map_append, usteps_append, ih (Nat.le_trans (Nat.div_le_self n 10) hn)]
    simp only [List.map_cons, List.map_nil, usteps]
    rw [ustep_digit tex st g o k neg _ base rest (n % 10) (by rw [e]; exact Int.ofNat_le.2 hn), e]

theorem scan_numToks (tex : Bool) (st g o) (k) (base rest) (n : Int) (hn : n.natAbs ≤ 2147483647) :
    usteps tex ⟨st, .deliver, g, o, .signs k false base :: rest⟩ (numToks n) =
      .ok ⟨st, .deliver, g, o, .digits k (decide (n < 0)) n.natAbs base :: rest⟩ := by
  unfold numToks
  by_cases h : n < 0
  · simp only [h, if_true, List.singleton_append, usteps, ustep_minus, decide_true, Bool.not_false]
    exact scan_decDigits tex st g o k true base rest n.natAbs hn
  · simp only [h, if_false, List.nil_append, decide_false]
    exact scan_decDigits tex st g o k false base rest n.natAbs hn

theorem scan_head (tex : Bool) (st g o) (u : UTok) (k : Pending) (n : Int) (hn : n.natAbs ≤ 2147483647)
    (hu : ustep tex ⟨st, .deliver, g, o, []⟩ u = .ok ⟨st, .deliver, g, o, [.signs k false st.length]⟩) :
    usteps tex ⟨st, .deliver, g, o, []⟩ (u :: numToks n) =
      .ok ⟨st, .deliver, g, o, [.digits k (decide (n < 0)) n.natAbs st.length]⟩ := by
  simp only [usteps, hu]
  exact scan_numToks tex st g o k st.length [] n hn

theorem value_of_scan (n : Int) :
    (if decide (n < 0) = true then negate32 (n.natAbs : Int) else (n.natAbs : Int)) = n := by
  unfold negate32
  by_cases h : n < 0
  · have : ¬ ((n.natAbs : Int) = -2147483648) := by omega
    simp [h, this]; omega
  · simp [h]; omega

theorem ustep_skip (tex : Bool) (s : USt) (t : UTok) (h : s.mode ≠ .deliver) :
    ustep tex s t = .ok (uskip s t) := by
  unfold ustep ustepF
  cases hm : s.mode <;> simp_all

/-- Why `skipNext` may run `step` at `g = 0`, `o = []` and drop the error case. -/
theorem step_skip_frame (st : List BranchKind) (m : Mode) (t : Tok) (h : m ≠ .deliver) :
    ∃ st' m', ∀ g o, step ⟨st, m, g, o⟩ t = .ok ⟨st', m', g, o⟩ := by
  have fi : ∀ d again, ∃ st' m', ∀ g o,
      (Except.ok (fiClause ⟨st, m, g, o⟩ d again) : Except Err St) = .ok ⟨st', m', g, o⟩ := fun d again => by
    by_cases hd : d - 1 < 0
    · exact ⟨st, .deliver, fun _ _ => congrArg Except.ok (if_pos hd)⟩
    · exact ⟨st, again (d - 1), fun _ _ => congrArg Except.ok (if_neg hd)⟩
  have els : ∀ d : Int, ∃ st' m', ∀ g o,
      (if (d == 0) = true then Except.ok ⟨.els :: st, .deliver, g, o⟩ else .ok ⟨st, m, g, o⟩ :
        Except Err St) = .ok ⟨st', m', g, o⟩ := fun d => by
    by_cases hd : (d == 0) = true
    · exact ⟨_, _, fun _ _ => if_pos hd⟩
    · exact ⟨_, _, fun _ _ => if_neg hd⟩
  cases m with
  | deliver => exact absurd rfl h
  | skipFalse d =>
    cases t with
    | els => exact els d
    | fi => exact fi d _
    | _ => exact ⟨_, _, fun _ _ => rfl⟩
  | skipCase l d =>
    cases t with
    | orr =>
      by_cases hc : (d == 0 && decide (l > 0)) = true
      · by_cases h1 : (l - 1 == 0) = true
        · exact ⟨.switch :: st, .deliver, fun _ _ => (if_pos hc).trans (if_pos h1)⟩
        · exact ⟨_, _, fun _ _ => (if_pos hc).trans (if_neg h1)⟩
      · exact ⟨_, _, fun _ _ => if_neg hc⟩
    | els => exact els d
    | fi => exact fi d _
    | _ => exact ⟨_, _, fun _ _ => rfl⟩
  | skipOr d | skipElse d =>
    cases t with
    | fi => exact fi d _
    | _ => exact ⟨_, _, fun _ _ => rfl⟩

theorem step_skip_shape (st : List BranchKind) (m : Mode) (g : Nat) (o : List Tok) (t : Tok)
    (h : m ≠ .deliver) :
    step ⟨st, m, g, o⟩ t = .ok ⟨(skipNext st m t).1, (skipNext st m t).2, g, o⟩ := by
  obtain ⟨st', m', hf⟩ := step_skip_frame st m t h
  simp only [skipNext, hf]

theorem Mode.isSkip_of_ne {m : Mode} (h : m ≠ .deliver) : ∃ mk d, IsSkip mk ∧ m = mk d := by
  cases m with
  | deliver => exact absurd rfl h
  | skipFalse d => exact ⟨_, d, isSkip_false, rfl⟩
  | skipCase l d => exact ⟨_, d, isSkip_case l, rfl⟩
  | skipOr d => exact ⟨_, d, isSkip_or, rfl⟩
  | skipElse d => exact ⟨_, d, isSkip_else, rfl⟩

theorem IsSkip.ne_deliver {mk} (h : IsSkip mk) (d : Int) : mk d ≠ .deliver := by
  rcases h with rfl | ⟨l, rfl⟩ | rfl | rfl <;> exact Mode.noConfusion

theorem skipNext_plain {mk} (h : IsSkip mk) (st) (d : Int) (p : Plain) :
    skipNext st (mk d) p.tok = (st, mk d) := by
  simp only [skipNext, step_skip_plain h]

theorem skipNext_iff {mk} (h : IsSkip mk) (st) (d : Int) (c : Test) :
    skipNext st (mk d) (.iff c) = (st, mk (d + 1)) := by
  simp only [skipNext, step_skip_iff h]

theorem skipNext_ifcase {mk} (h : IsSkip mk) (st) (d : Int) (n : Int) :
    skipNext st (mk d) (.ifcase n) = (st, mk (d + 1)) := by
  simp only [skipNext, step_skip_ifcase h]

theorem ustep_skip_lift (tex : Bool) (st m g o) (h : m ≠ .deliver) (u : UTok) :
    ustep tex (St.lift ⟨st, m, g, o⟩) u =
      .ok (St.lift ⟨(skipNext st m u.skipClass).1, (skipNext st m u.skipClass).2, g, o⟩) :=
  ustep_skip tex (St.lift ⟨st, m, g, o⟩) u h

theorem usteps_skip_plain (tex : Bool) {mk} (h : IsSkip mk) (st g o) (d : Int) : ∀ l : List UTok,
    (∀ t ∈ l, t.skipClass = .other 0) → usteps tex (St.lift ⟨st, mk d, g, o⟩) l = .ok (St.lift ⟨st, mk d, g, o⟩)
  | [], _ => rfl
  | t :: ts, hl => by
    rw [usteps, ustep_skip_lift tex st _ g o (h.ne_deliver d), hl t (List.mem_cons_self ..),
      show skipNext st (mk d) (.other 0) = _ from skipNext_plain h st d (.other 0)]
    exact usteps_skip_plain tex h st g o d ts fun t ht => hl t (List.mem_cons_of_mem _ ht)

theorem numToks_plain (n : Int) : ∀ t ∈ numToks n, t.skipClass = .other 0 := by
  intro t ht
  unfold numToks at ht
  simp only [List.mem_append, List.mem_map] at ht
  rcases ht with ht | ⟨d, _, rfl⟩
  · split at ht <;> simp_all [UTok.skipClass]
  · rfl

theorem operandEnd_plain (n : Int) (b : Bool) :
    ∀ t ∈ numToks n ++ (if b then [UTok.sp] else []), t.skipClass = .other 0 := by
  intro t ht
  rcases List.mem_append.1 ht with ht | ht
  · exact numToks_plain n t ht
  · cases b <;> simp_all [UTok.skipClass]

/-- `ht`: a surface form is one token, or a token of if-class followed by its operand: plain
tokens, which the loop (then one level deeper) ignores. -/
theorem skip_form (tex : Bool) (st m g o) (h : m ≠ .deliver) (u : UTok) (tail : List UTok) (t : Tok)
    (hs : skipNext st m u.skipClass = skipNext st m t)
    (ht : tail = [] ∨ (u.skipClass = .iff .tt ∧ ∀ x ∈ tail, x.skipClass = .other 0)) :
    usteps tex (St.lift ⟨st, m, g, o⟩) (u :: tail) = liftRes (step ⟨st, m, g, o⟩ t) := by
  rw [step_skip_shape st m g o t h, ← hs, usteps, ustep_skip_lift tex st m g o h]
  rcases ht with rfl | ⟨hu, hp⟩
  · rfl
  · obtain ⟨mk, d, hmk, rfl⟩ := Mode.isSkip_of_ne h
    rw [hu, skipNext_iff hmk]
    exact usteps_skip_plain tex hmk st g o (d + 1) tail hp

theorem surfaceT_skip (tex : Bool) (s : St) (t : Tok) (b : Bool) (h : s.mode ≠ .deliver) :
    usteps tex s.lift (surfaceT b t) = liftRes (step s t) := by
  obtain ⟨st, m, g, o⟩ := s
  obtain ⟨mk, d, hmk, rfl⟩ := Mode.isSkip_of_ne h
  have hplain : ∀ p : Plain, skipNext st (mk d) (.other 0) = skipNext st (mk d) p.tok := fun p =>
    (skipNext_plain hmk st d (.other 0)).trans (skipNext_plain hmk st d p).symm
  cases t with
  | iff c =>
    have hc : skipNext st (mk d) (.iff .tt) = skipNext st (mk d) (.iff c) := by
      rw [skipNext_iff hmk, skipNext_iff hmk]
    cases c with
    | tt | ff => exact skip_form tex st _ g o h _ [] _ hc (Or.inl rfl)
    | odd n => exact skip_form tex st _ g o h .iodd _ _ hc (Or.inr ⟨rfl, operandEnd_plain n b⟩)
    | num x r y =>
      refine skip_form tex st _ g o h .inum _ _ hc (Or.inr ⟨rfl, fun t ht => ?_⟩)
      rcases List.mem_append.1 ht with ht | ht
      · exact numToks_plain x t ht
      · rcases List.mem_cons.1 ht with rfl | ht
        · rfl
        · exact operandEnd_plain y b t ht
  | ifcase n =>
    refine skip_form tex st _ g o h .icase _ _ ?_ (Or.inr ⟨rfl, operandEnd_plain n b⟩)
    rw [skipNext_ifcase hmk]
    exact skipNext_iff hmk st d .tt
  | els | orr | fi => exact skip_form tex st _ g o h _ [] _ rfl (Or.inl rfl)
  | other n => exact skip_form tex st _ g o h (.other n) [] _ (hplain (.other n)) (Or.inl rfl)
  | bg => exact skip_form tex st _ g o h .bg [] _ (hplain .bg) (Or.inl rfl)
  | eg => exact skip_form tex st _ g o h .eg [] _ (hplain .eg) (Or.inl rfl)

theorem liftRes_ite (c : Prop) [Decidable c] (a b : St) :
    liftRes (if c then .ok a else .ok b) = .ok (if c then a.lift else b.lift) := by
  split <;> rfl

/-- An operand written without its terminating space leaves the scanner in the digits phase of
the condition's last number, and completing that number is the abstract step. -/
theorem scan_operand (tex : Bool) (st g o) (t : Tok) (ht : t.operandsOk) (hop : t.hasOperand = true) :
    ∃ k neg acc,
      usteps tex (St.lift ⟨st, .deliver, g, o⟩) (surfaceT false t) =
        .ok ⟨st, .deliver, g, o.map Tok.toU, [.digits k neg acc st.length]⟩ ∧
      liftRes (step ⟨st, .deliver, g, o⟩ t) =
        .ok (complete ⟨st, .deliver, g, o.map Tok.toU, [.digits k neg acc st.length]⟩ k
          (if neg then negate32 acc else acc) st.length []) :=
  match t, hop, ht with
  | .iff (.odd n), _, ht => by
    refine ⟨.odd, decide (n < 0), n.natAbs, ?_, ?_⟩
    · simp only [surfaceT, Bool.false_eq_true, if_false, List.append_nil]
      exact scan_head tex st g _ .iodd .odd n ht rfl
    · -- `step` and `complete` make the same test and differ only in where `.ok` and the lifting stand
      rw [value_of_scan n]
      exact liftRes_ite _ _ _
  | .ifcase n, _, ht => by
    refine ⟨.case, decide (n < 0), n.natAbs, ?_, ?_⟩
    · simp only [surfaceT, Bool.false_eq_true, if_false, List.append_nil]
      exact scan_head tex st g _ .icase .case n ht rfl
    · rw [value_of_scan n]
      exact liftRes_ite _ _ _
  | .iff (.num a r b), _, ht => by
    refine ⟨.num2 a r, decide (b < 0), b.natAbs, ?_, ?_⟩
    · simp only [surfaceT, Bool.false_eq_true, if_false, List.append_nil, St.lift]
      rw [← List.cons_append, usteps_append, scan_head tex st g _ .inum .num1 a ht.1 rfl]
      simp only [usteps, ustep_rel, value_of_scan a]
      exact scan_numToks tex st g _ (.num2 a r) st.length [] b ht.2
    · rw [value_of_scan b]
      exact liftRes_ite _ _ _

theorem surfaceT_true (t : Tok) : surfaceT true t = surface t := by
  cases t with
  | iff c => cases c <;> rfl
  | _ => rfl

theorem surfaceT_noOperand (b : Bool) (t : Tok) (h : t.hasOperand = false) : surfaceT b t = surface t := by
  cases t with
  | iff c =>
    cases c with
    | tt | ff => rfl
    | odd n | num x r y => cases h
  | ifcase n => cases h
  | _ => rfl

theorem surface_eq_append_sp (t : Tok) (h : t.hasOperand = true) : surface t = surfaceT false t ++ [.sp] :=
  match t, h with
  | .iff (.odd n), _ => by simp [surface, surfaceT]
  | .iff (.num a r b), _ => by simp [surface, surfaceT]
  | .ifcase n, _ => by simp [surface, surfaceT]

theorem surface_deliver (tex : Bool) (st g o) (t : Tok) (ht : t.operandsOk) :
    usteps tex (St.lift ⟨st, .deliver, g, o⟩) (surface t) = liftRes (step ⟨st, .deliver, g, o⟩ t) := by
  by_cases hop : t.hasOperand = true
  · obtain ⟨k, neg, acc, hscan, hstep⟩ := scan_operand tex st g o t ht hop
    rw [surface_eq_append_sp t hop, usteps_append, hscan, hstep]
    rfl
  · cases t with
    | iff c =>
      cases c with
      | tt | ff => rfl
      | odd n | num a r b => exact absurd rfl hop
    | ifcase n => exact absurd rfl hop
    | els | orr =>
      cases st with
      | nil => rfl
      | cons b st' => cases b <;> rfl
    | fi => cases st <;> rfl
    | other n | bg =>
      -- not `rfl`: the outputs are `o.map _ ++ [_]` and `(o ++ [_]).map _`
      show Except.ok _ = liftRes (Except.ok _)
      simp [liftRes, St.lift, Tok.toU]
    | eg =>
      cases g with
      | zero => rfl
      | succ g =>
        show Except.ok _ = liftRes (Except.ok _)
        simp [liftRes, St.lift, Tok.toU]

theorem surfaceT_step (tex : Bool) (s : St) (t : Tok) (b : Bool) (ht : t.operandsOk)
    (h : s.mode ≠ .deliver ∨ b = true ∨ t.hasOperand = false) :
    usteps tex s.lift (surfaceT b t) = liftRes (step s t) := by
  by_cases hm : s.mode = .deliver
  · have hsurf : surfaceT b t = surface t := by
      rcases h with h | rfl | h
      · exact absurd hm h
      · exact surfaceT_true t
      · exact surfaceT_noOperand b t h
    obtain ⟨st, m, g, o⟩ := s
    subst hm
    rw [hsurf]
    exact surface_deliver tex st g o t ht
  · exact surfaceT_skip tex s t b hm

theorem map_toU_tok (l : List Plain) : (l.map Plain.tok).map Tok.toU = l.map Plain.utok := by
  rw [List.map_map]
  exact List.map_congr_left fun p _ => by cases p <;> rfl

theorem liftRes_plain (st m g) (l : List Plain) :
    liftRes (.ok ⟨st, m, g, l.map Plain.tok⟩) = .ok ⟨st, m, g, l.map Plain.utok, []⟩ :=
  congrArg (fun o => Except.ok (USt.mk st m g o [])) (map_toU_tok l)

theorem ufinish_lift (s : St) : ufinish s.lift = liftRes (finish s) := by
  obtain ⟨st, m, g, o⟩ := s
  cases m <;> rfl

theorem surface_run (tex : Bool) : ∀ (l : List Tok) (s : St), (∀ t ∈ l, t.operandsOk) →
    urun tex s.lift (surfaceAll l) = liftRes (run s l)
  | [], s, _ => ufinish_lift s
  | t :: ts, s, h => by
    have e := surfaceT_step tex s t true (h t (List.mem_cons_self ..)) (Or.inr (Or.inl rfl))
    rw [surfaceT_true] at e
    simp only [surfaceAll, urun_append, e, run_cons]
    cases step s t with
    | error e => rfl
    | ok s' => exact surface_run tex ts s' (fun t ht => h t (List.mem_cons_of_mem _ ht))

theorem stopper_noOperand (tex : Bool) (t' : Tok) (h : stopper tex t' = true) : t'.hasOperand = false := by
  cases t' with
  | iff c => cases h
  | ifcase n => cases h
  | _ => rfl

theorem stopper_reread (tex : Bool) (t' : Tok) (h : stopper tex t' = true) :
    ∃ u, surface t' = [u] ∧
      (∀ base : Nat, ((isIf u || isClosing u) && !(tex && isClosing u && base == base)) = false) ∧
      (∀ d, u ≠ .dig d) ∧ u ≠ .sp := by
  cases t' with
  | iff c => cases h
  | ifcase n => cases h
  | other n | bg | eg => exact ⟨_, rfl, fun _ => rfl, nofun, nofun⟩
  | els | orr | fi =>
    have : tex = true := h
    subst this
    refine ⟨_, rfl, fun base => ?_, nofun, nofun⟩
    all_goals
      show (!(base == base)) = false
      rw [beq_self_eq_true]
      rfl

theorem loose_pair (tex : Bool) (st g o) (t t' : Tok) (ht : t.operandsOk) (hop : t.hasOperand = true)
    (hs : stopper tex t' = true) (tail : List UTok) :
    urun tex (St.lift ⟨st, .deliver, g, o⟩) (surfaceT false t ++ (surface t' ++ tail)) =
      match step ⟨st, .deliver, g, o⟩ t with
      | .ok s1 => urun tex s1.lift (surface t' ++ tail)
      | .error e => .error (.cond e) := by
  obtain ⟨u, hu, hc, hd, hsp⟩ := stopper_reread tex t' hs
  obtain ⟨k, neg, acc, hscan, hstep⟩ := scan_operand tex st g o t ht hop
  rw [hu, urun_append, hscan]
  simp only [List.cons_append, List.nil_append, urun]
  rw [ustep_reread tex st g _ k neg acc st.length [] u (hc _) hd hsp]
  cases hs1 : step ⟨st, .deliver, g, o⟩ t with
  | error e => rw [hs1] at hstep; cases hstep
  | ok s1 =>
    rw [hs1] at hstep
    rw [← Except.ok.inj hstep]

theorem looseOk_cons (tex : Bool) (t : Tok) (b : Bool) (tl : List (Tok × Bool))
    (h : looseOk tex ((t, b) :: tl) = true) :
    looseOk tex tl = true ∧
      (b = false → t.hasOperand = true → ∃ t' b' rest, tl = (t', b') :: rest ∧ stopper tex t' = true) := by
  cases tl with
  | nil =>
    refine ⟨rfl, fun hb hop => ?_⟩
    simp [looseOk, hb, hop] at h
  | cons p rest =>
    obtain ⟨t', b'⟩ := p
    simp only [looseOk, Bool.and_eq_true] at h
    refine ⟨h.2, fun hb hop => ⟨t', b', rest, rfl, ?_⟩⟩
    simpa [hb, hop] using h.1

theorem surfaceL_run (tex : Bool) : ∀ (l : List (Tok × Bool)) (s : St), looseOk tex l = true →
    (∀ p ∈ l, p.1.operandsOk) → urun tex s.lift (surfaceL l) = liftRes (run s (l.map Prod.fst))
  | [], s, _, _ => ufinish_lift s
  | (t, b) :: tl, s, hl, ho => by
    obtain ⟨htl, hhead⟩ := looseOk_cons tex t b tl hl
    have hot : t.operandsOk := ho (t, b) (List.mem_cons_self ..)
    have ih := fun s1 =>
      surfaceL_run tex tl s1 htl fun p hp => ho p (List.mem_cons_of_mem _ hp)
    by_cases hterm : s.mode ≠ .deliver ∨ b = true ∨ t.hasOperand = false
    · simp only [surfaceL, List.map_cons, urun_append, surfaceT_step tex s t b hot hterm, run_cons]
      cases step s t with
      | error e => rfl
      | ok s1 => exact ih s1
    · obtain ⟨hm, hb, hop⟩ : s.mode = .deliver ∧ b = false ∧ t.hasOperand = true := by simpa using hterm
      obtain ⟨t', b', rest, rfl, hs⟩ := hhead hb hop
      obtain ⟨st, m, g, o⟩ := s
      subst hm hb
      simp only [surfaceL, surfaceT_noOperand b' t' (stopper_noOperand tex t' hs)] at ih ⊢
      rw [List.map_cons, run_cons, loose_pair tex st g o t t' hot hop hs]
      cases step ⟨st, .deliver, g, o⟩ t with
      | error e => rfl
      | ok s1 => exact ih s1

theorem looseOk_loosen (tex : Bool) : ∀ (l : List Tok), looseOk tex (loosen tex l) = true
  | [] => rfl
  | [t] => by simp [loosen, looseOk]
  | t :: t' :: rest => by
    have ih := looseOk_loosen tex (t' :: rest)
    cases rest with
    | nil =>
      simp only [loosen, looseOk, Bool.and_eq_true, Bool.or_eq_true, Bool.not_eq_true', Bool.and_eq_false_imp]
      refine ⟨?_, by simp⟩
      cases t.hasOperand <;> cases stopper tex t' <;> simp
    | cons t'' r =>
      simp only [loosen, looseOk, Bool.and_eq_true, Bool.or_eq_true, Bool.not_eq_true'] at ih ⊢
      refine ⟨?_, ih⟩
      cases t.hasOperand <;> cases stopper tex t' <;> simp

theorem loosen_fst (tex : Bool) : ∀ (l : List Tok), (loosen tex l).map Prod.fst = l
  | [] => rfl
  | [t] => rfl
  | t :: t' :: rest => by simp [loosen, loosen_fst tex (t' :: rest)]

theorem ucond_no_fuel (s : USt) (t : UTok) : ucond s t ≠ .error .fuel := by
  unfold ucond
  repeat' split
  all_goals nofun

theorem umain_no_fuel (s : USt) (t : UTok) : umain s t ≠ .error .fuel := by
  unfold umain
  repeat' split
  all_goals nofun

theorem ite_no_fuel {c : Prop} [Decidable c] {a b : Except UErr USt} (ha : a ≠ .error .fuel)
    (hb : b ≠ .error .fuel) : (if c then a else b) ≠ .error .fuel := by
  split <;> assumption

/-- The fuel `frames.length + 2` (and anything from `frames.length + 1` on) suffices: a token is
re-read at most once per condition under evaluation. Along the clauses of `ustepF`: only the
re-reading one passes fuel on. -/
theorem ustepF_no_fuel (tex : Bool) (n : Nat) (s : USt) (t : UTok) (h : s.frames.length + 1 ≤ n) :
    ustepF tex n s t ≠ .error .fuel := by
  fun_induction ustepF tex n s t with
  | case1 => omega
  | case2 | case4 => exact ucond_no_fuel _ _
  | case3 => exact umain_no_fuel _ _
  | case14 fuel s t hm rest k neg acc base _ _ hf _ _ ih =>
    -- the token is read again by the completed state
    rw [hf] at h
    cases k with
    | num1 =>
      -- the scanner moves on to the relation: no further re-reading
      cases fuel with
      | zero => simp at h
      | succ n' =>
        rw [ustepF]
        simp only [complete, hm]
        refine ite_no_fuel (ucond_no_fuel _ _) ?_
        split <;> nofun
    | odd | case | num2 a r =>
      exact ih (by rw [complete_frames _ _ _ _ _ (by simp)]; simp at h; omega)
  | _ => nofun

theorem ufinishF_no_fuel (n : Nat) (s : USt) (h : s.frames.length + 1 ≤ n) : ufinishF n s ≠ .error .fuel := by
  fun_induction ufinishF n s with
  | case1 => omega
  | case5 fuel s hm k neg acc base rest hf ih =>
    rw [hf] at h
    cases k with
    | num1 =>
      cases fuel with
      | zero => simp at h
      | succ n' => simp [complete, ufinishF, hm]
    | odd | case | num2 a r =>
      exact ih (by rw [complete_frames _ _ _ _ _ (by simp)]; simp at h; omega)
  | _ => nofun

/-- The two rules differ only in `texRelax`, which asks for a closing token at the stack height
the scanning conditional started at; away from that they walk the same clauses. -/
theorem ustepF_boundary (n : Nat) : ∀ (s : USt) (t : UTok), closesWhileScanning s t = false →
    ustepF false n s t = ustepF true n s t := by
  induction n with
  | zero => intros; rfl
  | succ n ih =>
    intro s t h
    obtain ⟨st, m, g, o, fr⟩ := s
    cases m with
    | deliver =>
      cases fr with
      | nil => rfl
      | cons f rest =>
        -- `h` switches TeX's rule off: the first test is `isIf t || isClosing t` either way
        have hC : ∀ tex : Bool, ((isIf t || isClosing t) && !(tex && isClosing t && st.length == f.base)) =
            (isIf t || isClosing t) := fun tex => by
          rw [Bool.and_assoc tex, show (isClosing t && st.length == f.base) = false from h, Bool.and_false,
            Bool.not_false, Bool.and_true]
        by_cases hi : (isIf t || isClosing t) = true
        · exact (if_pos ((hC false).trans hi)).trans (if_pos ((hC true).trans hi)).symm
        · refine (if_neg fun h => hi ((hC false).symm.trans h)).trans
            (Eq.trans ?_ (if_neg fun h => hi ((hC true).symm.trans h)).symm)
          cases f with
          | signs k neg base => rfl
          | relsp a base => rfl
          | digits k neg acc base =>
            simp only []
            split
            · rfl
            · rfl
            · -- read again: `t` is not a closing token, so the hypothesis holds of any state
              refine ih _ _ ?_
              have : isIf t = false ∧ isClosing t = false := by simpa using hi
              simp [closesWhileScanning, this.2]
    | skipFalse d | skipCase l d | skipOr d | skipElse d => rfl
end C07
