/-
C11 — `pack_entrypoints`. The chain walk is unmoved by words put around a table (`chain_embedded`); the
loop in closed form (`packLoop_run`, `packLoop_init`): the `k` largest entry points get redirect slots,
the rest are moved by the final offset, and the loop fails exactly when a slot number leaves a byte;
and `pack_spec`: the packed table is the program between the words of a `PackFrame` (`framed F Q p`),
each byte entry point unpacking to the character's old entry point moved behind `F`. Later lemma files
know `pack` through `pack_spec` (and `pack_nil`); the loop state is seen elsewhere only in `Props/C11.lean`.
-/
import TexcraftModel.Model.C11
import TexcraftModel.Lemmas.C11Dims
import TexcraftModel.Lemmas.C11Lookup

namespace C11

theorem chain_nil (e : Nat) : chain e [] = [] := by
  cases e <;> rfl

theorem chain_append_left (pre l : List Instr) (e : Nat) :
    chain (pre.length + e) (pre ++ l) = chain e l := by
  induction pre with
  | nil => simp
  | cons a pre ih =>
    rw [List.length_cons, Nat.add_right_comm]
    exact ih

theorem closed_cons {i : Instr} {rest : List Instr} (h : closed (i :: rest) = true) :
    (∀ s, i.next = some s → s < rest.length) ∧ closed rest = true := by
  simp only [closed, Bool.and_eq_true] at h
  refine ⟨?_, h.2⟩
  intro s hs
  have h1 := h.1
  rw [hs] at h1
  simpa using h1

theorem chain_append_right (l post : List Instr) (e : Nat) (hc : closed l = true)
    (he : e < l.length) : chain e (l ++ post) = chain e l := by
  fun_induction chain e l with
  | case1 => simp at he
  | case2 i rest ih =>
    obtain ⟨hnext, hrest⟩ := closed_cons hc
    simp only [List.cons_append, chain]
    cases hn : i.next with
    | none => rfl
    | some inc => simp only [ih inc hrest (hnext inc hn)]
  | case3 s i rest ih => exact ih (closed_cons hc).2 (by simpa using he)

theorem chain_embedded (pre l post : List Instr) (e : Nat) (hc : closed l = true)
    (he : e < l.length) : chain (pre.length + e) (pre ++ l ++ post) = chain e l := by
  rw [List.append_assoc, chain_append_left, chain_append_right l post e hc he]

/-- The initial state of the loop (lang.rs:565–579). -/
def initSt (rbSome : Bool) : LoopSt :=
  { offset := if rbSome then 1 else 0, redirects := [], assign := [], popped := false }

/-- How many entry points, from the head of the descending list, get a redirect word when `base`
words stand in front already: each redirect word moves the table one further. -/
def nRedirects (base : Nat) : List Nat → Nat
  | [] => 0
  | e :: rest => if e + base ≤ 255 then 0 else nRedirects (base + 1) rest + 1

theorem nRedirects_le (ds : List Nat) : ∀ base, nRedirects base ds ≤ ds.length := by
  intro base
  fun_induction nRedirects base ds with
  | case1 => exact Nat.le_refl 0
  | case2 base e rest h => exact Nat.zero_le _
  | case3 base e rest h ih => exact Nat.succ_le_succ ih

theorem fits_of_head {e off : Nat} {rest : List Nat} (hs : (e :: rest).Pairwise (· > ·)) (hfit : e + off ≤ 255) :
    ∀ e' ∈ e :: rest, e' + off ≤ 255 := by
  intro e' he'
  rcases List.mem_cons.mp he' with rfl | he'
  · exact hfit
  · have := (List.pairwise_cons.mp hs).1 e' he'; omega

theorem nRedirects_fits : ∀ (ds : List Nat) (base : Nat), ds.Pairwise (· > ·) →
    ∀ e ∈ ds.drop (nRedirects base ds), e + (base + nRedirects base ds) ≤ 255 := by
  intro ds base
  fun_induction nRedirects base ds with
  | case1 => intro _ e he; simp at he
  | case2 base d rest hfit => exact fun hs => fits_of_head hs hfit
  | case3 base d rest hfit ih =>
    intro hs e he
    have := ih (List.pairwise_cons.mp hs).2 e he
    omega

theorem packLoop_direct (rbSome : Bool) : ∀ (ds : List Nat) (i : Nat) (st : LoopSt),
    (∀ e ∈ ds, e + st.offset ≤ 255) →
    packLoop rbSome i ds st =
      some { st with assign := (ds.map fun e => (e, e + st.offset)).reverse ++ st.assign } := by
  intro ds
  induction ds with
  | nil => intro i st _; rfl
  | cons e rest ih =>
    intro i st h
    simp only [packLoop, h e (List.mem_cons_self ..), if_true]
    rw [ih (i + 1) ⟨st.offset, st.redirects, (e, e + st.offset) :: st.assign, st.popped⟩
      fun e' he' => h e' (List.mem_cons_of_mem _ he')]
    simp

theorem packLoop_run (rbSome : Bool) : ∀ (ds : List Nat) (i : Nat) (st : LoopSt) (k : Nat),
    (i == 0 && rbSome) = false → ds.Pairwise (· > ·) → st.offset ≤ 256 → nRedirects st.offset ds = k →
    packLoop rbSome i ds st =
      if st.offset + k ≤ 256 then
        some ⟨st.offset + k, st.redirects ++ ds.take k,
          ((ds.drop k).map fun e => (e, e + (st.offset + k))).reverse ++
            (((ds.take k).zipIdx st.offset).reverse ++ st.assign), st.popped⟩
      else none := by
  intro ds
  induction ds with
  | nil => intro i st k _ _ h hk; subst hk; simp [packLoop, nRedirects, h]
  | cons e rest ih =>
    intro i st k hpop hs hoff hk
    subst hk
    by_cases hfit : e + st.offset ≤ 255
    · simp only [nRedirects, hfit, if_true, Nat.add_zero, hoff, List.take_zero, List.append_nil, List.drop_zero,
        List.zipIdx_nil, List.reverse_nil, List.nil_append]
      exact packLoop_direct rbSome _ i st (fits_of_head hs hfit)
    · simp only [nRedirects, hfit, if_false, packLoop, hpop, Bool.false_eq_true, Bool.or_false]
      by_cases hoff' : st.offset ≤ 255
      · simp only [hoff', if_true]
        rw [ih (i + 1) _ _ (by simp) (List.pairwise_cons.mp hs).2 (by simp only; omega) rfl]
        simp only [Nat.add_assoc, Nat.add_comm 1, List.take_succ_cons, List.drop_succ_cons, List.zipIdx_cons,
          List.reverse_cons, List.append_assoc, List.singleton_append]
      · have : ¬ st.offset + (nRedirects (st.offset + 1) rest + 1) ≤ 256 := by omega
        simp only [hoff', this, if_false]

/-- The state the loop ends in when the `k` largest entry points are redirected: the carrier stays
only if there is no redirect word ("location 0 can do double duty", lang.rs:584–590). -/
def finalSt (rbSome : Bool) (ds : List Nat) (k : Nat) : LoopSt :=
  let c := if rbSome && k == 0 then 1 else 0
  ⟨c + k, ds.take k, ((ds.drop k).map fun e => (e, e + (c + k))).reverse ++ ((ds.take k).zipIdx 0).reverse,
    rbSome && k != 0⟩

theorem finalSt_keys (rbSome : Bool) (ds : List Nat) (k : Nat) :
    ∀ e ∈ ds, e ∈ (finalSt rbSome ds k).assign.map (·.1) := by
  intro e he
  rw [← List.take_append_drop k ds, List.mem_append] at he
  simpa [finalSt, Function.comp_def, or_comm] using he

theorem packLoop_init (rbSome : Bool) (ds : List Nat) (hs : ds.Pairwise (· > ·)) :
    ∃ k, k ≤ ds.length ∧ (∀ e ∈ ds.drop k, e + (finalSt rbSome ds k).offset ≤ 255) ∧
      packLoop rbSome 0 ds (initSt rbSome) = if k ≤ 256 then some (finalSt rbSome ds k) else none := by
  cases ds with
  | nil => exact ⟨0, Nat.le_refl 0, by simp, by cases rbSome <;> rfl⟩
  | cons e rest =>
    by_cases hfit : e + (initSt rbSome).offset ≤ 255
    · have hall := fits_of_head hs hfit
      refine ⟨0, Nat.zero_le _, by cases rbSome <;> exact hall, ?_⟩
      rw [packLoop_direct rbSome _ 0 _ hall]
      cases rbSome <;> simp [finalSt, initSt]
    · -- the first pass pushes a redirect word into slot 0, popping the carrier if there is one
      have h1 : packLoop rbSome 0 (e :: rest) (initSt rbSome) = packLoop rbSome 1 rest ⟨1, [e], [(e, 0)], rbSome⟩ := by
        simp only [packLoop, hfit, if_false]
        cases rbSome <;> rfl
      have hs' := (List.pairwise_cons.mp hs).2
      refine ⟨nRedirects 1 rest + 1, by have := nRedirects_le rest 1; simp only [List.length_cons]; omega,
        fun e' he' => ?_, ?_⟩
      · have := nRedirects_fits rest 1 hs' e' (by simpa using he')
        simp only [finalSt]
        simp
        omega
      · rw [h1, packLoop_run rbSome rest 1 _ _ rfl hs' (by simp only; omega) rfl]
        simp only [finalSt, Nat.add_comm 1, List.take_succ_cons, List.drop_succ_cons, List.zipIdx_cons,
          List.reverse_cons, List.singleton_append]
        simp

theorem packLoop_some {rbSome : Bool} {ds : List Nat} (hs : ds.Pairwise (· > ·)) {st : LoopSt}
    (h : packLoop rbSome 0 ds (initSt rbSome) = some st) :
    ∃ k, k ≤ ds.length ∧ k ≤ 256 ∧ (∀ e ∈ ds.drop k, e + st.offset ≤ 255) ∧ st = finalSt rbSome ds k := by
  obtain ⟨k, hk, hfit, hst⟩ := packLoop_init rbSome ds hs
  rw [h] at hst
  split at hst
  · obtain rfl := Option.some.inj hst
    exact ⟨k, hk, ‹_›, hfit, rfl⟩
  · cases hst

theorem lookup_map_nodup (f : Nat → Nat) (es : List (Nat × Nat)) (hnd : (es.map (·.1)).Nodup) :
    ∀ ce ∈ es, lookup (es.map fun ce => (ce.1, f ce.2)) ce.1 = some (f ce.2) := fun ce hce => by
  rw [lookup_map_snd, (lookup_iff_mem hnd ce.1 ce.2).2 hce]; rfl

theorem mapEntries_map {assign : List (Nat × Nat)} (f : Nat → Nat) :
    ∀ {entries : List (Nat × Nat)}, (∀ ce ∈ entries, lookup assign ce.2 = some (f ce.2)) →
      mapEntries assign entries = some (entries.map fun ce => (ce.1, f ce.2)) := by
  intro entries
  induction entries with
  | nil => intro _; rfl
  | cons x t ih =>
    intro h
    obtain ⟨c, e⟩ := x
    simp only [mapEntries, h (c, e) (List.mem_cons_self ..), ih (fun ce hce => h ce (List.mem_cons_of_mem _ hce)),
      List.map_cons]

theorem mapEntries_eq_some {a es pe : List (Nat × Nat)} :
    mapEntries a es = some pe ↔
      ∃ f : Nat → Nat, (∀ ce ∈ es, lookup a ce.2 = some (f ce.2)) ∧ pe = es.map fun ce => (ce.1, f ce.2) := by
  constructor
  · intro h
    refine ⟨fun e => (lookup a e).getD 0, ?_⟩
    fun_induction mapEntries a es generalizing pe with
    | case1 => cases h; simp
    | case2 c e t u r ht hu ih =>
      cases h
      obtain ⟨h1, h2⟩ := ih ht
      exact ⟨by simpa [hu] using h1, by simp [hu, h2]⟩
    | case3 => cases h
  · rintro ⟨f, hf, rfl⟩
    exact mapEntries_map f hf

theorem mapEntries_total {assign entries : List (Nat × Nat)}
    (h : ∀ ce ∈ entries, ce.2 ∈ assign.map (·.1)) : ∃ pe, mapEntries assign entries = some pe :=
  ⟨_, mapEntries_map (fun e => (lookup assign e).getD 0) fun ce hce => by
    obtain ⟨v, hv⟩ := Option.ne_none_iff_exists'.mp fun hn => lookup_eq_none_iff.mp hn (h ce hce)
    rw [hv]; rfl⟩

theorem rotateRight_append (a b : List Instr) : rotateRight (a ++ b) b.length = b ++ a := by
  simp [rotateRight]

/-- The words `pack` puts in front: the carrier (unless popped) and the redirect words. -/
def frontOf (p : Prog) (st : LoopSt) : List Instr :=
  (if p.rb.isSome && !st.popped then [carrier (p.rb.getD 0)] else []) ++
    st.redirects.map (redirectInstr (p.rb.getD 0) st.offset)

/-- The word `pack` appends: the left-boundary word, if any. -/
def postOf (p : Prog) (st : LoopSt) : List Instr :=
  match p.lb with
  | none => []
  | some l => [lbInstr (l + st.offset)]

theorem frontOf_finalSt (p : Prog) {ds : List Nat} {k : Nat} {st : LoopSt} (hst : st = finalSt p.rb.isSome ds k)
    (hk : k ≤ ds.length) : (frontOf p st).length = st.offset := by
  subst hst
  simp only [frontOf, finalSt, List.length_append, List.length_map, List.length_take, Nat.min_eq_left hk]
  cases p.rb.isSome <;> cases k <;> simp

theorem pack_eq (p : Prog) (entries : List (Nat × Nat)) :
    pack p entries =
      (packLoop p.rb.isSome 0 (descDistinct (entries.map (·.2))) (initSt p.rb.isSome)).bind fun st =>
        (mapEntries st.assign entries).map fun pe =>
          (⟨frontOf p st ++ p.instrs ++ postOf p st, p.lb.map (· + st.offset), p.rb⟩, pe) := by
  have hinit : ({ offset := if p.rb.isSome then 1 else 0, redirects := [], assign := [], popped := false } : LoopSt) =
      initSt p.rb.isSome := rfl
  simp only [pack, hinit]
  cases hst : packLoop p.rb.isSome 0 (descDistinct (entries.map (·.2))) (initSt p.rb.isSome) with
  | none => rfl
  | some st =>
    -- `rotate_right(offset)` brings exactly the words pushed behind the table to the front
    have hrot : rotateRight (p.instrs ++ (if (p.rb.isSome && !st.popped) = true then [carrier (p.rb.getD 0)] else []) ++
          List.map (redirectInstr (p.rb.getD 0) st.offset) st.redirects) st.offset
        = frontOf p st ++ p.instrs := by
      have hr := rotateRight_append p.instrs (frontOf p st)
      obtain ⟨k, hk, _, _, hk'⟩ := packLoop_some (descDistinct_sorted _) hst
      rw [frontOf_finalSt p hk' hk] at hr
      rw [List.append_assoc]
      exact hr
    simp only [hrot, Option.bind_some]
    cases mapEntries st.assign entries <;> cases hlb : p.lb <;> simp [postOf, hlb]

theorem pack_of_loop (p : Prog) (es : List (Nat × Nat)) (st : LoopSt) (pe : List (Nat × Nat))
    (h1 : packLoop p.rb.isSome 0 (descDistinct (es.map (·.2))) (initSt p.rb.isSome) = some st)
    (h2 : mapEntries st.assign es = some pe) :
    pack p es = some (⟨frontOf p st ++ p.instrs ++ postOf p st, p.lb.map (· + st.offset), p.rb⟩, pe) := by
  simp only [pack_eq, h1, h2, Option.bind_some, Option.map_some]

theorem pack_nil (rb : Option Nat) : pack ⟨[], none, rb⟩ [] = some (⟨(rb.map carrier).toList, none, rb⟩, []) := by
  cases rb <;> rfl

theorem wf_parts {p : Prog} {entries : List (Nat × Nat)} (h : wf p entries = true) :
    noRedirect p.instrs = true ∧ closed p.instrs = true ∧
      (∀ ce ∈ entries, ce.2 < p.instrs.length) ∧ (∀ l, p.lb = some l → l < p.instrs.length) := by
  simp only [wf, Bool.and_eq_true, List.all_eq_true, decide_eq_true_eq] at h
  obtain ⟨⟨⟨h1, h2⟩, h3⟩, h4⟩ := h
  refine ⟨h1, h2, h3, ?_⟩
  intro l hl
  rw [hl] at h4
  simpa using h4

/-- Marks of a PL-level program: every label and the boundary label (no "last word" quirk:
the PL-level program has no trailing boundary word). -/
def plainMarks (p : Prog) (es : List (Nat × Nat)) : List Nat := es.map (·.2) ++ p.lb.toList

theorem mem_plainMarks {p : Prog} {es : List (Nat × Nat)} {m : Nat} :
    m ∈ plainMarks p es ↔ p.lb = some m ∨ m ∈ es.map (·.2) := by
  rw [plainMarks, List.mem_append, Option.mem_toList, or_comm]

theorem plainMarks_map {p q : Prog} (f : Nat → Nat) (es : List (Nat × Nat)) (hlb : q.lb = p.lb.map f) :
    plainMarks q (es.map fun ce => (ce.1, f ce.2)) = (plainMarks p es).map f := by
  cases hl : p.lb <;> simp [plainMarks, hlb, hl, List.map_map, Function.comp_def]

theorem map_marks_id {p : Prog} {es : List (Nat × Nat)} (f : Nat → Nat) (h : ∀ m ∈ plainMarks p es, f m = m) :
    p.lb.map f = p.lb ∧ (es.map fun ce => (ce.1, f ce.2)) = es := by
  constructor
  · cases hl : p.lb with
    | none => rfl
    | some l => rw [Option.map_some, h l (mem_plainMarks.mpr (Or.inl hl))]
  · refine (List.map_congr_left fun ce hce => ?_).trans (List.map_id es)
    rw [h _ (mem_plainMarks.mpr (Or.inr (List.mem_map_of_mem hce)))]
    rfl

theorem wf_marks {p : Prog} {es : List (Nat × Nat)} (hwf : wf p es = true) :
    ∀ m ∈ plainMarks p es, m < p.instrs.length := by
  obtain ⟨_, _, hent, hlb⟩ := wf_parts hwf
  intro m hm
  rcases mem_plainMarks.mp hm with hl | hm
  · exact hlb m hl
  · obtain ⟨ce, hce, rfl⟩ := List.mem_map.mp hm
    exact hent ce hce

theorem not_redirect_of_mem {I : List Instr} (hnr : noRedirect I = true) {x : Instr} (hx : x ∈ I) :
    x.op.isRedirect = false := by
  simp only [noRedirect, List.all_eq_true, Bool.not_eq_eq_eq_not, Bool.not_true] at hnr
  exact hnr _ hx

theorem noRedirect_cons {i : Instr} {rest : List Instr} :
    noRedirect (i :: rest) = true ↔ i.op.isRedirect = false ∧ noRedirect rest = true := by
  simp [noRedirect]

theorem unpackEntry_direct (F I Q : List Instr) (e : Nat) (he : e < I.length)
    (hnr : noRedirect I = true) : unpackEntry (F ++ I ++ Q) (F.length + e) = some (F.length + e) := by
  have hget : (F ++ I ++ Q)[F.length + e]? = some I[e] := by
    rw [List.getElem?_append_left (by simp; omega), List.getElem?_append_right (by omega)]
    simp [he]
  have hop : I[e].op.isRedirect = false := not_redirect_of_mem hnr (List.getElem_mem he)
  simp only [unpackEntry, hget]
  cases hopc : I[e].op with
  | redirect u f => rw [hopc] at hop; cases hop
  | _ => rfl

theorem unpackEntry_slot (F I Q : List Instr) (u e rbc : Nat) (he : e < I.length)
    (hF : F[u]? = some (redirectInstr rbc F.length e)) :
    unpackEntry (F ++ I ++ Q) u = some (F.length + e) := by
  have hu : u < F.length := (List.getElem?_eq_some_iff.mp hF).1
  have hget : (F ++ I ++ Q)[u]? = F[u]? := by rw [List.append_assoc, List.getElem?_append_left hu]
  simp only [unpackEntry, hget, hF, redirectInstr]
  simp
  omega

theorem finalSt_unpack {p : Prog} {ds : List Nat} {k : Nat} {st : LoopSt} (hst : st = finalSt p.rb.isSome ds k)
    (hk : k ≤ ds.length) (hk' : k ≤ 256) (hfit : ∀ e ∈ ds.drop k, e + st.offset ≤ 255)
    (hnr : noRedirect p.instrs = true) {e u : Nat} (hm : (e, u) ∈ st.assign) (he : e < p.instrs.length) :
    u ≤ 255 ∧ unpackEntry (frontOf p st ++ p.instrs ++ postOf p st) u = some (st.offset + e) := by
  have hlen := frontOf_finalSt p hst hk
  rw [← hlen] at hfit ⊢
  rw [hst] at hm
  simp only [finalSt, List.mem_append, List.mem_reverse, List.mem_map, Prod.mk.injEq] at hm
  rcases hm with ⟨e', he', rfl, rfl⟩ | hm
  · have hu : e' + ((if (p.rb.isSome && k == 0) = true then 1 else 0) + k) = (frontOf p st).length + e' := by
      rw [hlen, hst, Nat.add_comm]; rfl
    rw [hu]
    exact ⟨Nat.add_comm e' _ ▸ hfit e' he', unpackEntry_direct _ _ _ _ he hnr⟩
  · -- slot `u` of the redirect words; there is no carrier in front of them
    have hget : (ds.take k)[u]? = some e := List.mem_zipIdx_iff_getElem?.mp hm
    have hu : u < k := by
      have := (List.getElem?_eq_some_iff.mp hget).1
      simp only [List.length_take] at this
      omega
    refine ⟨by omega, unpackEntry_slot _ _ _ _ _ (p.rb.getD 0) he ?_⟩
    obtain ⟨k', rfl⟩ : ∃ k', k = k' + 1 := ⟨k - 1, by omega⟩
    have hf : frontOf p st = (ds.take (k' + 1)).map (redirectInstr (p.rb.getD 0) (k' + 1)) := by
      cases hrb : p.rb <;> simp [hst, frontOf, finalSt, hrb]
    rw [hf, List.length_map, List.length_take, Nat.min_eq_left hk, List.getElem?_map, hget]
    rfl

/-- A program with words `F` in front and `Q` behind, its left-boundary entry point moved along:
the shape of a packed table, and of a packed table read back from its bytes. -/
def framed (F Q : List Instr) (q : Prog) : Prog := ⟨F ++ q.instrs ++ Q, q.lb.map (F.length + ·), q.rb⟩

/-- Entry points moved behind `n` words. -/
def shift (n : Nat) (es : List (Nat × Nat)) : List (Nat × Nat) := es.map fun ce => (ce.1, n + ce.2)

/-- The words `pack` puts around a program: in front redirect words that stop and carry the
boundary char (at least one when there is a boundary char), behind it the left-boundary word if
there is a left-boundary program. -/
structure PackFrame (p : Prog) (F Q : List Instr) : Prop where
  front : ∀ w ∈ F, w.next = none ∧ w.right = p.rb.getD 0 ∧ ∃ u, w.op = .redirect u true
  carrier : p.rb.isSome = true → F ≠ []
  post : Q = (p.lb.map fun l => lbInstr (F.length + l)).toList

theorem PackFrame.front_redirect {p : Prog} {F Q : List Instr} (hf : PackFrame p F Q) :
    ∀ w ∈ F, w.op.isRedirect = true := by
  intro w hw
  obtain ⟨_, _, u, hu⟩ := hf.front w hw
  rw [hu]; rfl

theorem PackFrame.post_redirect {p : Prog} {F Q : List Instr} (hf : PackFrame p F Q) :
    ∀ w ∈ Q, w.op.isRedirect = true := by
  intro w hw
  rw [hf.post] at hw
  cases hl : p.lb with
  | none => simp [hl] at hw
  | some l =>
    simp only [hl, Option.map_some, Option.toList_some, List.mem_singleton] at hw
    rw [hw]; rfl

theorem PackFrame.post_ne_nil {p : Prog} {F Q : List Instr} (hf : PackFrame p F Q)
    (h : p.lb.isSome = true) : Q ≠ [] := by
  obtain ⟨l, hl⟩ := Option.isSome_iff_exists.mp h
  simp [hf.post, hl]

theorem frontOf_all (p : Prog) (st : LoopSt) :
    ∀ i ∈ frontOf p st, i.next = none ∧ i.right = p.rb.getD 0 ∧ ∃ u, i.op = .redirect u true := by
  intro i hi
  simp only [frontOf, List.mem_append, List.mem_map] at hi
  rcases hi with hi | ⟨e, _, rfl⟩
  · split at hi
    · simp only [List.mem_singleton] at hi
      subst hi
      exact ⟨rfl, rfl, 0, rfl⟩
    · simp at hi
  · exact ⟨rfl, rfl, _, rfl⟩

theorem pack_spec {p : Prog} {es : List (Nat × Nat)} {P : Prog} {pe : List (Nat × Nat)}
    (h : pack p es = some (P, pe)) (hwf : wf p es = true) :
    ∃ (F Q : List Instr) (f : Nat → Nat), PackFrame p F Q ∧ P = framed F Q p ∧
      pe = es.map (fun ce => (ce.1, f ce.2)) ∧
      ∀ ce ∈ es, f ce.2 ≤ 255 ∧ unpackEntry P.instrs (f ce.2) = some (F.length + ce.2) := by
  rw [pack_eq] at h
  obtain ⟨st, hst, h⟩ := Option.bind_eq_some_iff.mp h
  obtain ⟨_, hpe, h⟩ := Option.map_eq_some_iff.mp h
  simp only [Prod.mk.injEq] at h
  obtain ⟨rfl, rfl⟩ := h
  obtain ⟨k, hk, hk', hfit, hk''⟩ := packLoop_some (descDistinct_sorted _) hst
  have hlen := frontOf_finalSt p hk'' hk
  obtain ⟨hnr, _, hent, _⟩ := wf_parts hwf
  obtain ⟨f, hf1, hf2⟩ := mapEntries_eq_some.mp hpe
  refine ⟨frontOf p st, postOf p st, f, ⟨frontOf_all p st, fun hrb hnil => ?_, ?_⟩,
    by simp only [framed, hlen, Nat.add_comm], hf2, fun ce hce => ?_⟩
  · -- with a boundary char the offset is at least 1: the carrier, or the redirect word that replaced it
    rw [hnil, hk''] at hlen
    simp only [finalSt, hrb, Bool.true_and, List.length_nil] at hlen
    cases k <;> simp at hlen
  · rw [hlen]
    cases hl : p.lb <;> simp [postOf, hl, Nat.add_comm]
  · rw [hlen]
    exact finalSt_unpack hk'' hk hk' hfit hnr (lookup_mem (hf1 ce hce)) (hent ce hce)

theorem entryOk_of {orig packed : List Instr} {pe : List (Nat × Nat)} {ce : Nat × Nat} {u e' : Nat}
    (h1 : lookup pe ce.1 = some u) (h2 : u ≤ 255) (h3 : unpackEntry packed u = some e')
    (h4 : chain e' packed = chain ce.2 orig) : entryOk orig packed pe ce = true := by
  simp [entryOk, h1, h2, h3, h4]

end C11
