import TexcraftModel.Lemmas.C15

/-! C15: applying the ratio node by node; the `<=` variant of the overfull test. -/
namespace C15

theorem sum_map_linear {α : Type} (f g : α → Int) (c d : Int) (l : List α) :
    sum (l.map fun x => f x * c + d * g x) = sum (l.map f) * c + d * sum (l.map g) := by
  induction l with
  | nil => simp [sum]
  | cons x l ih => simp only [List.map, sum, ih, Int.add_mul, Int.mul_add]; omega

theorem sum_setWidth (l : List Item) (b : HBox) (st : Bool) :
    sum (l.map (Item.setWidthTimesDen b st)) =
      natWidth l * b.den + b.num * (if st then totalStretch l b.order else totalShrink l b.order) := by
  cases st
  · exact sum_map_linear Item.natWidth (Item.shrinkAt b.order) b.den b.num l
  · exact sum_map_linear Item.natWidth (Item.stretchAt b.order) b.den b.num l

section
variable (h d n st : Int) (so : Order) (sh : Int) (sho : Order) (pw : PackWidth)

theorem setGlueLe_eq :
    setGlueLe h d n st so sh sho pw =
      if pw.width n - n < 0 ∧ sho = .normal ∧ sh = -(pw.width n - n) then
        ⟨h, pw.width n, d, .normal, -ONE, ONE⟩
      else setGlue h d n st so sh sho pw := by
  unfold setGlueLe setGlue
  simp only []
  by_cases hx : pw.width n - n < 0
  · by_cases ho : sho = .normal
    · rcases Int.lt_trichotomy sh (-(pw.width n - n)) with hl | he | hg
      · simp [hx, ho, hl, Int.le_of_lt hl, Int.ne_of_lt hl]
      · subst he
        simp [hx, ho, Int.ne_of_lt hx]
      · simp [hx, ho, Int.not_le.mpr hg, Int.lt_asymm hg, Int.ne_of_gt hg]
    · simp [hx, ho]
  · simp [hx]

end

theorem hpackLe_eq (l : List Item) (pw : PackWidth) :
    hpackLe l pw =
      if excess l pw < 0 ∧ texOrder (totalShrink l) = .normal ∧
          totalShrink l (texOrder (totalShrink l)) = -excess l pw then
        ⟨boxHeight l, pw.width (natWidth l), boxDepth l, .normal, -ONE, ONE⟩
      else hpack l pw := by
  obtain ⟨h1, h2, h3, h4, h5⟩ := loop_init l
  unfold hpackLe
  simp only [dominating_eq, h1, h2, h3, h4, h5, setGlueLe_eq,
    ← hpack_eq, width_sub_natWidth]

end C15
