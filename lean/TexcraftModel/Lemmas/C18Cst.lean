import TexcraftModel.Model.C18

/-! C18: tokens ⇄ CST. `parseCalls (printCalls cs ++ rest) = (cs, rest)` by mutual structural
recursion over the CST, with enough fuel. Commas between arguments are optional for the parser:
the argument lists are treated once, for every placement of commas (`parseArgs_sep`). -/
namespace C18

/-- `rest` does not begin a function call (`name (`). -/
def NotCallStart : List BTok → Prop
  | .kw _ :: .lparen :: _ => False
  | _ => True

theorem parseCalls_stop (f : Nat) (t : List BTok) (h : NotCallStart t) :
    parseCalls (f + 1) t = some ([], t) := by
  simp only [parseCalls]
  split
  · simp [NotCallStart] at h
  · rfl

theorem printArg_len_pos (a : Arg) : 0 < (printArg a).length := by
  cases a with
  | mk k v => cases k <;> cases v <;> simp [printArg, printVal]

theorem parseArgs_pos (f : Nat) (v : Val) (t : List BTok) :
    parseArgs (f + 1) (printVal v ++ t) =
      match parseVal f (printVal v ++ t) with
      | some (v, t') =>
        match parseArgs f (skipComma t') with
        | some (as, t'') => some (.mk none v :: as, t'')
        | none => none
      | none => none := by
  cases v <;> simp only [parseArgs, printVal, List.cons_append, List.nil_append] <;> rfl

/-- The arguments with a comma after each one for which `sep`, asked about the arguments still
to come, says so. -/
def printArgsSep (sep : List Arg → Bool) : List Arg → List BTok
  | [] => []
  | a :: r => printArg a ++ ((if sep r then [.comma] else []) ++ printArgsSep sep r)

theorem printArgsMulti_eq : ∀ as, printArgsMulti as = printArgsSep (fun _ => true) as
  | [] => rfl
  | a :: r => by rw [printArgsMulti, printArgsSep, printArgsMulti_eq r]; rfl

theorem printArgsSingle_eq : ∀ as, printArgsSingle as = printArgsSep (fun r => !r.isEmpty) as
  | [] => rfl
  | [a] => by simp [printArgsSingle, printArgsSep]
  | a :: b :: r => by rw [printArgsSingle, printArgsSep, printArgsSingle_eq (b :: r)]; rfl

/-- The arguments with no comma at all between them. -/
def printArgsBare : List Arg → List BTok
  | [] => []
  | a :: r => printArg a ++ printArgsBare r

theorem printArgsBare_eq : ∀ as, printArgsBare as = printArgsSep (fun _ => false) as
  | [] => rfl
  | a :: r => by rw [printArgsBare, printArgsSep, printArgsBare_eq r]; rfl

theorem skipComma_printArg (a : Arg) (t : List BTok) : skipComma (printArg a ++ t) = printArg a ++ t := by
  cases a with
  | mk k v => cases k <;> cases v <;> simp [printArg, printVal, skipComma]

theorem skipComma_sep (sep : List Arg → Bool) (r : List Arg) (rest : List BTok) :
    skipComma ((if sep r then [.comma] else []) ++ printArgsSep sep r ++ .rparen :: rest) =
      printArgsSep sep r ++ .rparen :: rest := by
  split
  · rfl
  · cases r with
    | nil => rfl
    | cons b r' =>
      simp only [printArgsSep, List.nil_append, List.append_assoc]
      exact skipComma_printArg b _

mutual
theorem parseVal_print : ∀ (v : Val) (f : Nat) (rest : List BTok),
    (printVal v).length < f → parseVal f (printVal v ++ rest) = some (v, rest)
  | _, 0, _, h => absurd h (Nat.not_lt_zero _)
  | .int _, f + 1, rest, _ | .dim _, f + 1, rest, _ | .inf _ _, f + 1, rest, _ | .str _, f + 1, rest, _ => by
    simp [printVal, parseVal]
  | .list cs, f + 1, rest, h => by
    have ih := parseCalls_print cs
    simp only [printVal, List.length_cons, List.length_append, List.length_nil] at h
    simp only [printVal, List.cons_append, List.append_assoc, List.nil_append, parseVal]
    rw [ih f (.rbrack :: rest) (by omega) (by simp [NotCallStart])]

theorem parseArg_print : ∀ (a : Arg) (f : Nat) (t : List BTok),
    (printArg a).length < f →
    parseArgs (f + 1) (printArg a ++ t) =
      match parseArgs f (skipComma t) with
      | some (as, t'') => some (a :: as, t'')
      | none => none
  | .mk none v, f, t, h => by
    have ih := parseVal_print v
    simp only [printArg] at h ⊢
    rw [parseArgs_pos, ih f t h]
  | .mk (some k) v, f, t, h => by
    have ih := parseVal_print v
    simp only [printArg, List.length_cons] at h
    simp only [printArg, List.cons_append, parseArgs]
    rw [ih f t (by omega)]
    rfl

theorem parseArgs_sep (sep : List Arg → Bool) : ∀ (as : List Arg) (f : Nat) (rest : List BTok),
    (printArgsSep sep as).length + 1 < f →
    parseArgs f (printArgsSep sep as ++ .rparen :: rest) = some (as, rest)
  | _, 0, _, h => absurd h (Nat.not_lt_zero _)
  | [], f + 1, rest, _ => by simp [printArgsSep, parseArgs]
  | a :: r, f + 1, rest, h => by
    have ih1 := parseArg_print a
    have ih2 := parseArgs_sep sep r
    -- without a comma the fuel for the rest is one less only because an argument is not empty
    have hp := printArg_len_pos a
    simp only [printArgsSep, List.length_append] at h
    simp only [printArgsSep, List.append_assoc]
    rw [ih1 f _ (by omega), ← List.append_assoc, skipComma_sep, ih2 f rest (by omega)]

theorem parseCalls_print : ∀ (cs : List Call) (f : Nat) (rest : List BTok),
    (printCalls cs).length < f → NotCallStart rest →
    parseCalls f (printCalls cs ++ rest) = some (cs, rest)
  | _, 0, _, h, _ => absurd h (Nat.not_lt_zero _)
  | [], f + 1, rest, _, hr => by simpa [printCalls] using parseCalls_stop f rest hr
  | .mk name args :: r, f + 1, rest, h, hr => by
    have iha := parseArgs_sep (fun r => multiline args || !r.isEmpty) args
    have ihc := parseCalls_print r
    -- both layouts of `ArgsPrinter` are placements of commas
    have e : (if multiline args then printArgsMulti args else printArgsSingle args) =
        printArgsSep (fun r => multiline args || !r.isEmpty) args := by
      cases multiline args
      · exact printArgsSingle_eq args
      · exact printArgsMulti_eq args
    simp only [printCalls, printCall, e, List.length_append, List.length_cons, List.length_nil] at h
    simp only [printCalls, printCall, e, List.cons_append, List.append_assoc, List.nil_append,
      parseCalls]
    rw [iha f _ (by omega)]
    simp only []
    rw [ihc f rest (by omega) hr]
end

theorem parseArgs_multi : ∀ (as : List Arg) (f : Nat) (rest : List BTok),
    (printArgsMulti as).length + 1 < f →
    parseArgs f (printArgsMulti as ++ .rparen :: rest) = some (as, rest)
  | as, f, rest, h => by
    rw [printArgsMulti_eq] at h ⊢
    exact parseArgs_sep _ as f rest h

theorem parseArgs_single : ∀ (as : List Arg) (f : Nat) (rest : List BTok),
    (printArgsSingle as).length + 1 < f →
    parseArgs f (printArgsSingle as ++ .rparen :: rest) = some (as, rest)
  | as, f, rest, h => by
    rw [printArgsSingle_eq] at h ⊢
    exact parseArgs_sep _ as f rest h

theorem parseSource_printCalls (cs : List Call) : parseSource (printCalls cs) = some cs := by
  unfold parseSource
  have := parseCalls_print cs ((printCalls cs).length + 1) [] (by omega) (by simp [NotCallStart])
  simp only [List.append_nil] at this
  rw [this]

end C18
