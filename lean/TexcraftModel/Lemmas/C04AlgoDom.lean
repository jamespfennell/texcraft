import TexcraftModel.Lemmas.C04AlgoSound
import TexcraftModel.Lemmas.C04AlgoMono
import TexcraftModel.Lemmas.C04AlgoBound

/-!
Domination: under the quantifier's restriction (`monotone x`, `force_solution = false`, totals
below `AWFUL_BAD`) the active list of `C04.algo` *dominates* every feasible sequence of lines
that can still be extended (`DomInv`), per line class (`ckey`: with looseness 0 the classes of
`num_nodes_for_next_class`, with looseness ≠ 0 every line number separately).
-/
namespace C04

theorem demerits_adj (x : Inst) (a : Option Nat) (f1 f2 : Fit) (b : Nat) (bad : Int) (g : Fit) :
    demerits x a f1 b bad g ≤ demerits x a f2 b bad g + iabs x.p.adjDemerits := by
  unfold demerits
  simp only
  generalize (if hyphAt x a = true ∧ b = x.n then _ else _ : Int) = d4
  have := iabs_self x.p.adjDemerits
  split <;> split <;> omega

theorem lineWidth_ckey (x : Inst) (q : Int) {a b : Nat}
    (h : ckey x q a = ckey x q b) : lineWidth x.p.widths a = lineWidth x.p.widths b := by
  unfold ckey at h
  by_cases hq : q = 0
  · simp only [hq, if_true] at h
    rw [lineWidth_lkey x a, h, ← lineWidth_lkey x b]
  · simp only [hq, if_false] at h
    rw [h]

/-- The state `(pos, L)` can still be extended past every breakpoint before `i`. -/
def Alive (x : Inst) (pos : Option Nat) (L : Nat) (i : Nat) : Prop :=
  ∀ b, lt? pos b = true → b < i → (breakInfo x b).isSome →
    forced x b = false ∧ overfull x pos L b = false

/-- Every feasible prefix that is still alive at `i` is dominated by an active node. -/
def DomInv (x : Inst) (q : Int) (i : Nat) (act : List ANode) : Prop :=
  ∀ s c pos L f, run x {} s = some (c, ⟨pos, L, f⟩) → lt? pos i = true → Alive x pos L i →
    ∃ ν, ν ∈ act ∧ Dominates x q ν pos L f c

theorem alive_mono {x : Inst} {pos : Option Nat} {L i : Nat} (h : Alive x pos L (i + 1)) :
    Alive x pos L i :=
  fun b h1 h2 h3 => h b h1 (by omega) h3

theorem domInv_skip {x : Inst} {q : Int} {i : Nat} {act : List ANode} (hbi : breakInfo x i = none)
    (h : DomInv x q i act) : DomInv x q (i + 1) act := by
  intro s c pos L f hrun hlt hal
  have hne : pos ≠ some i := by
    rintro rfl
    rcases run_pos_legal hrun with h0 | ⟨b, hb, _, hleg⟩
    · cases h0
    · cases hb; rw [hbi] at hleg; cases hleg
  exact h s c pos L f hrun (lt?_of_succ hlt hne) (alive_mono hal)

/-- The principle of optimality with the slack of `Dominates`: a dominating node offers every
feasible next line of the prefix, at no more than the prefix's cost. A fitness class other than
the prefix's adds at most `|adj_demerits|` (`demerits_adj`), which the second alternative of
`Dominates` has in hand. -/
theorem Dominates.line {x : Inst} {q : Int} {i : Nat} {c : BCtx} {ν : ANode} {pos : Option Nat}
    {L : Nat} {f : Fit} {t : Int} (h : Dominates x q ν pos L f t) (hc : CtxOK x i c)
    (hν : NodeInv x i ν) {bad : Int} {g : Fit} (hl : lineEval x pos L i = some (bad, g)) :
    allowOf x c ν = true ∧ nodeRate x c ν = (bad, g) ∧
      totOf x c ν ≤ t + demerits x pos f i bad g := by
  obtain ⟨rfl, hkey, hdom⟩ := h
  -- `lineEval` sees the line number only through `lineWidth`
  rw [lineEval_eq_some, ← lineWidth_ckey x q hkey, ← lineEval_eq_some, lineEval_node hc hν] at hl
  split at hl
  · rename_i ha
    have hnr := Option.some.inj hl
    refine ⟨ha, hnr, ?_⟩
    rw [totOf_spec hc hν, hnr]
    simp only
    rcases hdom with ⟨hf, ht⟩ | ht
    · rw [hf]
      omega
    · have := demerits_adj x ν.pos ν.fit f i bad g
      omega
  · cases hl

theorem alive_of_lineEval {x : Inst} (hm : monotone x = true) (hW : 0 < x.p.widths.length)
    {s : List Nat} {c0 : Int} {st0 : St} (hrun : run x {} s = some (c0, st0))
    {i : Nat} {bad : Int} {g : Fit} (hl : lineEval x st0.pos st0.L i = some (bad, g)) :
    Alive x st0.pos st0.L i := by
  obtain ⟨hbi, hlt, hin, hnf, hrate, hthr⟩ := lineEval_eq_some.1 hl
  intro b hab hbi' hleg
  constructor
  · exact forcedBetween_eq_false.1 hnf b hbi' hab
  · cases hov : overfull x st0.pos st0.L b with
    | false => rfl
    | true =>
      exfalso
      have := monotone_spec x hm hW st0.pos st0.L b i (run_pos_legal hrun) hleg hbi hin hab hbi' hov
      unfold overfull at this
      rw [hrate] at this
      simp only [beq_iff_eq] at this
      have := threshold_le x.p
      omega

theorem round_dom {x : Inst} {q : Int} (hm : monotone x = true) (hW : 0 < x.p.widths.length)
    (hB : PrefixBounded x) {i : Nat} {c : BCtx} (hc : CtxOK x i c) {A B : List ANode}
    (hr : Round x q c A B) (hA : ∀ ν, ν ∈ A → NodeInv x i ν) (h : DomInv x q i A) :
    DomInv x q (i + 1) B := by
  intro s ctot pos L f hrun hlt hal
  by_cases hpi : pos = some i
  · -- the sequence ends with a line `a → i`: the node that dominates the prefix ending at `a`
    -- offers a candidate for that line at no more than the sequence's cost
    subst hpi
    rcases run_last hrun with ⟨_, _, h0⟩ | ⟨s', b, c0, st0, bad, fit, _, hrun0, hle, hct, hst⟩
    · cases h0
    cases hst
    obtain ⟨ν, hνA, hdom⟩ := h s' c0 st0.pos st0.L st0.fit hrun0 (lineEval_eq_some.1 hle).2.1
      (alive_of_lineEval hm hW hrun0 hle)
    obtain ⟨hal, hnr, htot⟩ := hdom.line hc (hA ν hνA) hle
    obtain ⟨μ, hμ, hdom'⟩ := hr.new ν hνA hal ctot (hct ▸ htot) (hB _ _ _ hrun)
    rw [hnr, hc.i_eq] at hdom'
    exact ⟨μ, hμ, hdom'.1, hdom'.2.1.trans (ckey_succ hdom.2.1), hdom'.2.2⟩
  · -- the sequence ends before `i` and survives the breakpoint `i`: so does its dominating node
    have hlt' := lt?_of_succ hlt hpi
    obtain ⟨ν, hνA, hdom⟩ := h s ctot pos L f hrun hlt' (alive_mono hal)
    obtain ⟨hnf, hno⟩ := hal i hlt' (Nat.lt_succ_self i) (by rw [hc.bi]; rfl)
    refine ⟨ν, hr.keep ν hνA ?_, hdom⟩
    rw [deactOf_spec hc (hA ν hνA), hnf, hdom.1, Bool.false_or]
    unfold overfull at hno ⊢
    rwa [lineWidth_ckey x q hdom.2.1]

/-- The invariant of the main loop for optimality, at the start of iteration `i`: soundness of
the nodes, the active list sorted by line class, and dominance. -/
structure OInv (x : Inst) (q : Int) (i : Nat) (st : LState) : Prop where
  linv : LInv x i st
  sorted : SortedQ x q st.active
  dom : DomInv x q i st.active

theorem domInv_init (x : Inst) (q : Int) : DomInv x q 0 [{}] := by
  intro s c pos L f hrun hlt _
  rcases run_last hrun with ⟨_, rfl, hst⟩ | ⟨_, b, _, _, _, _, _, _, _, _, hst⟩
  · cases hst
    exact ⟨{}, List.mem_singleton.2 rfl, rfl, rfl, Or.inl ⟨rfl, Int.le_refl _⟩⟩
  · cases hst
    cases hlt

theorem loop_oinv {x : Inst} (q : Int) (hd : discOK x = true) (hm : monotone x = true)
    (hW : 0 < x.p.widths.length) (hB : PrefixBounded x) (k : Nat) (hk : k ≤ x.n + 1) :
    OInv x q k ((List.range k).foldl (step x q false) {}) :=
  let ⟨hl, hs, hdm⟩ := mainLoop_induction q hd (DomInv x q) (domInv_init x q)
    (fun _ _ => domInv_skip) (fun _ _ _ _ hc hr => round_dom hm hW hB hc hr) k hk
  ⟨hl, hs, hdm⟩

theorem final_dominated {x : Inst} (q : Int) (hd : discOK x = true) (hm : monotone x = true)
    (hW : 0 < x.p.widths.length) (hB : PrefixBounded x) (s : List Nat) (d : Int)
    (h : total x s = some d) :
    ∃ ν, ν ∈ (mainLoop x q false).active ∧ ckey x q ν.line = ckey x q s.length ∧ ν.total ≤ d := by
  have hinv := loop_oinv q hd hm hW hB (x.n + 1) (Nat.le_refl _)
  obtain ⟨f, hr⟩ := total_run h
  have hal : Alive x (some x.n) s.length (x.n + 1) := by
    intro b h1 h2 _
    simp [lt?] at h1
    omega
  obtain ⟨ν, hν, _, hkey, hdom⟩ := hinv.dom s d (some x.n) s.length f hr (by simp [lt?]) hal
  refine ⟨ν, hν, hkey, ?_⟩
  have := iabs_nonneg x.p.adjDemerits
  rcases hdom with ⟨_, h1⟩ | h1 <;> omega

theorem act_minOf_all {x : Inst} (q : Int) (hd : discOK x = true) (hm : monotone x = true)
    (hW : 0 < x.p.widths.length) (hB : PrefixBounded x) :
    MinOf (fun d => ∃ ν, ν ∈ (mainLoop x q false).active ∧ ν.total = d) (dpBest x) :=
  (dpBest_minOf x).of_dominating
    (fun _ ⟨_, hν, hc⟩ => ⟨_, hc ▸ (final_node q hd _ hν).1⟩)
    (fun d ⟨s, hs⟩ =>
      let ⟨ν, hν, _, hle⟩ := final_dominated q hd hm hW hB s d hs
      ⟨_, ⟨ν, hν, rfl⟩, hle⟩)

/-- `q ≠ 0` makes every number of lines a class of its own, so that the nodes of `L` lines
dominate the sequences of `L` lines. -/
theorem act_minOf {x : Inst} (q : Int) (hq : q ≠ 0) (hd : discOK x = true) (hm : monotone x = true)
    (hW : 0 < x.p.widths.length) (hB : PrefixBounded x) (L : Nat) :
    MinOf (fun d => ∃ ν, ν ∈ (mainLoop x q false).active ∧ ν.line = L ∧ ν.total = d) (dp x L) :=
  (dp_minOf x L).of_dominating
    (fun _ ⟨ν, hν, hl, hc⟩ => ⟨_, (final_node q hd _ hν).2.trans hl, hc ▸ (final_node q hd _ hν).1⟩)
    (fun d ⟨s, hsl, hs⟩ =>
      let ⟨ν, hν, hk, hle⟩ := final_dominated q hd hm hW hB s d hs
      ⟨_, ⟨ν, hν, by rw [ckey_ne hq, ckey_ne hq] at hk; exact hk.trans hsl, rfl⟩, hle⟩)

theorem final_sorted {x : Inst} (q : Int) (hq : q ≠ 0) (hd : discOK x = true) :
    (mainLoop x q false).active.Pairwise (fun a b => a.line ≤ b.line) := by
  have h := (loop_inv q hd (x.n + 1) (Nat.le_refl _)).2
  unfold SortedQ at h
  simp only [ckey_ne hq] at h
  exact h

end C04
