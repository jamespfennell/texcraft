import TexcraftModel.Lemmas.C02Defs

/-! C02: the scanning loops of the call (brace trimming, undelimited and delimited arguments)
against the searches of the specification. The link is the brace depth: `runDepth` counts it in
`Nat` and fails on an unmatched `}`, the loops carry a signed counter (`depthStep`). -/
namespace C02

theorem runDepth_append (d : Nat) (l1 l2 : List Tok) :
    runDepth d (l1 ++ l2) = (runDepth d l1).bind (fun d' => runDepth d' l2) := by
  induction l1 generalizing d with
  | nil => simp [runDepth]
  | cons t ts ih =>
    cases t <;> simp only [List.cons_append, runDepth, ih]
    cases d <;> simp

theorem runDepth_prefix_some {d x : Nat} {l1 l2 : List Tok} (h : runDepth d (l1 ++ l2) = some x) :
    ∃ y, runDepth d l1 = some y ∧ runDepth y l2 = some x := by
  rw [runDepth_append] at h
  exact Option.bind_eq_some_iff.mp h

theorem runDepth_singleton {d d1 : Nat} {t : Tok} (h : runDepth d [t] = some d1) :
    (d1 : Int) = depthStep d t := by
  cases t with
  | bg => cases h; rfl
  | eg =>
    cases d with
    | zero => cases h
    | succ k => cases h; exact (Int.add_sub_cancel (d1 : Int) 1).symm
  | _ => cases h; rfl

theorem depthStep_succ (d : Int) (t : Tok) : depthStep (d + 1) t = depthStep d t + 1 := by
  cases t with
  | eg => simp only [depthStep]; omega
  | _ => rfl

theorem runDepth_cons {dn : Nat} {t : Tok} (hne : ¬(t = .eg ∧ dn = 0)) :
    ∃ dn', ∀ g, runDepth dn (t :: g) = runDepth dn' g := by
  cases t with
  | eg =>
    cases dn with
    | zero => exact absurd ⟨rfl, rfl⟩ hne
    | succ k => exact ⟨k, fun _ => rfl⟩
  | bg => exact ⟨dn + 1, fun _ => rfl⟩
  | _ => exact ⟨dn, fun _ => rfl⟩

/-- Tokens that are not braces. -/
def NoBrace (l : List Tok) : Prop := ∀ t ∈ l, t ≠ .bg ∧ t ≠ .eg

theorem depthStep_other {t : Tok} (h1 : t ≠ .bg) (h2 : t ≠ .eg) (d : Int) : depthStep d t = d := by
  cases t <;> simp_all [depthStep]

theorem runDepth_cons_other {t : Tok} (h1 : t ≠ .bg) (h2 : t ≠ .eg) (d : Nat) (ts : List Tok) :
    runDepth d (t :: ts) = runDepth d ts := by
  cases t <;> simp_all [runDepth]

theorem runDepth_noBrace {l : List Tok} (h : NoBrace l) (d : Nat) : runDepth d l = some d := by
  induction l with
  | nil => rfl
  | cons t ts ih =>
    obtain ⟨ht, hts⟩ := List.forall_mem_cons.mp h
    rw [runDepth_cons_other ht.1 ht.2]
    exact ih hts

/-- The induction step of `closesAtEnd_iff` and `specGroupFrom_iff`; over `P` so that it rewrites their
right-hand sides. -/
theorem exists_close_cons (t : Tok) (ts rest : List Tok) (P : List Tok → Prop) :
    (∃ g, t :: ts = g ++ .eg :: rest ∧ P g) ↔
      (t = .eg ∧ ts = rest ∧ P []) ∨ ∃ g, ts = g ++ .eg :: rest ∧ P (t :: g) := by
  constructor
  · rintro ⟨g, hg, hP⟩
    cases g with
    | nil => cases hg; exact .inl ⟨rfl, rfl, hP⟩
    | cons x g' => cases hg; exact .inr ⟨g', rfl, hP⟩
  · rintro (⟨rfl, rfl, hP⟩ | ⟨g, rfl, hP⟩)
    · exact ⟨[], rfl, hP⟩
    · exact ⟨t :: g, rfl, hP⟩

theorem closesAtEnd_iff (d : Nat) (r : List Tok) :
    closesAtEnd ((d : Int) + 1) r = true ↔ ∃ b, r = b ++ [.eg] ∧ runDepth d b = some 0 := by
  induction r generalizing d with
  | nil => simp [closesAtEnd]
  | cons t ts ih =>
    rw [exists_close_cons, closesAtEnd, depthStep_succ]
    by_cases hc : t = .eg ∧ d = 0
    · obtain ⟨rfl, rfl⟩ := hc
      simp [depthStep, runDepth]
    · obtain ⟨d', hstep⟩ := runDepth_cons hc
      have hd' : (d' : Int) = depthStep d t := runDepth_singleton (hstep [])
      have h0 : (d' : Int) + 1 ≠ 0 := by omega
      simp only [← hd', h0, if_false, ih d', hstep]
      exact (or_iff_right fun ⟨ht, _, h0⟩ => hc ⟨ht, Option.some.inj h0⟩).symm

theorem shouldTrim_iff (a : List Tok) :
    shouldTrim a = true ↔ ∃ b, a = .bg :: b ++ [.eg] ∧ Balanced b := by
  cases a with
  | nil => simp [shouldTrim]
  | cons t r =>
    cases t with
    | bg =>
      have := closesAtEnd_iff 0 r
      rw [Int.natCast_zero, Int.zero_add] at this
      simp [shouldTrim, this, Balanced]
    | _ => simp [shouldTrim]

theorem isSingleGroup_iff (a : List Tok) :
    isSingleGroup a = true ↔ ∃ b, a = .bg :: b ++ [.eg] ∧ Balanced b := by
  cases a with
  | nil => simp [isSingleGroup]
  | cons t r =>
    cases t with
    | bg =>
      simp only [isSingleGroup, balancedB, Bool.and_eq_true, decide_eq_true_eq]
      constructor
      · rintro ⟨h1, h2⟩
        obtain ⟨b, rfl⟩ := List.getLast?_eq_some_iff.mp h1
        exact ⟨b, rfl, by simpa using h2⟩
      · rintro ⟨b, hb, hbal⟩
        cases hb
        simp [hbal]
    | _ => simp [isSingleGroup]

theorem shouldTrim_eq_isSingleGroup (a : List Tok) : shouldTrim a = isSingleGroup a :=
  Bool.eq_iff_iff.mpr ((shouldTrim_iff a).trans (isSingleGroup_iff a).symm)

theorem skipSpaces_eq (inp : List Tok) : skipSpaces inp = inp.dropWhile (· = .sp) := by
  induction inp with
  | nil => rfl
  | cons t ts ih => cases t <;> simp [skipSpaces, List.dropWhile, ih]

theorem dropWhile_sp_spec (inp : List Tok) :
    ∃ sps, inp = sps ++ inp.dropWhile (· = .sp) ∧ (∀ t ∈ sps, t = .sp) ∧
      ∀ t ts, inp.dropWhile (· = .sp) = t :: ts → t ≠ .sp := by
  refine ⟨inp.takeWhile (· = .sp), List.takeWhile_append_dropWhile.symm, fun t ht => ?_, fun t ts h => ?_⟩
  · simpa using List.all_eq_true.mp List.all_takeWhile t ht
  · have := List.head?_dropWhile_not (· = .sp) inp
    rw [h] at this
    simpa using this

theorem dropWhile_sp_append (sps : List Tok) {t : Tok} (ts : List Tok) (h : ∀ x ∈ sps, x = .sp)
    (ht : t ≠ .sp) : (sps ++ t :: ts).dropWhile (· = .sp) = t :: ts := by
  rw [List.dropWhile_append_of_pos (fun a ha => by simp [h a ha])]
  exact List.dropWhile_cons_of_neg (by simpa using ht)

theorem specGroupFrom_iff (inp : List Tok) : ∀ {pre : List Tok} {dn : Nat} {g rest : List Tok},
    runDepth 0 pre = some dn →
    (specGroupFrom pre inp = some (g, rest) ↔
      ∃ g', inp = g' ++ .eg :: rest ∧ g = pre ++ g' ∧ runDepth dn g' = some 0) := by
  induction inp with
  | nil => intro pre dn g rest _; simp [specGroupFrom]
  | cons t ts ih =>
    intro pre dn g rest hpre
    have hbal : balancedB pre = true ↔ dn = 0 := by simp [balancedB, Balanced, hpre]
    rw [specGroupFrom, exists_close_cons]
    simp only [hbal]
    by_cases hc : t = .eg ∧ dn = 0
    · obtain ⟨rfl, rfl⟩ := hc
      -- the group ends here: a longer `g'` would pass a `}` at depth 0
      simp [runDepth, and_comm, @eq_comm _ g]
    · obtain ⟨dn', hstep⟩ := runDepth_cons hc
      rw [if_neg hc, ih (by rw [runDepth_append, hpre]; exact hstep [])]
      simp only [hstep, List.append_assoc, List.singleton_append]
      exact (or_iff_right fun ⟨ht, _, _, h0⟩ => hc ⟨ht, Option.some.inj h0⟩).symm

theorem finishBalanced_of_runDepth (rest : List Tok) : ∀ (g : List Tok) (dn : Nat),
    runDepth dn g = some 0 → finishBalanced dn (g ++ .eg :: rest) = .ok (g, rest) := by
  intro g
  induction g with
  | nil => intro dn h; cases h; simp [finishBalanced]
  | cons t g ih =>
    intro dn h
    obtain ⟨d1, h1, h2⟩ := runDepth_prefix_some (l1 := [t]) h
    have hne : ¬(t = .eg ∧ (dn : Int) = 0) := by
      rintro ⟨rfl, h0⟩
      obtain rfl : dn = 0 := by omega
      cases h1
    rw [List.cons_append, finishBalanced, if_neg hne, ← runDepth_singleton h1, ih d1 h2]

theorem specUndelim_parse {inp a rest : List Tok} (n : Nat) (h : specUndelim inp = some (a, rest)) :
    parseUndelimited n inp = .ok (a, rest) := by
  unfold specUndelim at h
  unfold parseUndelimited
  rw [skipSpaces_eq]
  cases hd : inp.dropWhile (· = .sp) with
  | nil => simp [hd] at h
  | cons t ts =>
    rw [hd] at h
    cases t with
    | bg =>
      obtain ⟨g', rfl, hg, hg'⟩ := (specGroupFrom_iff ts rfl).mp h
      cases hg
      exact finishBalanced_of_runDepth rest _ 0 hg'
    | eg => cases h
    | _ => cases h; rfl

theorem specUndelim_tok (sps : List Tok) (t : Tok) (rest : List Tok) (h : ∀ x ∈ sps, x = .sp)
    (h1 : t ≠ .sp) (h2 : t ≠ .bg) (h3 : t ≠ .eg) :
    specUndelim (sps ++ t :: rest) = some ([t], rest) := by
  rw [specUndelim, dropWhile_sp_append sps rest h h1]
  cases t with
  | sp => exact absurd rfl h1
  | bg => exact absurd rfl h2
  | eg => exact absurd rfl h3
  | _ => rfl

theorem specUndelim_group (sps a rest : List Tok) (h : ∀ x ∈ sps, x = .sp) (ha : Balanced a) :
    specUndelim (sps ++ .bg :: a ++ .eg :: rest) = some (a, rest) := by
  rw [specUndelim, List.append_assoc, List.cons_append, dropWhile_sp_append sps _ h Tok.noConfusion]
  exact (specGroupFrom_iff _ rfl).mpr ⟨a, rfl, rfl, ha⟩

/-- A delimiter as `\def` can produce it: non-empty, no braces, except that the last token
may be `{` (the `#{` form). -/
structure DelimWF (d : List Tok) : Prop where
  ne : d ≠ []
  body : ∃ b, NoBrace b ∧ (d = b ∨ d = b ++ [.bg])

/-- `closing_scope_depth` of `parse_delimited_argument` as a natural number: 1 iff the delimiter
ends with `{`. -/
def closingNat (d : List Tok) : Nat := if d.getLast? = some .bg then 1 else 0

theorem closingDepth_eq (m : Matcher) : closingDepth m = (closingNat m.sub : Int) := by
  unfold closingDepth closingNat; split <;> simp

theorem delim_runDepth {d : List Tok} (h : DelimWF d) (x : Nat) :
    runDepth x d = some (x + closingNat d) := by
  obtain ⟨b, hb, hd | hd⟩ := h.body
  · subst hd
    have hne := h.ne
    have : closingNat d = 0 := by
      unfold closingNat
      rw [List.getLast?_eq_some_getLast hne]
      have := hb _ (List.getLast_mem hne)
      simp [this.1]
    rw [this, runDepth_noBrace hb]; rfl
  · subst hd
    have : closingNat (b ++ [.bg]) = 1 := by simp [closingNat]
    rw [this, runDepth_append, runDepth_noBrace hb]; simp [runDepth]

theorem Matcher.run_append (m : Matcher) (q : Nat) (xs ys : List Tok) :
    m.run q (xs ++ ys) = (m.run q xs).bind fun q' => m.run q' ys := by
  induction xs generalizing q with
  | nil => rfl
  | cons x xs ih =>
    simp only [List.cons_append, Matcher.run]
    cases m.next q x with
    | none => rfl
    | some r => exact ih r.1

theorem MatcherOK.step {m : Matcher} (hok : MatcherOK m) {seen : List Tok} {q : Nat}
    (hrun : m.run 0 seen = some q) (t : Tok) :
    ∃ q' b, m.next q t = some (q', b) ∧ m.run 0 (seen ++ [t]) = some q' ∧
      (b = true ↔ m.sub <:+ seen ++ [t]) := by
  obtain ⟨q0, q', b, hrun0, hnext, hb⟩ := hok seen t
  obtain rfl : q0 = q := Option.some.inj (hrun0.symm.trans hrun)
  exact ⟨q', b, hnext, by simp only [Matcher.run_append, hrun, Option.bind_some, Matcher.run, hnext], hb⟩

/-- The loop of `parse_delimited_argument` stops here. -/
def Stop (d x : List Tok) : Prop := d <:+ x ∧ runDepth 0 x = some (closingNat d)

theorem delimLoop_complete (m : Matcher) (hok : MatcherOK m) (n : Nat) (rest : List Tok) :
    ∀ (cons seen : List Tok) (q dn : Nat),
      m.run 0 seen = some q → runDepth 0 seen = some dn → cons ≠ [] →
      Stop m.sub (seen ++ cons) →
      (∀ c1 c2, cons = c1 ++ c2 → c2 ≠ [] → ¬ Stop m.sub (seen ++ c1)) →
      delimLoop m (closingDepth m) n q dn (cons ++ rest) = .ok (cons, rest) := by
  intro cons
  induction cons with
  | nil => intro seen q dn _ _ h; exact absurd rfl h
  | cons t cons' ih =>
    intro seen q dn hrun hdn _ hstopall hnostop
    obtain ⟨q', b, hnext, hrun', hb⟩ := hok.step hrun t
    have hsplit : seen ++ t :: cons' = (seen ++ [t]) ++ cons' := by simp
    -- the scan is defined up to the stop, so in particular after `t`
    obtain ⟨d1, hd1, _⟩ := runDepth_prefix_some (hsplit ▸ hstopall.2)
    have hstep : (d1 : Int) = depthStep dn t := by
      rw [runDepth_append, hdn] at hd1
      exact runDepth_singleton hd1
    have hiff : (depthStep (dn : Int) t = (closingNat m.sub : Int) ∧ b = true) ↔ Stop m.sub (seen ++ [t]) := by
      rw [← hstep, hb, Stop, hd1]
      exact ⟨fun ⟨h1, h2⟩ => ⟨h2, congrArg some (Int.ofNat.inj h1)⟩,
        fun ⟨h1, h2⟩ => ⟨congrArg Int.ofNat (Option.some.inj h2), h1⟩⟩
    simp only [List.cons_append, delimLoop, hnext, closingDepth_eq]
    cases cons' with
    | nil => rw [if_pos (hiff.mpr hstopall)]; rfl
    | cons y ys =>
      have := ih (seen ++ [t]) q' d1 hrun' hd1 (List.cons_ne_nil _ _) (hsplit ▸ hstopall)
        (fun c1 c2 h hc2 => by
          rw [List.append_assoc]
          exact hnostop (t :: c1) c2 (congrArg (t :: ·) h) hc2)
      rw [closingDepth_eq, hstep] at this
      rw [if_neg (mt hiff.mp (hnostop [t] (y :: ys) rfl (List.cons_ne_nil _ _))), this]

theorem specDelimFrom_spec (d pre inp : List Tok) : ∀ (a rest : List Tok),
    specDelimFrom d pre inp = some (a, rest) →
    ∃ mid, a = pre ++ mid ∧ inp = mid ++ d ++ rest ∧ Balanced a ∧
      ∀ mid' rest', inp = mid' ++ d ++ rest' → Balanced (pre ++ mid') → mid.length ≤ mid'.length := by
  fun_induction specDelimFrom d pre inp with
  | case1 pre inp hc =>
    intro a rest h
    cases h
    simp only [Bool.and_eq_true, List.isPrefixOf_iff_prefix] at hc
    obtain ⟨x, rfl⟩ := hc.2
    exact ⟨[], by simp, by simp, by simpa [balancedB] using hc.1, fun _ _ _ _ => Nat.zero_le _⟩
  | case2 pre hc => intro a rest h; cases h
  | case3 pre t ts hc ih =>
    intro a rest h
    obtain ⟨mid, rfl, hts, hbal, hmin⟩ := ih a rest h
    refine ⟨t :: mid, by simp, by simp [hts], hbal, ?_⟩
    intro mid' rest' hinp hbal'
    cases mid' with
    | nil =>
      -- the candidate `pre` itself was tried and refused
      refine absurd ?_ hc
      simp only [Bool.and_eq_true, List.isPrefixOf_iff_prefix]
      exact ⟨by simpa [balancedB] using hbal', ⟨rest', by simpa using hinp.symm⟩⟩
    | cons x mid'' =>
      cases hinp
      exact Nat.succ_le_succ (hmin mid'' rest' rfl (by simpa using hbal'))

theorem specDelim_spec {d inp a rest : List Tok} (h : specDelim d inp = some (a, rest)) :
    inp = a ++ d ++ rest ∧ Balanced a ∧
      ∀ a' rest', inp = a' ++ d ++ rest' → Balanced a' → a.length ≤ a'.length := by
  obtain ⟨mid, hmid, hinp, hbal, hmin⟩ := specDelimFrom_spec d [] inp a rest h
  cases hmid
  exact ⟨hinp, hbal, hmin⟩

theorem stop_iff {d x : List Tok} (hwf : DelimWF d) :
    Stop d x ↔ ∃ p, x = p ++ d ∧ Balanced p := by
  constructor
  · rintro ⟨⟨p, rfl⟩, h⟩
    obtain ⟨y, hy, hyd⟩ := runDepth_prefix_some h
    rw [delim_runDepth hwf] at hyd
    obtain rfl : y = 0 := by have := Option.some.inj hyd; omega
    exact ⟨p, rfl, hy⟩
  · rintro ⟨p, rfl, hp⟩
    exact ⟨List.suffix_append _ _, by rw [runDepth_append, hp]; simp [delim_runDepth hwf]⟩

theorem specDelim_parse (m : Matcher) (hok : MatcherOK m) (hwf : DelimWF m.sub) (n : Nat)
    {inp a rest : List Tok} (h : specDelim m.sub inp = some (a, rest)) :
    parseDelimited shouldTrim m n inp = .ok (stripSpec a, rest) := by
  obtain ⟨rfl, hbal, hmin⟩ := specDelim_spec h
  have hloop := delimLoop_complete m hok n rest (a ++ m.sub) [] 0 0 rfl rfl
    (by simp [hwf.ne]) ((stop_iff hwf).mpr ⟨a, rfl, hbal⟩)
    (by
      -- an earlier stop would be a shorter balanced run followed by the delimiter
      intro c1 c2 hc hc2 hstop
      obtain ⟨p, rfl, hp⟩ := (stop_iff hwf).mp hstop
      have hle := hmin p (c2 ++ rest) (by rw [hc, List.append_assoc]) hp
      have hlen := congrArg List.length hc
      simp only [List.length_append] at hlen
      have := List.length_pos_iff.mpr hc2
      omega)
  have hraw : (a ++ m.sub).take ((a ++ m.sub).length - m.sub.length) = a := by
    rw [List.length_append, Nat.add_sub_cancel, List.take_left' rfl]
  rw [List.append_assoc] at hloop ⊢
  rw [parseDelimited, show (0 : Int) = ((0 : Nat) : Int) from rfl, hloop]
  simp only [hraw, shouldTrim_eq_isSingleGroup, stripSpec]
  exact (apply_ite (fun x => Res.ok (x, rest)) _ _ _).symm

/-- `Parameter::parse_argument`: what the loop of `Macro::call` does for one parameter. -/
def parseArg (trim : List Tok → Bool) (n : Nat) : Param → List Tok → Res (List Tok × List Tok)
  | .undelim, inp => parseUndelimited n inp
  | .delim m, inp => parseDelimited trim m n inp

theorem parseArgs_cons (trim : List Tok → Bool) (i : Nat) (p : Param) (ps : List Param) (inp : List Tok) :
    parseArgs trim i (p :: ps) inp =
      match parseArg trim (i + 1) p inp with
      | .ok (a, rest) =>
        match parseArgs trim (i + 1) ps rest with
        | .ok (as, rest') => .ok (a :: as, rest')
        | .err e => .err e
        | .panic => .panic
      | .err e => .err e
      | .panic => .panic := by
  cases p <;> rfl

end C02
