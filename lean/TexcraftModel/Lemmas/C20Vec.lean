import TexcraftModel.Model.C20Vec
import TexcraftModel.Lemmas.C20Backing

/-!
# C20 — the Vec-backed scoped map (`VGMap`) is the generic container code at `vecBacking`

`VGMap.toB` reads a `VGMap V` as a `BMap (vecBacking V)`; it commutes with every operation, so
what holds for every lawful backing (`Lemmas/C20Backing.lean`) holds for `VGMap`. `Sim` is the
resulting simulation with the association-list instance `GMap Nat V`.
-/
namespace C20
variable {V : Type}

/-- The Vec-backed map and the association-list-backed map are in the same state. -/
def Sim (vm : VGMap V) (m : GMap Nat V) : Prop :=
  (∀ k, VecBacking.get vm.bc k = alookup m.bc k) ∧ vm.groups = m.groups

def VGMap.toB (vm : VGMap V) : BMap (vecBacking V) := { bc := vm.bc, groups := vm.groups }

theorem VGMap.toB_empty : (VGMap.empty : VGMap V).toB = BMap.empty := rfl

theorem sim_iff_bsim (vm : VGMap V) (m : GMap Nat V) : Sim vm m ↔ BSim vm.toB m :=
  ⟨fun h => ⟨h.1, h.2, trivial⟩, fun h => ⟨h.1, h.2.1⟩⟩

theorem VGMap.applyLog_eq (g : AList Nat (Action V)) (bc : List (Option V)) :
    VGMap.applyLog g bc = BMap.applyLog (bk := vecBacking V) g bc := by
  induction g generalizing bc with
  | nil => rfl
  | cons p t ih =>
    obtain ⟨a, act⟩ := p
    cases act with
    | delete => exact ih _
    | revert v => exact ih _

theorem VGMap.insert_eq (m : VGMap V) (k : Nat) (v : V) (s : Scope) :
    m.insert k v s =
      ({ bc := VecBacking.insert m.bc k v,
         groups := logInsert k (VecBacking.get m.bc k) s m.groups }, (VecBacking.get m.bc k).isSome) := by
  obtain ⟨bc, gs⟩ := m
  unfold VGMap.insert
  cases s <;> cases VecBacking.get bc k <;> cases gs <;> rfl

theorem VGMap.toB_step (vm : VGMap V) (op : Op Nat V) :
    (vm.step op).1.toB = (vm.toB.step op).1 ∧ (vm.step op).2 = (vm.toB.step op).2 := by
  obtain ⟨bc, gs⟩ := vm
  cases op with
  | insert k v s =>
    simp only [VGMap.step, BMap.step, VGMap.insert_eq, BMap.insert_eq]
    exact ⟨rfl, rfl⟩
  | beginGroup => exact ⟨rfl, rfl⟩
  | endGroup =>
    cases gs with
    | nil => exact ⟨rfl, rfl⟩
    | cons g gs =>
      exact ⟨congrArg (fun b => (⟨b, gs⟩ : BMap (vecBacking V))) (VGMap.applyLog_eq g bc), rfl⟩
  | get k => exact ⟨rfl, rfl⟩

theorem VGMap.toB_run (vm : VGMap V) (ops : List (Op Nat V)) :
    (vm.run ops).1.toB = (vm.toB.run ops).1 ∧ (vm.run ops).2 = (vm.toB.run ops).2 := by
  induction ops generalizing vm with
  | nil => exact ⟨rfl, rfl⟩
  | cons op ops ih =>
    obtain ⟨h1, h2⟩ := VGMap.toB_step vm op
    obtain ⟨i1, i2⟩ := ih (vm.step op).1
    simp only [VGMap.run, BMap.run]
    rw [← h1, ← h2, ← i1, ← i2]
    exact ⟨rfl, rfl⟩

theorem VGMap.toB_fromIter (items : List (Item Nat V)) :
    (VGMap.fromIter items).toB = BMap.fromIter items :=
  (List.foldl_hom VGMap.toB (g₁ := VGMap.feed) (g₂ := BMap.feed) fun vm i => by
    cases i with
    | beginGroup => rfl
    | value k v => exact (VGMap.toB_step vm (.insert k v .loc)).1.symm).symm

theorem vgmap_refines_run (ops : List (Op Nat V)) :
    ((VGMap.empty : VGMap V).run ops).2 = (Snap.init.run ops).2 := by
  rw [(VGMap.toB_run _ ops).2, VGMap.toB_empty]
  exact bmap_refines_run vecBacking_lawful ops

theorem vgmap_get_run (ops : List (Op Nat V)) (k : Nat) :
    ((VGMap.empty : VGMap V).run ops).1.get k = (Snap.init.run ops).1.cur k := by
  have h := bmap_get_run (bk := vecBacking V) vecBacking_lawful ops k
  rw [← VGMap.toB_empty, ← (VGMap.toB_run _ ops).1] at h
  exact h

/-- The association-list-backed map on which `VGMap.iterAll` runs the generic `iter_all`. -/
def toG (vm : VGMap V) : GMap Nat V := { bc := VecBacking.iter vm.bc, groups := vm.groups }

theorem iterAll_toG (vm : VGMap V) : vm.iterAll = (toG vm).iterAll := rfl

theorem sim_toG (vm : VGMap V) : Sim vm (toG vm) :=
  ⟨fun k => (VecBacking.alookup_iter vm.bc k).symm, rfl⟩

theorem vgmap_iterAll_roundtrip_run (pre post : List (Op Nat V)) :
    ∃ items, ((VGMap.empty : VGMap V).run pre).1.iterAll = .ok items ∧
      ((VGMap.fromIter items).run post).2 = (((VGMap.empty : VGMap V).run pre).1.run post).2 ∧
      ((VGMap.fromIter items).run post).2 = ((Snap.init.run pre).1.run post).2 := by
  obtain ⟨items, h1, h2, h3⟩ :=
    bmap_iterAll_roundtrip_run (bk := vecBacking V) vecBacking_lawful pre post
  rw [← VGMap.toB_empty, ← (VGMap.toB_run _ pre).1] at h1 h2
  rw [← VGMap.toB_fromIter, ← (VGMap.toB_run _ post).2] at h2 h3
  rw [← (VGMap.toB_run _ post).2] at h2
  exact ⟨items, h1, h2, h3⟩

theorem vgmap_iterAll_total_run (pre : List (Op Nat V)) :
    ∃ items, ((VGMap.empty : VGMap V).run pre).1.iterAll = .ok items := by
  obtain ⟨items, h, _⟩ := vgmap_iterAll_roundtrip_run pre []
  exact ⟨items, h⟩

end C20
