import TexcraftModel.Lemmas.C14Recon
import TexcraftModel.Lemmas.C14Words
import TexcraftModel.Model.C13

/-! Lifting the per-word facts to the whole list. `hyphListG rb` and `expectedG` walk a list alike; `pieces` is what they
walk over, and for every fuel they are `pass rb` and `expected` of it (`hyphListG_eq`, `expectedG_eq`). A fact about the
whole pass is then an induction over a `List Piece`, free of fuel and of the hyphen minimums: a copied piece is unmarked,
a word piece has the per-word fact (`rebuildWord_spec`), and `Good` and `PosOK` are additive over `++`.
`expected_specFrom` reads `expected` of the pieces off the declarative `specFrom`. -/
namespace C14

theorem popBoundaryLig_letters (f : Nat) (skipped : List Item) (b : Bool) :
    lettersL (popBoundaryLig f skipped b).1 = lettersL skipped := by
  unfold popBoundaryLig
  split
  · rename_i c g orig lb rb hlast
    split
    · rename_i hc
      simp only [Bool.and_eq_true, List.isEmpty_iff] at hc
      obtain ⟨ys, rfl⟩ := List.getLast?_eq_some_iff.1 hlast
      rw [List.dropLast_concat, lettersL_append, hc.1.2]
      simp [lettersL, lettersI]
    · rfl
  · rfl

/-- What the pass makes of a list, piece by piece: nodes it copies, and words it hands to the rebuilder
(font, letters, `right_boundary_override`, `disable_left_boundary`). -/
inductive Piece where
  | copy (l : List Item)
  | word (f : Nat) (s : List Nat) (rbo : Option Nat) (dlb : Bool)

/-- The pieces of a list, by the traversal of `hyphListG` and `expectedG`; `P s` = the positions tried in a word with
letters `s`. A word without any is not a piece (the pass goes on at its first node and copies it node by node), and at
fuel 0 what is left is one copied piece, as `hyphListG` returns it: `hyphListG_eq` needs no bound on the fuel. -/
def pieces (P : List Nat → List Nat) : Nat → List Item → List Piece
  | 0, l => [.copy l]
  | _, [] => []
  | fuel + 1, x :: xs =>
    if !x.isGlue then .copy [x] :: pieces P fuel xs
    else
      match search xs with
      | (k, none) => .copy (x :: xs.take k) :: pieces P fuel (xs.drop k)
      | (k, some (f, s, n)) =>
        if (P s).isEmpty then .copy (x :: xs.take k) :: pieces P fuel (xs.drop k)
        else
          .copy (x :: (popBoundaryLig f (xs.take k) (startsWithLB (xs.drop k).head?)).1) ::
          .word f s (rboOf f ((xs.drop k).drop n).head?) (!(popBoundaryLig f (xs.take k) (startsWithLB (xs.drop k).head?)).2) ::
          pieces P fuel ((xs.drop k).drop n)

/-- What the pass puts out for one piece, words rebuilt by `rb` at the positions `P`. -/
def Piece.run (rb : Rebuilder) (P : List Nat → List Nat) : Piece → Option (List (Item × Bool))
  | .copy l => some (unmarkedL l)
  | .word f s rbo dlb => rb f s rbo dlb (P s)

/-- The output of the pass: the pieces' outputs, concatenated. -/
def pass (rb : Rebuilder) (P : List Nat → List Nat) : List Piece → Option (List (Item × Bool))
  | [] => some []
  | p :: ps => (p.run rb P).bind fun o => (pass rb P ps).map (o ++ ·)

/-- The allowed positions of the word pieces as absolute letter offsets; `acc` = letters before the head. -/
def expected (P : List Nat → List Nat) : List Piece → Nat → List Nat
  | [], _ => []
  | .copy l :: ps, acc => expected P ps (acc + (lettersL l).length)
  | .word _ s _ _ :: ps, acc => (P s).map (· + acc) ++ expected P ps (acc + s.length)

/-- The positions the pass tries in a word with letters `s`. -/
abbrev tried (lhm rhm : Int) (liang : List Nat → List Nat) (s : List Nat) : List Nat :=
  wordPositions lhm rhm s.length (liang s)

theorem hyphListG_eq (rb : Rebuilder) (lhm rhm : Int) (liang : List Nat → List Nat) :
    ∀ (fuel : Nat) (l : List Item),
      hyphListG rb lhm rhm liang fuel l = pass rb (tried lhm rhm liang) (pieces (tried lhm rhm liang) fuel l) := by
  intro fuel
  induction fuel with
  | zero => intro l; simp [hyphListG, pieces, pass, Piece.run]
  | succ fuel ih =>
    intro l
    cases l with
    | nil => rfl
    | cons x xs =>
      simp only [hyphListG, pieces, search, ih]
      generalize pieces _ fuel = F
      generalize seek false xs 0 = r
      cases x.isGlue with
      | false => rfl
      | true =>
        cases r.2 with
        | none => rfl
        | some f =>
          simp only
          generalize gather f (xs.drop r.1) [] 0 = g
          cases g.1.isEmpty with
          | true => rfl
          | false =>
            cases terminatorOk ((xs.drop r.1).drop g.2) with
            | false => rfl
            | true =>
              simp only [Bool.not_true, Bool.false_eq_true, if_false]
              -- `tried` is an `abbrev` and stays folded: `simp` would unfold it in the test of `pieces`' `if` and not in
              -- its `Decidable` instance, and `if_pos` would not match
              by_cases hp : (wordPositions lhm rhm g.1.length (liang g.1)).isEmpty = true
              · rw [if_pos hp, if_pos hp]; rfl
              · rw [if_neg hp, if_neg hp]
                simp only [pass, Piece.run, Option.bind_some]
                cases rb f g.1 (rboOf f ((xs.drop r.1).drop g.2).head?) _ _ with
                | none => rfl
                | some w => cases pass rb _ (F _) <;> simp [unmarkedL]

theorem expectedG_eq (lhm rhm : Int) (liang : List Nat → List Nat) :
    ∀ (fuel : Nat) (l : List Item) (acc : Nat),
      expectedG lhm rhm liang fuel l acc = expected (tried lhm rhm liang) (pieces (tried lhm rhm liang) fuel l) acc := by
  intro fuel
  induction fuel with
  | zero => intro l acc; rfl
  | succ fuel ih =>
    intro l acc
    cases l with
    | nil => rfl
    | cons x xs =>
      simp only [expectedG, pieces, search, ih]
      generalize pieces _ fuel = F
      generalize seek false xs 0 = r
      cases x.isGlue with
      | false => simp only [Bool.not_false, if_true, expected, lettersL_cons, lettersL_nil, List.append_nil]
      | true =>
        have hpre : ∀ pre : List Item, acc + (lettersI x).length + (lettersL pre).length = acc + (lettersL (x :: pre)).length :=
          fun pre => by rw [lettersL_cons, List.length_append, Nat.add_assoc]
        simp only [Bool.not_true, Bool.false_eq_true, if_false, hpre]
        cases r.2 with
        | none => rfl
        | some f =>
          simp only
          generalize gather f (xs.drop r.1) [] 0 = g
          cases g.1.isEmpty with
          | true => rfl
          | false =>
            cases terminatorOk ((xs.drop r.1).drop g.2) with
            | false => rfl
            | true =>
              simp only [Bool.not_true, Bool.false_eq_true, if_false]
              by_cases hp : (wordPositions lhm rhm g.1.length (liang g.1)).isEmpty = true
              · rw [if_pos hp, if_pos hp]; rfl
              · rw [if_neg hp, if_neg hp]
                simp only [expected, lettersL_cons, popBoundaryLig_letters]

theorem pass_cons_some {rb : Rebuilder} {P : List Nat → List Nat} {p : Piece} {ps : List Piece} {out : List (Item × Bool)}
    (h : pass rb P (p :: ps) = some out) : ∃ o t, p.run rb P = some o ∧ pass rb P ps = some t ∧ out = o ++ t := by
  obtain ⟨o, ho, h⟩ := Option.bind_eq_some_iff.mp h
  obtain ⟨t, ht, rfl⟩ := Option.map_eq_some_iff.mp h
  exact ⟨o, t, ho, ht, rfl⟩

theorem pass_lift (rb rb0 : Rebuilder) {P : List Nat → List Nat}
    (h : ∀ f s rbo dlb pos w, rb f s rbo dlb pos = some w →
      ∃ u, rb0 f s rbo dlb pos = some (unmarkedL u) ∧ Good w u) :
    ∀ (ps : List Piece) (out : List (Item × Bool)), pass rb P ps = some out →
      ∃ u, pass rb0 P ps = some (unmarkedL u) ∧ Good out u := by
  intro ps
  induction ps with
  | nil => intro out ho; cases ho; exact ⟨[], rfl, Good.unmarked []⟩
  | cons p ps ih =>
    intro out ho
    obtain ⟨o, t, hp, ht, rfl⟩ := pass_cons_some ho
    obtain ⟨u, hu, gu⟩ := ih t ht
    have hpiece : ∃ v, p.run rb0 P = some (unmarkedL v) ∧ Good o v := by
      cases p with
      | copy l => cases hp; exact ⟨l, rfl, Good.unmarked l⟩
      | word f s rbo dlb => exact h _ _ _ _ _ _ hp
    obtain ⟨v, hv, gv⟩ := hpiece
    exact ⟨v ++ u, by rw [pass, hv, hu, unmarkedL_append]; rfl, gv.append gu⟩

theorem pass_total (rb : Rebuilder) (P : List Nat → List Nat) (h : ∀ f s rbo dlb, ∃ w, rb f s rbo dlb (P s) = some w) :
    ∀ ps : List Piece, ∃ out, pass rb P ps = some out
  | [] => ⟨[], rfl⟩
  | p :: ps => by
    obtain ⟨t, ht⟩ := pass_total rb P h ps
    have hp : ∃ o, p.run rb P = some o := by
      cases p with
      | copy l => exact ⟨_, rfl⟩
      | word f s rbo dlb => exact h f s rbo dlb
    obtain ⟨o, ho⟩ := hp
    exact ⟨o ++ t, by rw [pass, ho, ht]; rfl⟩

def Piece.letters : Piece → List Nat
  | .copy l => lettersL l
  | .word _ s _ _ => s

theorem pieces_letters (P : List Nat → List Nat) :
    ∀ (fuel : Nat) (l : List Item), ((pieces P fuel l).map Piece.letters).flatten = lettersL l := by
  intro fuel
  induction fuel with
  | zero => intro l; simp [pieces, Piece.letters]
  | succ fuel ih =>
    intro l
    cases l with
    | nil => rfl
    | cons x xs =>
      have copy : ∀ k, ((Piece.copy (x :: xs.take k) :: pieces P fuel (xs.drop k)).map Piece.letters).flatten
          = lettersL (x :: xs) := by
        intro k
        rw [List.map_cons, List.flatten_cons, ih, Piece.letters, ← lettersL_append, List.cons_append, List.take_append_drop]
      simp only [pieces]
      split
      · exact copy 0
      · split
        · exact copy _
        · rename_i k f s n hw
          split
          · exact copy _
          · obtain ⟨hs, -, -⟩ := search_some hw
            simp only [List.map_cons, List.flatten_cons, ih, Piece.letters, lettersL_cons, popBoundaryLig_letters]
            rw [hs, List.append_assoc, ← lettersL_append (List.take n _), List.take_append_drop, ← lettersL_append,
              List.take_append_drop]

theorem pass_letters {eng : Engine} (he : EngineOK eng) {P : List Nat → List Nat} :
    ∀ (ps : List Piece) (out : List (Item × Bool)), pass (mainRunWord eng) P ps = some out →
      lettersL (it out) = (ps.map Piece.letters).flatten := by
  intro ps
  induction ps with
  | nil => intro out h; cases h; rfl
  | cons p ps ih =>
    intro out h
    obtain ⟨o, t, hp, ht, rfl⟩ := pass_cons_some h
    rw [it_append, lettersL_append, ih t ht, List.map_cons, List.flatten_cons]
    cases p with
    | copy l => cases hp; rw [it_unmarkedL]; rfl
    | word f s rbo dlb => cases hp; rw [it_unmarkedL, lettersL_toItem, he.spell]; rfl

theorem PosOK.nil (acc : Nat) : PosOK [] [] acc := ⟨rfl, by simp, by simp⟩

theorem PosOK.mono {T E acc acc'} (h : PosOK T E acc) (hle : acc' ≤ acc) : PosOK T E acc' :=
  ⟨h.eq, fun t ht => by have := h.loT t ht; omega, fun e he => by have := h.loE e he; omega⟩

theorem PosOK.append {Tw Tr : List (Nat × Nat × Nat)} {Ew Er : List Nat} {acc mid : Nat}
    (hw : PosOK Tw Ew acc) (hr : PosOK Tr Er mid) (hle : acc ≤ mid)
    (upT : ∀ t ∈ Tw, t.2.2 ≤ mid) (upE : ∀ e ∈ Ew, e < mid) :
    PosOK (Tw ++ Tr) (Ew ++ Er) acc := by
  have hcov : ∀ p, coveredBy (Tw ++ Tr) p = (coveredBy Tw p || coveredBy Tr p) := fun p => List.any_append
  refine ⟨?_, ?_, ?_⟩
  · rw [List.map_append, List.filter_append, hw.eq, hr.eq]
    congr 1
    · -- the word's own positions lie before every triple of the rest
      apply List.filter_congr
      intro e he
      have : coveredBy Tr e = false := by
        simp only [coveredBy, List.any_eq_false, Bool.and_eq_true, decide_eq_true_eq, not_and]
        intro t ht h1
        have := hr.loT t ht; have := upE e he; omega
      rw [hcov, this, Bool.or_false]
    · -- the positions of the rest lie beyond every span of the word
      apply List.filter_congr
      intro e he
      have : coveredBy Tw e = false := by
        simp only [coveredBy, List.any_eq_false, Bool.and_eq_true, decide_eq_true_eq, not_and]
        intro t ht _
        have := upT t ht; have := hr.loE e he; omega
      rw [hcov, this, Bool.false_or]
  · exact fun t ht => (List.mem_append.mp ht).elim (hw.loT t) ((hr.mono hle).loT t)
  · exact fun e he => (List.mem_append.mp he).elim (hw.loE e) ((hr.mono hle).loE e)

theorem pass_posOK {eng : Engine} (he : EngineOK eng) {P : List Nat → List Nat}
    (hP : ∀ s, (P s).Pairwise (· < ·) ∧ ∀ p ∈ P s, 1 ≤ p ∧ p < s.length) :
    ∀ (ps : List Piece) (out : List (Item × Bool)) (acc : Nat), pass (rebuildWord eng) P ps = some out →
      PosOK (discPositions (mk out) (it out) acc) (expected P ps acc) acc := by
  intro ps
  induction ps with
  | nil => intro out acc h; cases h; exact PosOK.nil acc
  | cons p ps ih =>
    intro out acc h
    obtain ⟨o, t, hp, ht, rfl⟩ := pass_cons_some h
    cases p with
    | copy l =>
      cases hp
      rw [discPositions_append _ t (Good.unmarked l).p2, discPositions_unmarked,
        (Good.unmarked l).erased]
      exact (ih t _ ht).mono (Nat.le_add_right _ _)
    | word f s rbo dlb =>
      obtain ⟨gw, hpos⟩ := rebuildWord_spec he _ _ _ _ _ o hp
      obtain ⟨hsorted, hrange⟩ := hP s
      obtain ⟨pw, upT⟩ := hpos hsorted (fun p hp => ⟨(hrange p hp).1, Nat.le_of_lt (hrange p hp).2⟩) acc
      have hlen : (lettersL (erase (mk o) (it o))).length = s.length := by
        rw [gw.erased, lettersL_toItem, he.spell]
      rw [discPositions_append o t gw.p2 acc, hlen]
      refine PosOK.append pw (ih t (acc + s.length) ht) (Nat.le_add_right _ _) upT fun e he => ?_
      obtain ⟨p, hp, rfl⟩ := List.mem_map.mp he
      have := (hrange p hp).2
      omega

/-- The allowed positions of one reported word as absolute letter offsets. -/
def wordExp (P : List Nat → List Nat) (inp : List Item) (w : Word) : List Nat :=
  (P w.letters).map (fun p => (lettersL (inp.take w.start)).length + p)

theorem expectedPositions_map (inp : List Item) (ws : List Word) (f : Word → List Nat) :
    expectedPositions inp ws (ws.map f)
      = (ws.map (fun w => (f w).map (fun p => (lettersL (inp.take w.start)).length + p))).flatten := by
  unfold expectedPositions
  congr 1
  induction ws with
  | nil => rfl
  | cons w ws ih => simp only [List.map_cons, List.zip_cons_cons, ih]

theorem expected_specFrom (P : List Nat → List Nat) :
    ∀ (fuel : Nat) (pre suf : List Item), suf.length < fuel →
      expected P (pieces P fuel suf) (lettersL pre).length
        = ((specFrom pre.length suf).map (wordExp P (pre ++ suf))).flatten := by
  intro fuel
  induction fuel with
  | zero => intro pre suf h; omega
  | succ fuel ih =>
    intro pre suf hfuel
    cases suf with
    | nil => rfl
    | cons x xs =>
      have hxs : xs.length < fuel := Nat.lt_of_succ_lt_succ hfuel
      rw [specFrom_cons, specAt_cons]
      simp only [pieces]
      -- stepping over `x` and `k` further nodes
      have step : ∀ k, k ≤ xs.length →
          expected P (pieces P fuel (xs.drop k)) ((lettersL pre).length + (lettersL (x :: xs.take k)).length)
            = ((specFrom (pre.length + 1 + k) (xs.drop k)).map (wordExp P (pre ++ x :: xs))).flatten := by
        intro k hk
        have := ih (pre ++ x :: xs.take k) (xs.drop k) (length_drop_lt hxs k)
        rwa [lettersL_append, List.length_append, List.length_append, List.length_cons, List.length_take,
          Nat.min_eq_left hk, ← Nat.add_assoc, Nat.add_right_comm pre.length k 1, List.append_assoc, List.cons_append,
          List.take_append_drop] at this
      cases hg : x.isGlue with
      | false =>
        simp only [Bool.not_false, if_true, Option.toList_none, List.nil_append, expected]
        exact step 0 (Nat.zero_le _)
      | true =>
        simp only [Bool.not_true, Bool.false_eq_true, if_false]
        cases hw : search xs with
        | mk k o =>
          have hkl : k ≤ xs.length := by
            rw [← (Prod.mk.inj hw).1, seek_spec, Nat.zero_add]
            exact (List.takeWhile_sublist _).length_le
          rw [specFrom_seek (pre.length + 1) hw]
          cases o with
          | none => exact step k hkl
          | some q =>
            obtain ⟨f, s, n⟩ := q
            obtain ⟨rfl, hn, hall⟩ := search_some hw
            have hwexp : wordExp P (pre ++ x :: xs) ⟨pre.length + 1 + k, n, f, lettersL ((xs.drop k).take n)⟩
                = (P (lettersL ((xs.drop k).take n))).map
                    (· + ((lettersL pre).length + (lettersL (x :: xs.take k)).length)) := by
              simp only [wordExp]
              rw [Nat.add_assoc, List.take_length_add_append, Nat.add_comm 1 k, List.take_succ_cons, lettersL_append]
              apply List.map_congr_left
              intro p _
              simp only [List.length_append]; omega
            simp only [Option.map_some, Option.toList_some, List.cons_append, List.nil_append, List.map_cons,
              List.flatten_cons, hwexp]
            split
            · rename_i hp
              rw [List.isEmpty_iff.mp hp, List.map_nil, List.nil_append]
              exact step k hkl
            · have hrest := step (k + n) (by rw [List.length_drop] at hn; omega)
              have hlet : (lettersL (x :: xs.take (k + n))).length
                  = (lettersL (x :: xs.take k)).length + (lettersL ((xs.drop k).take n)).length := by
                rw [← List.length_append, ← lettersL_append, List.cons_append, List.take_add]
              rw [hlet, ← List.drop_drop, show pre.length + 1 + (k + n) = pre.length + 1 + k + n by omega,
                ← Nat.add_assoc] at hrest
              simp only [expected, lettersL_cons (x := x), popBoundaryLig_letters]
              rw [← lettersL_cons, hrest, specFrom_skip n _ _
                (fun y hy => not_glue_of_wordNode (List.all_eq_true.mp hall y hy))]

theorem expectedM_eq_specWords (lhm rhm : Int) (liang : List Nat → List Nat) (l : List Item) :
    expectedM lhm rhm liang l
      = expectedPositions l (specWords l)
          ((specWords l).map (fun w => wordPositions lhm rhm w.letters.length (liang w.letters))) := by
  rw [expectedPositions_map]
  have := expected_specFrom (tried lhm rhm liang) (l.length + 1) [] l (by omega)
  simp only [lettersL_nil, List.length_nil, List.nil_append] at this
  rw [expectedM, expectedG_eq, this, specWords_eq]
  rfl

theorem oddIdx_sublist : ∀ (l : List Nat) (i : Nat), (C13.oddIdx i l).Sublist (List.range' i l.length)
  | [], _ => .slnil
  | a :: l, i => by
    rw [C13.oddIdx, List.length_cons, List.range'_succ]
    split
    · exact (oddIdx_sublist l (i + 1)).cons_cons i
    · exact (oddIdx_sublist l (i + 1)).cons i

end C14
