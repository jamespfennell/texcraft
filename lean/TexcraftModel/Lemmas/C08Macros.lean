import TexcraftModel.Model.C08Macros
import TexcraftModel.Lemmas.C08

/-! C08 — the macro table as coded (`encItemsInc`) equals its description by the final table
(`macrosOf` / `List.idxOf`), for an injective de-duplication key.

The table only grows at its end, so the index the closure hands out for a macro (its position when
first seen) is its index in every later table, in particular the final one `encCmd` looks at.
`encCmdInc_eq` and `encItemsInc_eq` therefore speak of any table `tblF` that extends the one
reached: the induction over the items meets the head command under the table after the tail. -/
namespace C08
open C20 C01

theorem idxOf_inj (tbl : List Nat) (a b : Nat) (ha : a ∈ tbl) (hb : b ∈ tbl) :
    tbl.idxOf a = tbl.idxOf b ↔ a = b := by
  constructor
  · intro h
    have h1 := getElem?_idxOf_of_mem a tbl ha
    rw [h, getElem?_idxOf_of_mem b tbl hb] at h1
    exact (Option.some.inj h1).symm
  · intro h; rw [h]

theorem idxOf_of_prefix {l l' : List Nat} (h : l <+: l') {n : Nat} (hn : n ∈ l) :
    l'.idxOf n = l.idxOf n := by
  obtain ⟨suf, rfl⟩ := h
  rw [List.idxOf_append, if_pos hn]

theorem stepTbl_nodup (tbl : List Nat) (c : Cmd) (h : tbl.Nodup) : (stepTbl tbl c).Nodup := by
  cases c with
  | mac n =>
    by_cases hn : n ∈ tbl
    · rw [stepTbl_mac_of_mem hn]; exact h
    · rw [stepTbl_mac_of_not_mem hn, List.nodup_append]
      refine ⟨h, List.nodup_cons.2 ⟨List.not_mem_nil, List.nodup_nil⟩, ?_⟩
      intro a ha b hb
      rw [List.mem_singleton.1 hb]
      exact fun e => hn (e ▸ ha)
  | _ => exact h

theorem macrosOf_nodup (items : List (Item Nat Cmd)) :
    ∀ tbl : List Nat, tbl.Nodup → (macrosOf items tbl).Nodup :=
  macrosOf_induct stepTbl_nodup items

/-- Invariant of the closure's state: the de-dup map sends the key of a macro to its index in the
table exactly when the macro is in the table. -/
structure EncWF (key : Nat → Nat) (st : EncSt) : Prop where
  look : ∀ n, alookup st.dedup (key n) = if n ∈ st.macros then some (st.macros.idxOf n) else none

theorem encWF_empty (key : Nat → Nat) : EncWF key EncSt.empty :=
  ⟨fun _ => rfl⟩

/-- The `or_insert_with` arm keeps the invariant; this is where the key has to be injective. -/
theorem encWF_push (key : Nat → Nat) (hk : KeyInj key) (st : EncSt) (h : EncWF key st) (n : Nat)
    (hn : n ∉ st.macros) :
    EncWF key { macros := st.macros ++ [n],
                dedup := ainsert (key n) st.macros.length st.dedup } := by
  refine ⟨fun m => ?_⟩
  show alookup (ainsert (key n) st.macros.length st.dedup) (key m) =
    if m ∈ st.macros ++ [n] then some ((st.macros ++ [n]).idxOf m) else none
  rw [alookup_ainsert, List.idxOf_append, h.look m]
  by_cases hm : key n = key m
  · cases hk _ _ hm
    rw [if_pos hm, if_pos (List.mem_append_right _ (List.mem_singleton_self n)), if_neg hn,
      List.idxOf_cons_self, Nat.zero_add]
  · have hne : m ∉ [n] := fun e => hm (by rw [List.mem_singleton.1 e])
    rw [if_neg hm]
    by_cases hmm : m ∈ st.macros
    · rw [if_pos hmm, if_pos hmm, if_pos (List.mem_append_left _ hmm)]
    · rw [if_neg hmm, if_neg (fun e => (List.mem_append.1 e).elim hmm hne)]

theorem encCmdInc_eq (key : Nat → Nat) (hk : KeyInj key) (T : Table) (st : EncSt)
    (h : EncWF key st) (c : Cmd) (tblF : List Nat) (hF : stepTbl st.macros c <+: tblF) :
    ∃ st', EncWF key st' ∧ st'.macros = stepTbl st.macros c ∧
      encCmdInc key T st c = (encCmd T tblF c).map (fun s => (s, st')) := by
  cases c with
  | mac n =>
    have hmem := mem_stepTbl_mac st.macros n
    have hidx := idxOf_of_prefix hF hmem
    by_cases hn : n ∈ st.macros
    · -- `Entry::Occupied`
      rw [stepTbl_mac_of_mem hn] at hidx ⊢
      refine ⟨st, h, rfl, ?_⟩
      rw [encCmdInc, h.look n, if_pos hn, encCmd, if_pos (hF.subset hmem), hidx]
      rfl
    · -- `or_insert_with`
      rw [stepTbl_mac_of_not_mem hn] at hidx ⊢
      refine ⟨_, encWF_push key hk st h n hn, rfl, ?_⟩
      rw [encCmdInc, h.look n, if_neg hn, encCmd, if_pos (hF.subset hmem), hidx, List.idxOf_append,
        if_neg hn, List.idxOf_cons_self, Nat.zero_add]
      rfl
  | prim p => exact ⟨st, h, rfl, by rw [encCmdInc, encCmd]; cases T.nameOfPrim p <;> rfl⟩
  | alias v => exact ⟨st, h, rfl, by rw [encCmdInc, encCmd]; cases T.nameOfVar v <;> rfl⟩
  | tok c | chr c | mchr c | font c => exact ⟨st, h, rfl, rfl⟩

theorem encItemsInc_eq (key : Nat → Nat) (hk : KeyInj key) (T : Table)
    (items : List (Item Nat Cmd)) :
    ∀ (st : EncSt), EncWF key st → ∀ tblF : List Nat, macrosOf items st.macros <+: tblF →
      ∃ st', EncWF key st' ∧ st'.macros = macrosOf items st.macros ∧
        encItemsInc key T st items = (mapOpt (encItem T tblF) items).map (fun r => (r, st')) := by
  induction items with
  | nil => intro st h _ _; exact ⟨st, h, rfl, rfl⟩
  | cons it t ih =>
    intro st h tblF hF
    cases it with
    | beginGroup =>
      obtain ⟨st', w, m, e⟩ := ih st h tblF hF
      refine ⟨st', w, m, ?_⟩
      rw [encItemsInc, e, mapOpt, encItem]
      cases mapOpt (encItem T tblF) t <;> rfl
    | value k c =>
      rw [macrosOf_value] at hF ⊢
      obtain ⟨st1, w1, m1, e1⟩ := encCmdInc_eq key hk T st h c tblF
        ((macrosOf_prefix t _).trans hF)
      rw [← m1] at hF ⊢
      obtain ⟨st2, w2, m2, e2⟩ := ih st1 w1 tblF hF
      refine ⟨st2, w2, m2, ?_⟩
      rw [encItemsInc, e1, mapOpt, encItem]
      cases encCmd T tblF c with
      | none => rfl
      | some s =>
        simp only [Option.map_some]
        rw [e2]
        cases mapOpt (encItem T tblF) t <;> rfl

theorem serializeInc_eq (key : Nat → Nat) (hk : KeyInj key) (T : Table) (vm : VMState) :
    serializeInc key T vm = serialize true T vm := by
  unfold serializeInc serialize
  cases vm.cmds.iterAll with
  | panic => rfl
  | fuel => rfl
  | ok ci =>
    simp only [if_true]
    cases vm.active.iterAll with
    | panic => rfl
    | fuel => rfl
    | ok ai =>
      simp only []
      -- both walks are compared with the table after the second one
      obtain ⟨st1, w1, m1, e1⟩ := encItemsInc_eq key hk T ci EncSt.empty (encWF_empty key)
        (macrosOf ai (macrosOf ci [])) (macrosOf_prefix ai _)
      obtain ⟨st2, _, m2, e2⟩ := encItemsInc_eq key hk T ai st1 w1
        (macrosOf ai (macrosOf ci [])) (m1 ▸ List.prefix_rfl)
      rw [e1]
      cases mapOpt (encItem T (macrosOf ai (macrosOf ci []))) ci with
      | none => rfl
      | some sc =>
        simp only [Option.map_some]
        rw [e2]
        cases mapOpt (encItem T (macrosOf ai (macrosOf ci []))) ai with
        | none => rfl
        | some sa =>
          simp only [Option.map_some, m2, m1]
          cases mapOpt (mapOpt (encSave T)) vm.save <;> rfl

theorem runCheckpointedInc_eq (key : Nat → Nat) (hk : KeyInj key) (cfg : Variant) (T : Table)
    (pre post : List C01.Op) :
    runCheckpointedInc key cfg T pre post = runCheckpointed cfg true T pre post := by
  unfold runCheckpointedInc runCheckpointed checkpoint
  dsimp only
  rw [serializeInc_eq key hk]
  split
  · rfl
  · cases serialize true T (C01.run cfg VMState.init pre).1 with
    | ok s => cases deserialize T s <;> rfl
    | panic => rfl
    | fuel => rfl

theorem ser_get (T : Table) (vm : VMState) (hc : Inv vm.cmds) (ha : Inv vm.active) (s : Ser)
    (hs : serialize true T vm = .ok s) (t : CTarget) :
    (s.get t).map some = (getCmd vm t).map (encCmd T s.macros) := by
  obtain ⟨ci, ai, sc, sa, sv, hci, hai, hsc, hsa, _, rfl⟩ := serialize_ok T vm s hs
  rw [encItem_eq] at hsc hsa
  cases t with
  | cs k => exact get_transcode _ vm.cmds hc ci sc hci hsc k
  | act k => exact get_transcode _ vm.active ha ai sa hai hsa k

theorem ser_get_mac (T : Table) (vm : VMState) (hc : Inv vm.cmds) (ha : Inv vm.active) (s : Ser)
    (hs : serialize true T vm = .ok s) (t : CTarget) (n : Nat)
    (h : getCmd vm t = some (.mac n)) :
    n ∈ s.macros ∧ s.get t = some (.macro (s.macros.idxOf n)) := by
  have e := ser_get T vm hc ha s hs t
  rw [h, Option.map_some, encCmd] at e
  obtain ⟨y, hy, e'⟩ := Option.map_eq_some_iff.1 e
  by_cases hn : n ∈ s.macros
  · rw [if_pos hn] at e'; cases e'; exact ⟨hn, hy⟩
  · rw [if_neg hn] at e'; cases e'

end C08
