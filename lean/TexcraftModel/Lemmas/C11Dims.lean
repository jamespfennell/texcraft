/-
C11 — the two insertion sorts of the model: `sortDedup` (dimension tables, ascending `Int`) with
`dimIndex`, and `descDistinct` (entry points, descending `Nat`) as `pack` needs it. Their canonical-form facts
are instances of `Assoc.pairwise_ext`: a list sorted by an asymmetric relation is determined by its members.
-/
import TexcraftModel.Lemmas.C11Kerns
import TexcraftModel.Util.Assoc
namespace C11

theorem mem_insertAsc {x y : Int} {l : List Int} : y ∈ insertAsc x l ↔ y = x ∨ y ∈ l := by
  induction l with
  | nil => simp [insertAsc]
  | cons a t ih =>
    simp only [insertAsc]
    split
    · simp
    · split
      · subst_vars; simp
      · simp only [List.mem_cons, ih]
        exact or_left_comm

theorem sortDedup_cons (a : Int) (l : List Int) :
    sortDedup (a :: l) = insertAsc a (sortDedup l) := rfl

theorem mem_sortDedup {y : Int} {l : List Int} : y ∈ sortDedup l ↔ y ∈ l := by
  induction l with
  | nil => simp [sortDedup]
  | cons a t ih => rw [sortDedup_cons, mem_insertAsc, ih]; simp

theorem insertAsc_sorted {x : Int} {l : List Int} (h : l.Pairwise (· < ·)) :
    (insertAsc x l).Pairwise (· < ·) := by
  induction l with
  | nil => simp [insertAsc]
  | cons a t ih =>
    have ⟨ha, ht⟩ := List.pairwise_cons.mp h
    simp only [insertAsc]
    split
    · rename_i hxa
      refine List.pairwise_cons.mpr ⟨?_, h⟩
      intro y hy
      rcases List.mem_cons.mp hy with rfl | hy
      · exact hxa
      · exact Int.lt_trans hxa (ha y hy)
    · split
      · exact h
      · rename_i h1 h2
        refine List.pairwise_cons.mpr ⟨?_, ih ht⟩
        intro y hy
        rcases mem_insertAsc.mp hy with rfl | hy
        · omega
        · exact ha y hy

theorem sortDedup_sorted (l : List Int) : (sortDedup l).Pairwise (· < ·) := by
  induction l with
  | nil => simp [sortDedup]
  | cons a t ih => rw [sortDedup_cons]; exact insertAsc_sorted ih

theorem sortDedup_of_sorted {l : List Int} (h : l.Pairwise (· < ·)) : sortDedup l = l :=
  Assoc.pairwise_ext (fun (a b : Int) h1 h2 => by omega) (sortDedup_sorted l) h fun _ => mem_sortDedup

theorem dedup_sort_idempotent (l : List Int) : sortDedup (sortDedup l) = sortDedup l :=
  sortDedup_of_sorted (sortDedup_sorted l)

theorem sortDedup_canonical {l l' : List Int} (h : ∀ x, x ∈ l ↔ x ∈ l') :
    sortDedup l = sortDedup l' :=
  Assoc.pairwise_ext (fun (a b : Int) (h1 : a < b) (h2 : b < a) => by omega) (sortDedup_sorted l) (sortDedup_sorted l')
    (fun x => by rw [mem_sortDedup, mem_sortDedup]; exact h x)

theorem index_preserved {v : Int} {vals : List Int} (h : v ∈ vals) :
    (table vals)[dimIndex v vals]? = some v := by
  cases hi : indexOf v (sortDedup vals) with
  | none => exact absurd (mem_sortDedup.mpr h) (indexOf_eq_none_iff.mp hi)
  | some i => simp only [dimIndex, hi, table, List.getElem?_cons_succ, indexOf_get hi]

theorem index_absent {v : Int} {vals : List Int} (h : v ∉ vals) :
    dimIndex v vals = 0 ∧ (table vals)[0]? = some 0 := by
  have := indexOf_eq_none_iff.mpr (fun h' => h (mem_sortDedup.mp h'))
  simp [dimIndex, this, table]

theorem dimIndex_le (v : Int) (vals : List Int) : dimIndex v vals ≤ (sortDedup vals).length := by
  unfold dimIndex
  split
  · rename_i i hi
    exact indexOf_lt hi
  · exact Nat.zero_le _

theorem mem_insertDesc {x y : Nat} {l : List Nat} : y ∈ insertDesc x l ↔ y = x ∨ y ∈ l := by
  induction l with
  | nil => simp [insertDesc]
  | cons a t ih =>
    simp only [insertDesc]
    split
    · simp
    · split
      · subst_vars; simp
      · simp only [List.mem_cons, ih]
        exact or_left_comm

theorem descDistinct_cons (a : Nat) (l : List Nat) :
    descDistinct (a :: l) = insertDesc a (descDistinct l) := rfl

theorem mem_descDistinct {y : Nat} {l : List Nat} : y ∈ descDistinct l ↔ y ∈ l := by
  induction l with
  | nil => simp [descDistinct]
  | cons a t ih => rw [descDistinct_cons, mem_insertDesc, ih]; simp

theorem insertDesc_sorted {x : Nat} {l : List Nat} (h : l.Pairwise (· > ·)) :
    (insertDesc x l).Pairwise (· > ·) := by
  induction l with
  | nil => simp [insertDesc]
  | cons a t ih =>
    have ⟨ha, ht⟩ := List.pairwise_cons.mp h
    simp only [insertDesc]
    split
    · rename_i hxa
      refine List.pairwise_cons.mpr ⟨?_, h⟩
      intro y hy
      rcases List.mem_cons.mp hy with rfl | hy
      · exact hxa
      · have := ha y hy; omega
    · split
      · exact h
      · rename_i h1 h2
        refine List.pairwise_cons.mpr ⟨?_, ih ht⟩
        intro y hy
        rcases mem_insertDesc.mp hy with rfl | hy
        · omega
        · exact ha y hy

theorem descDistinct_sorted (l : List Nat) : (descDistinct l).Pairwise (· > ·) := by
  induction l with
  | nil => simp [descDistinct]
  | cons a t ih => rw [descDistinct_cons]; exact insertDesc_sorted ih

theorem descDistinct_of_ascending {l : List Nat} (h : l.Pairwise (· < ·)) : descDistinct l = l.reverse :=
  Assoc.pairwise_ext (fun (a b : Nat) (h1 : a > b) (h2 : b > a) => by omega) (descDistinct_sorted l)
    (List.pairwise_reverse.mpr h) fun _ => by rw [mem_descDistinct, List.mem_reverse]

end C11
