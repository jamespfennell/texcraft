import TexcraftModel.Model.C20Interner
import TexcraftModel.Lemmas.C20AList
import TexcraftModel.Lemmas.C20ListIdx

/-!
# C20 — string interner: the model refines the specification, for every hash function

Under `Rep h st strs` each operation of the model returns what the specification returns on `strs`
and keeps `Rep` (the `_spec` lemmas; `_ok` is the same, read off a given result). Nothing is assumed of
`h` (a constant `h` is covered), and `rebuild` may change it.
-/
namespace C20.Intern

/-- Running sums of the lengths: the `ends` vector. -/
def sums : Nat → List Str → List Nat
  | _, [] => []
  | off, s :: ss => (off + s.length) :: sums (off + s.length) ss

theorem length_sums (off : Nat) (strs : List Str) : (sums off strs).length = strs.length := by
  induction strs generalizing off with
  | nil => rfl
  | cons s ss ih => simp [sums, ih]

theorem sums_append (off : Nat) (a b : List Str) :
    sums off (a ++ b) = sums off a ++ sums (off + a.flatten.length) b := by
  induction a generalizing off with
  | nil => simp [sums]
  | cons s ss ih => simp [sums, ih, Nat.add_assoc]

theorem slice_ok (buffer : List Nat) (a n : Nat) (h : a + n ≤ buffer.length) :
    slice buffer a (a + n) = .ok ((buffer.drop a).take n) := by
  rw [slice, if_pos ⟨Nat.le_add_right a n, h⟩, Nat.add_sub_cancel_left]

theorem slice_flatten (a : List Str) (s : Str) (b : List Str) :
    slice (a ++ s :: b).flatten a.flatten.length (a.flatten.length + s.length) = .ok s := by
  rw [slice_ok _ _ _ (by simp), List.flatten_append, List.flatten_cons, List.drop_left' rfl,
    List.take_left' rfl]

theorem sums_boundaries (off : Nat) (a : List Str) (s : Str) (b : List Str) :
    (off :: sums off (a ++ s :: b))[a.length]? = some (off + a.flatten.length) ∧
      (sums off (a ++ s :: b))[a.length]? = some (off + a.flatten.length + s.length) := by
  induction a generalizing off with
  | nil => exact ⟨rfl, rfl⟩
  | cons t ts ih =>
    rw [List.flatten_cons, List.length_append, ← Nat.add_assoc]
    exact ih (off + t.length)

theorem resolve_succ (st : Interner) (i : Nat) :
    resolve st (i + 1) =
      match (0 :: st.ends)[i]? with
      | none => .ok none
      | some start =>
        match st.ends[i]? with
        | none => .ok none
        | some stop =>
          match slice st.buffer start stop with
          | .ok s => .ok (some s)
          | .panic => .panic
          | .fuel => .fuel := by
  cases i <;> rfl

theorem indexOf?_some {s : Str} {strs : List Str} {i : Nat} (h : indexOf? s strs = some i) :
    strs[i]? = some s := by
  induction strs generalizing i with
  | nil => cases h
  | cons t ts ih =>
    rw [indexOf?] at h
    split at h
    · next hts => cases h; exact congrArg some hts
    · obtain ⟨j, hj, rfl⟩ := Option.map_eq_some_iff.mp h
      exact ih hj

theorem indexOf?_none {s : Str} {strs : List Str} (h : indexOf? s strs = none) : s ∉ strs := by
  induction strs with
  | nil => exact List.not_mem_nil
  | cons t ts ih =>
    rw [indexOf?] at h
    split at h
    · cases h
    · next hts => exact List.not_mem_cons_of_ne_of_not_mem (Ne.symm hts) (ih (Option.map_eq_none_iff.mp h))

/-- `dedup` maps every hash value to exactly the keys of the strings with that hash. -/
structure DedupRep (h : Str → Nat) (d : AList Nat (List Nat)) (strs : List Str) : Prop where
  complete : ∀ i s, strs[i]? = some s → ∃ keys, alookup d (h s) = some keys ∧ i + 1 ∈ keys
  sound : ∀ hv keys, alookup d hv = some keys →
    ∀ k, k ∈ keys → ∃ i s, k = i + 1 ∧ strs[i]? = some s ∧ h s = hv

/-- The interner `st` (with hasher `h`) represents the distinct strings `strs`, in
first-occurrence order; the key of `strs[i]` is `i + 1`. -/
structure Rep (h : Str → Nat) (st : Interner) (strs : List Str) : Prop where
  nodup : strs.Nodup
  buffer : st.buffer = strs.flatten
  ends : st.ends = sums 0 strs
  dedup : DedupRep h st.dedup strs

theorem DedupRep.absent {h : Str → Nat} {d : AList Nat (List Nat)} {strs : List Str}
    (hd : DedupRep h d strs) (hv : Nat) (hn : alookup d hv = none) : ∀ s, s ∈ strs → h s ≠ hv := by
  intro s hs e
  obtain ⟨i, hi⟩ := List.mem_iff_getElem?.mp hs
  obtain ⟨keys, hk, _⟩ := hd.complete i s hi
  rw [e, hn] at hk
  cases hk

theorem rep_empty (h : Str → Nat) : Rep h empty [] :=
  ⟨List.nodup_nil, rfl, rfl, nofun, nofun⟩

theorem mem_populate (d : AList Nat (List Nat)) (hv k hv' x : Nat) :
    (∃ keys, alookup (populate d hv k) hv' = some keys ∧ x ∈ keys) ↔
      (hv = hv' ∧ x = k) ∨ ∃ keys, alookup d hv' = some keys ∧ x ∈ keys := by
  unfold populate
  by_cases e : hv = hv'
  · subst e
    cases alookup d hv <;> simp [alookup_ainsert]
  · cases alookup d hv <;> simp [alookup_ainsert, e]

theorem DedupRep.populate {h : Str → Nat} {d : AList Nat (List Nat)} {strs : List Str}
    (hd : DedupRep h d strs) (s : Str) :
    DedupRep h (populate d (h s) (strs.length + 1)) (strs ++ [s]) := by
  constructor
  · intro i t ht
    apply (mem_populate ..).2
    rcases (getElem?_concat_eq_some ..).mp ht with ht | ⟨rfl, rfl⟩
    · exact .inr (hd.complete i t ht)
    · exact .inl ⟨rfl, rfl⟩
  · intro hv keys hk k hkm
    rcases (mem_populate ..).1 ⟨keys, hk, hkm⟩ with ⟨rfl, rfl⟩ | ⟨keys', h1, h2⟩
    · exact ⟨strs.length, s, rfl, (getElem?_concat_eq_some ..).mpr (.inr ⟨rfl, rfl⟩), rfl⟩
    · obtain ⟨i, t, e1, e2, e3⟩ := hd.sound hv keys' h1 k h2
      exact ⟨i, t, e1, (getElem?_concat_eq_some ..).mpr (.inl e2), e3⟩

theorem specResolve_eq_some_iff {strs : List Str} (hnd : strs.Nodup) (s : Str) (k : Nat) :
    specResolve strs k = some s ↔ (indexOf? s strs).map (· + 1) = some k := by
  constructor
  · intro hk
    cases k with
    | zero => cases hk
    | succ i =>
      cases hj : indexOf? s strs with
      | none => exact absurd (List.mem_of_getElem? hk) (indexOf?_none hj)
      | some j =>
        have hlt : j < strs.length := (List.getElem?_eq_some_iff.mp (indexOf?_some hj)).1
        rw [(List.getElem?_inj hlt hnd).mp ((indexOf?_some hj).trans hk.symm)]; rfl
  · intro hk
    obtain ⟨i, hi, rfl⟩ := Option.map_eq_some_iff.mp hk
    exact indexOf?_some hi

theorem walk_spec {st : Interner} {strs : List Str}
    (hres : ∀ k, resolve st k = .ok (specResolve strs k)) (s : Str) (r : Option Nat)
    (hr : ∀ k, specResolve strs k = some s ↔ r = some k) (keys : List Nat)
    (hvalid : ∀ k ∈ keys, specResolve strs k ≠ none) (hmem : ∀ k, r = some k → k ∈ keys) :
    walk st s keys = .ok r := by
  induction keys with
  | nil =>
    cases r with
    | none => rfl
    | some k => exact absurd (hmem k rfl) List.not_mem_nil
  | cons key rest ih =>
    rw [walk, hres]
    cases ht : specResolve strs key with
    | none => exact absurd ht (hvalid key List.mem_cons_self)
    | some t =>
      by_cases hts : t = s
      · exact (if_pos hts).trans (congrArg Res.ok ((hr key).mp (hts ▸ ht)).symm)
      · refine (if_neg hts).trans (ih (fun k hk => hvalid k (List.mem_cons_of_mem _ hk)) fun k hk => ?_)
        rcases List.mem_cons.mp (hmem k hk) with rfl | hin
        · exact absurd (Option.some.inj (ht.symm.trans ((hr _).mpr hk))) hts
        · exact hin

section
variable {h : Str → Nat} {st st' : Interner} {strs : List Str}

theorem resolve_spec (hr : Rep h st strs) (k : Nat) : resolve st k = .ok (specResolve strs k) := by
  cases k with
  | zero => rfl
  | succ i =>
    rw [resolve_succ]
    simp only [specResolve]
    cases hs : strs[i]? with
    | none =>
      have hlen : st.ends[i]? = none := by
        rw [hr.ends, List.getElem?_eq_none_iff, length_sums]
        exact List.getElem?_eq_none_iff.mp hs
      cases (0 :: st.ends)[i]? <;> simp [hlen]
    | some s =>
      obtain ⟨a, b, rfl, rfl⟩ := getElem?_split hs
      obtain ⟨h1, h2⟩ := sums_boundaries 0 a s b
      rw [Nat.zero_add] at h1 h2
      rw [hr.ends, h1, h2, hr.buffer]
      simp only []
      rw [slice_flatten]

theorem getInternal_spec (hr : Rep h st strs) (s : Str) :
    getInternal st s (h s) = .ok ((indexOf? s strs).map (· + 1)) := by
  unfold getInternal
  cases hl : alookup st.dedup (h s) with
  | none =>
    cases hi : indexOf? s strs with
    | none => rfl
    | some i => exact absurd rfl (hr.dedup.absent _ hl s (List.mem_of_getElem? (indexOf?_some hi)))
  | some keys =>
    refine walk_spec (resolve_spec hr) s _ (specResolve_eq_some_iff hr.nodup s) keys
      (fun k hk => ?_) (fun k hk => ?_)
    · obtain ⟨j, t, rfl, e, _⟩ := hr.dedup.sound _ _ hl k hk
      exact fun hn => Option.some_ne_none t (e.symm.trans hn)
    · obtain ⟨i, hi, rfl⟩ := Option.map_eq_some_iff.mp hk
      obtain ⟨keys', hk1, hk2⟩ := hr.dedup.complete i s (indexOf?_some hi)
      exact Option.some.inj (hl.symm.trans hk1) ▸ hk2

theorem get_spec (hr : Rep h st strs) (s : Str) :
    get h st s = .ok ((indexOf? s strs).map (· + 1)) :=
  getInternal_spec hr s

theorem getOrIntern_spec (hr : Rep h st strs) (s : Str) :
    ∃ st', getOrIntern h st s = .ok (st', (specIntern strs s).2) ∧
      Rep h st' (specIntern strs s).1 := by
  unfold getOrIntern specIntern
  rw [getInternal_spec hr s]
  cases hi : indexOf? s strs with
  | some i => exact ⟨st, rfl, hr⟩
  | none =>
    have hs := indexOf?_none hi
    have hlen : st.ends.length = strs.length := by rw [hr.ends, length_sums]
    refine ⟨{ buffer := st.buffer ++ s, ends := st.ends ++ [(st.buffer ++ s).length],
              dedup := populate st.dedup (h s) (st.ends.length + 1) }, ?_, ?_⟩
    · simp only [Option.map_none, hlen]
    constructor
    · exact (List.perm_append_singleton s strs).nodup_iff.2 (List.nodup_cons.2 ⟨hs, hr.nodup⟩)
    · simp [hr.buffer, List.flatten_append]
    · simp [hr.buffer, hr.ends, sums_append, sums]
    · simp only [hlen]
      exact hr.dedup.populate s

theorem getOrIntern_ok {s : Str} {k : Nat}
    (hr : Rep h st strs) (hg : getOrIntern h st s = .ok (st', k)) :
    Rep h st' (specIntern strs s).1 ∧ k = (specIntern strs s).2 := by
  obtain ⟨st1, h1, r1⟩ := getOrIntern_spec hr s
  cases h1.symm.trans hg
  exact ⟨r1, rfl⟩

theorem internAll_spec (hr : Rep h st strs) (hist : List Str) :
    ∃ st', internAll h st hist = .ok (st', (specInternAll strs hist).2) ∧
      Rep h st' (specInternAll strs hist).1 := by
  induction hist generalizing st strs with
  | nil => exact ⟨st, rfl, hr⟩
  | cons s ss ih =>
    obtain ⟨st1, h1, r1⟩ := getOrIntern_spec hr s
    obtain ⟨st2, h2, r2⟩ := ih r1
    refine ⟨st2, ?_, r2⟩
    simp only [internAll, h1, h2, specInternAll]

end

theorem internAll_ok {h : Str → Nat} {st st' : Interner} {strs hist : List Str} {keys : List Nat}
    (hr : Rep h st strs) (hk : internAll h st hist = .ok (st', keys)) :
    Rep h st' (specInternAll strs hist).1 ∧ keys = (specInternAll strs hist).2 := by
  obtain ⟨st1, h1, r1⟩ := internAll_spec hr hist
  cases h1.symm.trans hk
  exact ⟨r1, rfl⟩

theorem specIntern_prefix (strs : List Str) (s : Str) : strs <+: (specIntern strs s).1 := by
  unfold specIntern
  cases indexOf? s strs with
  | none => exact List.prefix_append strs [s]
  | some i => exact List.prefix_rfl

theorem specIntern_resolve (strs : List Str) (s : Str) :
    specResolve (specIntern strs s).1 (specIntern strs s).2 = some s := by
  unfold specIntern
  cases hi : indexOf? s strs with
  | some i => exact indexOf?_some hi
  | none => simp [specResolve]

theorem specResolve_mono {strs strs' : List Str} {k : Nat} {t : Str} (hp : strs <+: strs')
    (h : specResolve strs k = some t) : specResolve strs' k = some t := by
  obtain ⟨extra, rfl⟩ := hp
  cases k with
  | zero => cases h
  | succ i => exact getElem?_append_some strs extra i t h

theorem specInternAll_prefix (strs : List Str) (hist : List Str) :
    strs <+: (specInternAll strs hist).1 := by
  induction hist generalizing strs with
  | nil => exact List.prefix_rfl
  | cons s ss ih => exact (specIntern_prefix strs s).trans (ih _)

theorem specInternAll_length (strs : List Str) (hist : List Str) :
    (specInternAll strs hist).2.length = hist.length := by
  induction hist generalizing strs with
  | nil => rfl
  | cons s ss ih => simp [specInternAll, ih]

theorem specInternAll_keys (strs : List Str) (hist : List Str) (i : Nat) (hi : i < hist.length) :
    ∃ key, (specInternAll strs hist).2[i]? = some key ∧
      specResolve (specInternAll strs hist).1 key = some hist[i] := by
  induction hist generalizing strs i with
  | nil => cases hi
  | cons s ss ih =>
    cases i with
    | zero =>
      exact ⟨_, rfl, specResolve_mono (specInternAll_prefix _ ss) (specIntern_resolve strs s)⟩
    | succ j => exact ih _ j (Nat.lt_of_succ_lt_succ hi)

theorem specInternAll_key_eq_iff (strs hist : List Str) (hnd : (specInternAll strs hist).1.Nodup)
    (i j : Nat) (hi : i < hist.length) (hj : j < hist.length) :
    ((specInternAll strs hist).2[i]? = (specInternAll strs hist).2[j]?) ↔ hist[i] = hist[j] := by
  obtain ⟨k, hk1, hk2⟩ := specInternAll_keys strs hist i hi
  obtain ⟨k', hk1', hk2'⟩ := specInternAll_keys strs hist j hj
  rw [hk1, hk1']
  constructor
  · intro e
    cases e
    exact Option.some.inj (hk2.symm.trans hk2')
  · intro e
    rw [e] at hk2
    exact ((specResolve_eq_some_iff hnd _ k).mp hk2).symm.trans ((specResolve_eq_some_iff hnd _ k').mp hk2')

theorem intern_key_eq_iff (h : Str → Nat) (hist : List Str) (st : Interner) (keys : List Nat)
    (hk : internAll h empty hist = .ok (st, keys)) :
    keys.length = hist.length ∧
      ∀ i j (hi : i < hist.length) (hj : j < hist.length),
        (keys[i]? = keys[j]?) ↔ (hist[i] = hist[j]) := by
  obtain ⟨r, rfl⟩ := internAll_ok (rep_empty h) hk
  exact ⟨specInternAll_length [] hist, specInternAll_key_eq_iff [] hist r.nodup⟩

theorem resolve_intern {h : Str → Nat} {st st' : Interner} {strs : List Str} {s : Str} {k : Nat}
    (hr : Rep h st strs) (hg : getOrIntern h st s = .ok (st', k)) :
    resolve st' k = .ok (some s) := by
  obtain ⟨r1, rfl⟩ := getOrIntern_ok hr hg
  rw [resolve_spec r1, specIntern_resolve]

theorem Rep.resolve_mono {h h' : Str → Nat} {st st' : Interner} {strs strs' : List Str} {k : Nat}
    {t : Str} (hr : Rep h st strs) (hr' : Rep h' st' strs') (hp : strs <+: strs')
    (hres : resolve st k = .ok (some t)) : resolve st' k = .ok (some t) := by
  rw [resolve_spec hr] at hres
  rw [resolve_spec hr', specResolve_mono hp (Res.ok.inj hres)]

theorem resolve_stable {h : Str → Nat} {st st' : Interner} {strs : List Str} {s t : Str}
    {k k' : Nat} (hr : Rep h st strs) (hres : resolve st k = .ok (some t))
    (hg : getOrIntern h st s = .ok (st', k')) : resolve st' k = .ok (some t) :=
  hr.resolve_mono (getOrIntern_ok hr hg).1 (specIntern_prefix strs s) hres

theorem rebuildLoop_spec (h' : Str → Nat) (buffer : List Nat) (todo : List Str) :
    ∀ (done : List Str) (d : AList Nat (List Nat)),
      buffer = (done ++ todo).flatten → DedupRep h' d done →
      ∃ d', rebuildLoop h' buffer (sums done.flatten.length todo) done.length done.flatten.length d
          = .ok d' ∧ DedupRep h' d' (done ++ todo) := by
  induction todo with
  | nil =>
    intro done d _ hd
    exact ⟨d, rfl, by rwa [List.append_nil]⟩
  | cons t ts ih =>
    intro done d hbuf hd
    obtain ⟨d', h1, h2⟩ := ih (done ++ [t]) _ (by rw [hbuf, List.append_cons]) (hd.populate t)
    rw [List.flatten_append, List.length_append, List.length_append] at h1
    refine ⟨d', ?_, by rwa [List.append_cons]⟩
    simp only [sums, rebuildLoop, hbuf, slice_flatten]
    simpa [hbuf] using h1

section
variable {h : Str → Nat} {st st' : Interner} {strs : List Str}

theorem rebuild_spec (hr : Rep h st strs) (h' : Str → Nat) :
    ∃ st', rebuild h' st.buffer st.ends = .ok st' ∧ Rep h' st' strs := by
  have hd0 : DedupRep h' ([] : AList Nat (List Nat)) [] := (rep_empty h').dedup
  obtain ⟨d', h1, h2⟩ := rebuildLoop_spec h' st.buffer strs [] [] (by simp [hr.buffer]) hd0
  refine ⟨{ buffer := st.buffer, ends := st.ends, dedup := d' }, ?_, ?_⟩
  · unfold rebuild
    rw [hr.ends, show rebuildLoop h' st.buffer (sums 0 strs) 0 0 [] = _ from h1]
  · exact ⟨hr.nodup, hr.buffer, hr.ends, by simpa using h2⟩

theorem rebuild_ok {h' : Str → Nat} (hr : Rep h st strs)
    (hb : rebuild h' st.buffer st.ends = .ok st') : Rep h' st' strs := by
  obtain ⟨st1, h1, r1⟩ := rebuild_spec hr h'
  cases h1.symm.trans hb
  exact r1

theorem rebuild_get {h' : Str → Nat} (hr : Rep h st strs)
    (hb : rebuild h' st.buffer st.ends = .ok st') : ∀ s, get h' st' s = get h st s :=
  fun s => by rw [get_spec (rebuild_ok hr hb), get_spec hr]

theorem rebuild_resolve {h' : Str → Nat} (hr : Rep h st strs) (hb : rebuild h' st.buffer st.ends = .ok st') :
    ∀ k, resolve st' k = resolve st k :=
  fun k => by rw [resolve_spec (rebuild_ok hr hb), resolve_spec hr]

end

end C20.Intern
