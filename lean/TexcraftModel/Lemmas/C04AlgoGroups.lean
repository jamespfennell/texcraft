import TexcraftModel.Lemmas.C04AlgoScan
import TexcraftModel.Lemmas.C04AlgoDefsQ
import TexcraftModel.Lemmas.C04AlgoBound

/-!
The `while n > 0` loop of `try_break` in pure form (`groupOut` / `groupsRun`), for every looseness
`q`, by line class (`ckey`). `Round` says what a call of `try_break` does to the active list: one
round of the loop is a `Round` on its group (`groupOut_round`), rounds over consecutive stretches
compose (`Round.append`), and so the whole loop is one (`groupsRun_round`).
-/
namespace C04

theorem ckey_ne {x : Inst} {q : Int} (hq : q ≠ 0) (L : Nat) : ckey x q L = L := if_neg hq

theorem ckey_zero (x : Inst) (L : Nat) : ckey x 0 L = min L (x.p.widths.length - 1) := if_pos rfl

theorem ckey_mono (x : Inst) (q : Int) {a b : Nat} (h : a ≤ b) : ckey x q a ≤ ckey x q b := by
  unfold ckey lkey
  split
  · exact Nat.le_min.2 ⟨Nat.le_trans (Nat.min_le_left _ _) h, Nat.min_le_right _ _⟩
  · exact h

theorem ckey_succ {x : Inst} {q : Int} {a b : Nat} (h : ckey x q a = ckey x q b) :
    ckey x q (a + 1) = ckey x q (b + 1) := by
  by_cases hq : q = 0
  · subst hq
    simp only [ckey_zero] at h ⊢
    generalize x.p.widths.length - 1 = M at h ⊢
    omega
  · simp only [ckey_ne hq] at h ⊢
    omega

/-- `widths.length ≤ L + 2` is the test of `num_nodes_for_next_class` (lib.rs:1037): the line after
line `L` is in the last class. -/
theorem ckey_last {x : Inst} {L : Nat} (h : x.p.widths.length ≤ L + 2) :
    ckey x 0 (L + 1) = x.p.widths.length - 1 := by
  rw [ckey_zero]
  exact Nat.min_eq_right (by omega)

theorem ckey_le_last (x : Inst) (L : Nat) : ckey x 0 L ≤ x.p.widths.length - 1 := by
  rw [ckey_zero]
  exact Nat.min_le_right _ _

theorem last_of_ckey_le {x : Inst} {a b : Nat} (ha : x.p.widths.length ≤ a + 2)
    (h : ckey x 0 a ≤ ckey x 0 b) : x.p.widths.length ≤ b + 2 := by
  rw [ckey_zero, ckey_zero] at h
  omega

theorem ckey_succ_le {x : Inst} {q : Int} {L a : Nat} (hL : ¬ (q = 0 ∧ x.p.widths.length ≤ L + 2))
    (h : ckey x q L ≤ ckey x q a) (hne : a ≠ L) : ckey x q (L + 1) ≤ ckey x q a := by
  by_cases hq : q = 0
  · subst hq
    have hM : L + 1 < x.p.widths.length - 1 := by
      have : ¬ x.p.widths.length ≤ L + 2 := fun hw => hL ⟨rfl, hw⟩
      omega
    simp only [ckey_zero] at h ⊢
    generalize x.p.widths.length - 1 = M at h hM ⊢
    omega
  · simp only [ckey_ne hq] at h ⊢
    omega

/-- The node that `try_break` creates at the break of `c` from the candidate through `ν`. -/
def child (x : Inst) (c : BCtx) (ν : ANode) : ANode :=
  { ref := breakWidth x c.i c.diffs, fit := (nodeRate x c ν).2, hyph := c.hyph,
    line := ν.line + 1, total := totOf x c ν, path := c.i :: ν.path }

/-- `thr < AWFUL_BAD` rules out the classes that received no candidate: their total is still
`AWFUL_BAD`. -/
theorem newNodes_scan_mem {x : Inst} {c : BCtx} {G : List ANode} {thr : Int}
    {μ : ANode} (hthr : thr < awfulBad)
    (h : μ ∈ newNodes c (breakWidth x c.i c.diffs) (scanC x c G (Cands.init, awfulBad)).1 thr) :
    ∃ ν, ν ∈ G ∧ allowOf x c ν = true ∧ μ = child x c ν := by
  obtain ⟨f, hle, rfl⟩ := mem_newNodes.1 h
  obtain ⟨ν, hνG, hal, hfit, hcd⟩ := (scanC_inv x c G).src f (Int.lt_of_le_of_lt hle hthr)
  exact ⟨ν, hνG, hal, by rw [hcd, ← hfit]; rfl⟩

theorem mem_groupOut {x : Inst} {c : BCtx} {G : List ANode} {μ : ANode} :
    μ ∈ groupOut x c G ↔ (μ ∈ G ∧ deactOf x c μ = false) ∨
      ((scanC x c G (Cands.init, awfulBad)).2 < awfulBad ∧
        μ ∈ newNodes c (breakWidth x c.i c.diffs) (scanC x c G (Cands.init, awfulBad)).1
          (pruneThreshold x.p.adjDemerits (scanC x c G (Cands.init, awfulBad)).2)) := by
  unfold groupOut survivors
  rw [List.mem_append, List.mem_filter]
  split <;> simp [*]

theorem groupOut_sorted (x : Inst) (q : Int) (c : BCtx) (G : List ANode) (K : Nat)
    (hs : SortedQ x q G) (hK : ∀ ν, ν ∈ G → ckey x q ν.line ≤ K ∧ ckey x q (ν.line + 1) = K) :
    SortedQ x q (groupOut x c G) := by
  unfold groupOut SortedQ
  rw [List.pairwise_append]
  have hnew : ∀ μ, μ ∈ (if (scanC x c G (Cands.init, awfulBad)).2 < awfulBad then
        newNodes c (breakWidth x c.i c.diffs) (scanC x c G (Cands.init, awfulBad)).1
          (pruneThreshold x.p.adjDemerits (scanC x c G (Cands.init, awfulBad)).2)
      else []) → ckey x q μ.line = K := by
    intro μ hμ
    split at hμ
    · obtain ⟨ν, hν, _, rfl⟩ := newNodes_scan_mem (pruneThreshold_lt _ _) hμ
      exact (hK ν hν).2
    · cases hμ
  refine ⟨hs.sublist List.filter_sublist, ?_, fun a ha b hb => ?_⟩
  · exact List.pairwise_of_forall_mem_list fun a ha b hb => by rw [hnew a ha, hnew b hb]; exact Nat.le_refl _
  · rw [hnew b hb]
    exact (hK a (List.mem_filter.1 ha).1).1

theorem mem_takeWhile_line {L : Nat} {l : List ANode} {ν : ANode}
    (h : ν ∈ l.takeWhile fun ν => ν.line == L) : ν.line = L :=
  beq_iff_eq.1 (List.all_eq_true.1 List.all_takeWhile ν h)

theorem groupsRun_cons (x : Inst) (q : Int) (c : BCtx) (fuel : Nat) (first : ANode) (t : List ANode) :
    groupsRun x q c (fuel + 1) (first :: t) =
      if q = 0 ∧ x.p.widths.length ≤ first.line + 2 then groupOut x c (first :: t)
      else groupOut x c ((first :: t).takeWhile fun ν => ν.line == first.line) ++
        groupsRun x q c fuel ((first :: t).dropWhile fun ν => ν.line == first.line) := by
  rw [groupsRun, if_neg (List.cons_ne_nil _ _)]
  unfold numNext
  simp only
  split
  · rw [List.take_length, List.drop_length, scan_groupsRun_nil, List.append_nil]
  · rw [List.take_length, take_length_takeWhile, drop_length_takeWhile]

theorem dropWhile_line_length (first : ANode) (t : List ANode) :
    ((first :: t).dropWhile fun ν => ν.line == first.line).length ≤ t.length := by
  rw [List.dropWhile_cons, if_pos (beq_self_eq_true _)]
  exact (List.dropWhile_sublist _).length_le

theorem last_of_sorted {x : Inst} {first : ANode} {t : List ANode} (hs : SortedQ x 0 (first :: t))
    (hb : x.p.widths.length ≤ first.line + 2) (μ : ANode) (hμ : μ ∈ first :: t) :
    x.p.widths.length ≤ μ.line + 2 := by
  rcases List.mem_cons.1 hμ with rfl | hμ
  · exact hb
  · exact last_of_ckey_le hb ((List.pairwise_cons.1 hs).1 μ hμ)

theorem ckey_dropWhile {x : Inst} {q : Int} {first : ANode} {t : List ANode}
    (hL : ¬ (q = 0 ∧ x.p.widths.length ≤ first.line + 2)) (hs : SortedQ x q (first :: t)) (μ : ANode)
    (hμ : μ ∈ (first :: t).dropWhile fun ν => ν.line == first.line) :
    ckey x q (first.line + 1) ≤ ckey x q μ.line := by
  have hl := (List.pairwise_cons.1 hs).1
  replace hs := (List.pairwise_cons.1 hs).2
  rw [List.dropWhile_cons, if_pos (beq_self_eq_true _)] at hμ
  induction t with
  | nil => cases hμ
  | cons a l ih =>
    have hs' := List.pairwise_cons.1 hs
    rw [List.dropWhile_cons] at hμ
    split at hμ
    · exact ih hμ (fun b hb => hl b (List.mem_cons_of_mem _ hb)) hs'.2
    · rename_i h
      have ha : ckey x q (first.line + 1) ≤ ckey x q a.line :=
        ckey_succ_le hL (hl a (List.mem_cons_self ..)) (by simpa using h)
      rcases List.mem_cons.1 hμ with rfl | hμ
      · exact ha
      · exact Nat.le_trans ha (hs'.1 μ hμ)

/-- What the pruning threshold (lib.rs:793-797, :876) lets through dominates what it drops: a
dropped candidate is dearer than the least one by more than `|adj_demerits|`, the most that the
fitness class of a node can add to the demerits of its next line. -/
theorem prune_keeps (cs : Cands) (md adj : Int) (f gmin : Fit) (c : Int)
    (hmin : md = (cs gmin).total) (hle : md ≤ (cs f).total) (hf : (cs f).total ≤ c)
    (hc : c < awfulBad) :
    ∃ g, (cs g).total ≤ pruneThreshold adj md ∧ (cs g).total < awfulBad ∧
      ((g = f ∧ (cs g).total ≤ c) ∨ (cs g).total + iabs adj ≤ c) := by
  by_cases hthr : (cs f).total ≤ pruneThreshold adj md
  · exact ⟨f, hthr, by omega, Or.inl ⟨rfl, hf⟩⟩
  · -- `(cs f).total < AWFUL_BAD` is beyond the threshold, so the threshold did not saturate: it is
    -- `md + |adj|`, and the least class is within it
    have hadj := iabs_nonneg adj
    simp only [pruneThreshold_eq, Int.le_min] at hthr ⊢
    exact ⟨gmin, ⟨by omega, by omega⟩, by omega, Or.inr (by omega)⟩

theorem GroupShapeQ.key {x : Inst} {q : Int} {G : List ANode} (h : GroupShapeQ x q G) :
    ∃ K, ∀ ν, ν ∈ G → ckey x q ν.line ≤ K ∧ ckey x q (ν.line + 1) = K := by
  rcases h with hsame | ⟨rfl, hlast⟩
  · cases G with
    | nil => exact ⟨0, fun _ h => nomatch h⟩
    | cons a t =>
      refine ⟨ckey x q (a.line + 1), fun ν hν => ?_⟩
      rw [hsame ν hν a List.mem_cons_self]
      exact ⟨ckey_mono x q (Nat.le_succ _), rfl⟩
  · exact ⟨x.p.widths.length - 1, fun ν hν => ⟨ckey_le_last x ν.line, ckey_last (hlast ν hν)⟩⟩

/-- Node `ν` dominates the feasible prefix ending in state `(pos, L, f)` with total `c`. -/
def Dominates (x : Inst) (q : Int) (ν : ANode) (pos : Option Nat) (L : Nat) (f : Fit) (c : Int) : Prop :=
  ν.pos = pos ∧ ckey x q ν.line = ckey x q L ∧
    ((ν.fit = f ∧ ν.total ≤ c) ∨ ν.total + iabs x.p.adjDemerits ≤ c)

/-- What one call of `try_break` (`force_solution = false`) does to the active list `A`, with
the deque, the candidates and the line groups forgotten. In `new` the two alternatives of
`Dominates` come from the `<=` updates of the candidates (a node of the candidate's fitness class,
no dearer) and from the pruning threshold (a node of any class, cheaper by `|adj_demerits|`). -/
structure Round (x : Inst) (q : Int) (c : BCtx) (A B : List ANode) : Prop where
  sub : ∀ μ, μ ∈ B →
    (μ ∈ A ∧ deactOf x c μ = false) ∨ ∃ ν, ν ∈ A ∧ allowOf x c ν = true ∧ μ = child x c ν
  keep : ∀ ν, ν ∈ A → deactOf x c ν = false → ν ∈ B
  new : ∀ ν, ν ∈ A → allowOf x c ν = true → ∀ t, totOf x c ν ≤ t → t < awfulBad →
    ∃ μ, μ ∈ B ∧ Dominates x q μ (some c.i) (ν.line + 1) (nodeRate x c ν).2 t
  sorted : SortedQ x q B

theorem Round.nil (x : Inst) (q : Int) (c : BCtx) : Round x q c [] [] :=
  ⟨fun _ h => (List.not_mem_nil h).elim, fun _ h => (List.not_mem_nil h).elim,
    fun _ h => (List.not_mem_nil h).elim, List.Pairwise.nil⟩

theorem Round.line {x : Inst} {q : Int} {c : BCtx} {A B : List ANode} (h : Round x q c A B) {μ : ANode}
    (hμ : μ ∈ B) : ∃ ν, ν ∈ A ∧ ckey x q ν.line ≤ ckey x q μ.line ∧ ckey x q μ.line ≤ ckey x q (ν.line + 1) := by
  rcases h.sub μ hμ with ⟨hA, _⟩ | ⟨ν, hν, _, rfl⟩
  · exact ⟨μ, hA, Nat.le_refl _, ckey_mono x q (Nat.le_succ _)⟩
  · exact ⟨ν, hν, ckey_mono x q (Nat.le_succ _), Nat.le_refl _⟩

theorem Round.append {x : Inst} {q : Int} {c : BCtx} {A₁ B₁ A₂ B₂ : List ANode}
    (h₁ : Round x q c A₁ B₁) (h₂ : Round x q c A₂ B₂)
    (hb : ∀ ν, ν ∈ A₁ → ∀ μ, μ ∈ A₂ → ckey x q (ν.line + 1) ≤ ckey x q μ.line) :
    Round x q c (A₁ ++ A₂) (B₁ ++ B₂) := by
  refine ⟨fun μ hμ => ?_, fun ν hν hk => ?_, fun ν hν ha t ht htb => ?_, ?_⟩
  · rcases List.mem_append.1 hμ with hμ | hμ
    · exact (h₁.sub μ hμ).imp (fun h => ⟨List.mem_append_left _ h.1, h.2⟩)
        fun ⟨ν, h⟩ => ⟨ν, List.mem_append_left _ h.1, h.2⟩
    · exact (h₂.sub μ hμ).imp (fun h => ⟨List.mem_append_right _ h.1, h.2⟩)
        fun ⟨ν, h⟩ => ⟨ν, List.mem_append_right _ h.1, h.2⟩
  · rcases List.mem_append.1 hν with hν | hν
    · exact List.mem_append_left _ (h₁.keep ν hν hk)
    · exact List.mem_append_right _ (h₂.keep ν hν hk)
  · rcases List.mem_append.1 hν with hν | hν
    · obtain ⟨μ, hμ, h⟩ := h₁.new ν hν ha t ht htb
      exact ⟨μ, List.mem_append_left _ hμ, h⟩
    · obtain ⟨μ, hμ, h⟩ := h₂.new ν hν ha t ht htb
      exact ⟨μ, List.mem_append_right _ hμ, h⟩
  · refine List.pairwise_append.2 ⟨h₁.sorted, h₂.sorted, fun a ha b hb' => ?_⟩
    obtain ⟨ν, hν, _, h1⟩ := h₁.line ha
    obtain ⟨μ, hμ, h2, _⟩ := h₂.line hb'
    exact Nat.le_trans h1 (Nat.le_trans (hb ν hν μ hμ) h2)

theorem groupOut_round (x : Inst) (q : Int) (c : BCtx) {G : List ANode} (hsh : GroupShapeQ x q G)
    (hs : SortedQ x q G) : Round x q c G (groupOut x c G) := by
  obtain ⟨K, hK⟩ := hsh.key
  refine ⟨fun μ hμ => ?_, fun ν hν hk => mem_groupOut.2 (Or.inl ⟨hν, hk⟩),
    fun ν hνG ha t ht htb => ?_, groupOut_sorted x q c G K hs hK⟩
  · exact (mem_groupOut.1 hμ).imp_right fun h => newNodes_scan_mem (pruneThreshold_lt _ _) h.2
  -- the candidate of `ν` lowers its class's total to at most `t`; what the threshold lets
  -- through of that round is a node, and every candidate of the round has the class of `ν`'s
  have hsc := scanC_inv x c G
  have hle := hsc.le ν hνG ha
  obtain ⟨hminle, gmin, hgmin⟩ := hsc.min
  have hmd : (scanC x c G (Cands.init, awfulBad)).2 < awfulBad := by
    have := hminle (nodeRate x c ν).2
    omega
  obtain ⟨g, hthr, hlt, hdom⟩ := prune_keeps _ _ x.p.adjDemerits (nodeRate x c ν).2 gmin t hgmin
    (hminle _) (Int.le_trans hle ht) htb
  refine ⟨_, mem_groupOut.2 (Or.inr ⟨hmd, mem_newNodes.2 ⟨g, hthr, rfl⟩⟩), rfl, ?_, hdom⟩
  obtain ⟨μ, hμG, _, _, hcd⟩ := hsc.src g hlt
  rw [hcd]
  exact ((hK μ hμG).2).trans ((hK ν hνG).2).symm

theorem groupsRun_round (x : Inst) (q : Int) (c : BCtx) (fuel : Nat) (A : List ANode)
    (hf : A.length ≤ fuel) (hs : SortedQ x q A) : Round x q c A (groupsRun x q c fuel A) := by
  induction fuel generalizing A with
  | zero =>
    rw [List.eq_nil_of_length_eq_zero (Nat.le_zero.1 hf)]
    exact Round.nil x q c
  | succ fuel ih =>
    cases A with
    | nil => rw [scan_groupsRun_nil]; exact Round.nil x q c
    | cons first t =>
      rw [groupsRun_cons]
      split
      · rename_i hb
        obtain ⟨rfl, hb⟩ := hb
        exact groupOut_round x 0 c (Or.inr ⟨rfl, last_of_sorted hs hb⟩) hs
      · -- the nodes on the line of `first`, then the rest, whose classes lie beyond those of the
        -- first group's children
        rename_i hb
        have h := Round.append
          (groupOut_round x q c (G := (first :: t).takeWhile fun ν => ν.line == first.line)
            (Or.inl fun μ hμ μ' hμ' => by rw [mem_takeWhile_line hμ, mem_takeWhile_line hμ'])
            (hs.sublist (List.takeWhile_sublist _)))
          (ih _ (Nat.le_trans (dropWhile_line_length first t) (Nat.le_of_succ_le_succ hf))
            (hs.sublist (List.dropWhile_sublist _)))
          (fun ν hν μ hμ => by
            rw [mem_takeWhile_line hν]; exact ckey_dropWhile hb hs μ hμ)
        rwa [List.takeWhile_append_dropWhile] at h

end C04
