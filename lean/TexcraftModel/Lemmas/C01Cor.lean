import TexcraftModel.Lemmas.C01

/-!
# C01 — the corollaries, proved on the specification and carried to the model by `R`

On the specification a well-bracketed block runs to its end and maps one function over the
environments saved before it, the identity off the targets it assigns globally (`Spec.Keeps`,
`Spec.bal_keeps`); `{ a }` around such a block is the global update by that function. After a global
assignment every level of the stack agrees on the target (`Spec.global_all`), so closing any number
of groups keeps its value (`Spec.close_many`). `R.runsTo` carries both to the model from any related
state; under `NoGD` (`\globaldefs` is 0 on the whole stack) plain operations assign nothing globally.
-/
namespace C01
open C20
open C20.Snap (fupd)

theorem Spec.step_nonfatal (s : Spec) (op : Op) (he : op ≠ .endGroup) : (s.step op).2.fatal = false := by
  cases op with
  | endGroup => exact absurd rfl he
  | define pre t d => rw [Spec.step]; cases Spec.resolveDef s.cur d <;> rfl
  | read t => cases t <;> rfl
  | _ => rfl

theorem Spec.globals_cons (s : Spec) (op : Op) (l : List Op) :
    Spec.globals s (op :: l) = (Spec.globalTarget s op).toList ++ Spec.globals (s.step op).1 l := by
  rw [Spec.globals]; cases Spec.globalTarget s op <;> rfl

theorem Spec.globals_append {s s' : Spec} {a : List Op} (h : RunsTo Spec.step s a s') (b : List Op) :
    Spec.globals s (a ++ b) = Spec.globals s a ++ Spec.globals s' b := by
  induction h with
  | nil => rfl
  | cons _ _ ih => rw [List.cons_append, Spec.globals_cons, Spec.globals_cons, ih, List.append_assoc]

/-- The two environments give every target outside `G` the same value. -/
def AgreeOff (G : List Target) (e e' : Env) : Prop := ∀ t, t ∉ G → e.valOf t = e'.valOf t

theorem AgreeOff.refl (G : List Target) (e : Env) : AgreeOff G e e := fun _ _ => rfl

theorem AgreeOff.trans {G1 G2 : List Target} {a b c : Env} (h1 : AgreeOff G1 a b) (h2 : AgreeOff G2 b c) :
    AgreeOff (G1 ++ G2) a c := by
  intro t ht
  rw [List.mem_append, not_or] at ht
  rw [h1 t ht.1, h2 t ht.2]

/-- `f` changes the value of `t` only, and sets it to `c`. -/
structure Sets (f : Env → Env) (t : Target) (c : TVal) : Prop where
  self : ∀ e, (f e).valOf t = c
  other : ∀ e t', t' ≠ t → (f e).valOf t' = e.valOf t'

theorem sets_setVarEnv (v : Var) (x : Val) : Sets (Spec.setVarEnv v x) (.var v) (.v (some x)) := by
  refine ⟨fun e => by simp [Env.valOf, Spec.setVarEnv, fupd], fun e t h => ?_⟩
  cases t with
  | var w =>
    have : v ≠ w := fun hh => h (by rw [hh])
    simp [Env.valOf, Spec.setVarEnv, fupd, this]
  | cmd t => rfl
  | font => rfl

theorem sets_setFontEnv (f : Nat) : Sets (Spec.setFontEnv f) .font (.f f) := by
  refine ⟨fun _ => rfl, fun e t h => ?_⟩
  cases t with
  | var w => rfl
  | cmd t => cases t <;> rfl
  | font => exact absurd rfl h

theorem Spec.getCmd_setCmdEnv (tg : CTarget) (c : Cmd) (e : Env) (t : CTarget) :
    Spec.getCmd (Spec.setCmdEnv tg c e) t = if tg = t then some c else Spec.getCmd e t := by
  cases tg <;> cases t <;> simp [Spec.getCmd, Spec.setCmdEnv, fupd]

theorem sets_setCmdEnv (tg : CTarget) (c : Cmd) : Sets (Spec.setCmdEnv tg c) (.cmd tg) (.c (some c)) := by
  refine ⟨fun e => by rw [Env.valOf, Spec.getCmd_setCmdEnv, if_pos rfl], fun e t h => ?_⟩
  cases t with
  | var w => cases tg <;> rfl
  | font => cases tg <;> rfl
  | cmd t' => rw [Env.valOf, Spec.getCmd_setCmdEnv, if_neg fun hh => h (by rw [hh])]; rfl

theorem Sets.all {f : Env → Env} {t : Target} {c : TVal} (hf : Sets f t c) (s : Spec) :
    ∀ e ∈ (s.update .glob f).saved, e.valOf t = (s.update .glob f).cur.valOf t := by
  intro e he
  obtain ⟨e0, -, rfl⟩ := List.mem_map.1 he
  exact (hf.self e0).trans (hf.self s.cur).symm

theorem Spec.step_cases (s : Spec) (op : Op) (hb : op ≠ .beginGroup) (he : op ≠ .endGroup) :
    (Spec.globalTarget s op = none ∧ (s.step op).1.saved = s.saved) ∨
    ∃ f t c, Sets f t c ∧ Spec.globalTarget s op = some t ∧ (s.step op).1 = s.update .glob f := by
  cases op with
  | beginGroup => exact absurd rfl hb
  | endGroup => exact absurd rfl he
  | read t => exact .inl ⟨rfl, rfl⟩
  | assign pre v x =>
    rw [Spec.globalTarget, Spec.step]
    cases Spec.effScope s.globalDefs pre with
    | loc => exact .inl ⟨rfl, rfl⟩
    | glob => exact .inr ⟨_, _, _, sets_setVarEnv v x, rfl, rfl⟩
  | selectFont pre f =>
    rw [Spec.globalTarget, Spec.step]
    cases Spec.effScope s.globalDefs pre with
    | loc => exact .inl ⟨rfl, rfl⟩
    | glob => exact .inr ⟨_, _, _, sets_setFontEnv f, rfl, rfl⟩
  | define pre t d =>
    rw [Spec.globalTarget, Spec.step]
    cases Spec.resolveDef s.cur d with
    | none => exact .inl ⟨rfl, rfl⟩
    | some c =>
      cases defScope d (Spec.effScope s.globalDefs pre) with
      | loc => exact .inl ⟨rfl, rfl⟩
      | glob => exact .inr ⟨_, _, _, sets_setCmdEnv t c, rfl, rfl⟩

/-- The block `l` runs from `s` to its end in `s'`, and the environments saved before it are still
there, each changed by the same `F`, which leaves alone every target that `l` does not assign globally. -/
structure Spec.Keeps (s : Spec) (l : List Op) (s' : Spec) (F : Env → Env) : Prop where
  runs : RunsTo Spec.step s l s'
  saved : s'.saved = s.saved.map F
  agree : ∀ e, AgreeOff (Spec.globals s l) e (F e)

namespace Spec.Keeps
variable {s s' s'' : Spec} {a b : List Op} {F F' : Env → Env}

theorem nil (s : Spec) : Keeps s [] s id := ⟨.nil, (List.map_id _).symm, fun e => .refl _ e⟩

theorem append (h : Keeps s a s' F) (h' : Keeps s' b s'' F') : Keeps s (a ++ b) s'' (F' ∘ F) := by
  refine ⟨h.runs.append h'.runs, by rw [h'.saved, h.saved]; exact List.map_map, fun e => ?_⟩
  rw [Spec.globals_append h.runs]
  exact (h.agree e).trans (h'.agree (F e))

theorem single (s : Spec) (op : Op) (hb : op ≠ .beginGroup) (he : op ≠ .endGroup) :
    ∃ F, Keeps s [op] (s.step op).1 F := by
  have hr : RunsTo Spec.step s [op] (s.step op).1 := .cons (Spec.step_nonfatal s op he) .nil
  have hg : Spec.globals s [op] = (Spec.globalTarget s op).toList :=
    (Spec.globals_cons s op []).trans (List.append_nil _)
  rcases Spec.step_cases s op hb he with ⟨h1, h2⟩ | ⟨f, t, c, hf, h1, h2⟩
  · exact ⟨id, hr, by rw [h2, List.map_id], fun e => .refl _ e⟩
  · refine ⟨f, hr, by rw [h2]; rfl, fun e t' ht' => (hf.other e t' ?_).symm⟩
    rw [hg, h1] at ht'
    exact fun h => ht' (h ▸ List.mem_singleton_self t)

theorem cons {l : List Op} {op : Op} (hb : op ≠ .beginGroup) (he : op ≠ .endGroup)
    (h : ∃ s' F, Keeps (s.step op).1 l s' F) : ∃ s' F, Keeps s (op :: l) s' F := by
  obtain ⟨F1, h1⟩ := single s op hb he
  obtain ⟨s', F, h⟩ := h
  exact ⟨s', _, h1.append h⟩

theorem group (h : Keeps (s.step .beginGroup).1 a s' F) :
    Keeps s (.beginGroup :: (a ++ [.endGroup])) (s.update .glob F) F := by
  obtain ⟨r, e, o⟩ := h
  have hend : s'.step .endGroup = (s.update .glob F, .unit) := by rw [Spec.step, e]; rfl
  have hg : Spec.globals s (.beginGroup :: (a ++ [.endGroup])) = Spec.globals (s.step .beginGroup).1 a := by
    rw [Spec.globals_cons, Spec.globals_append r, Spec.globals_cons]
    exact List.append_nil _
  exact ⟨.cons rfl (r.append (.cons (by rw [hend]; rfl) (by rw [hend]; exact .nil))), rfl, hg ▸ o⟩

end Spec.Keeps

theorem Spec.bal_keeps {blk : List Op} (hb : Bal blk) : ∀ s : Spec, ∃ s' F, Spec.Keeps s blk s' F := by
  induction hb with
  | nil => exact fun s => ⟨s, id, .nil s⟩
  | assign _ _ _ _ ih | define _ _ _ _ ih | selectFont _ _ _ ih | read _ _ ih =>
    exact fun s => Spec.Keeps.cons Op.noConfusion Op.noConfusion (ih _)
  | @group a b _ _ iha ihb =>
    intro s
    obtain ⟨s1, F1, ha⟩ := iha (s.step .beginGroup).1
    obtain ⟨s', F2, hb⟩ := ihb (s.update .glob F1)
    have happ : Op.beginGroup :: (a ++ .endGroup :: b) = (.beginGroup :: (a ++ [.endGroup])) ++ b := by
      simp
    exact ⟨s', _, happ ▸ ha.group.append hb⟩

/-- `{ blk }` with `blk` well bracketed: never fails, and afterwards every target that was not
assigned globally inside has the value it had before the `{`. -/
theorem Spec.close_restores (s : Spec) {blk : List Op} (hb : Bal blk) :
    (∀ o ∈ (s.run (.beginGroup :: (blk ++ [.endGroup]))).2, o.fatal = false) ∧
    AgreeOff (Spec.globals (s.step .beginGroup).1 blk) s.cur
      (s.run (.beginGroup :: (blk ++ [.endGroup]))).1.cur := by
  obtain ⟨s1, F, h⟩ := Spec.bal_keeps hb (s.step .beginGroup).1
  obtain ⟨g1, g2⟩ := h.group.runs.runWith
  rw [Spec.run_eq, g2]
  exact ⟨g1, h.agree s.cur⟩

theorem Spec.global_all (s : Spec) (op : Op) (t : Target) (h : Spec.globalTarget s op = some t) :
    ∀ e ∈ (s.step op).1.saved, e.valOf t = (s.step op).1.cur.valOf t := by
  rcases Spec.step_cases s op (by rintro rfl; cases h) (by rintro rfl; cases h) with
    ⟨h1, -⟩ | ⟨f, t', c, hf, h1, h2⟩
  · rw [h1] at h; cases h
  · rw [h1] at h; cases h
    rw [h2]; exact hf.all s

theorem Spec.close_many (t : Target) : ∀ (k : Nat) (s : Spec),
    (∀ e ∈ s.saved, e.valOf t = s.cur.valOf t) → k ≤ s.saved.length →
    ∃ s', RunsTo Spec.step s (List.replicate k .endGroup) s' ∧ s'.cur.valOf t = s.cur.valOf t := by
  intro k
  induction k with
  | zero => exact fun s _ _ => ⟨s, .nil, rfl⟩
  | succ k ih =>
    intro ⟨cur, saved⟩ hall hk
    cases saved with
    | nil => cases hk
    | cons e rest =>
      have he : e.valOf t = cur.valOf t := hall e List.mem_cons_self
      obtain ⟨s', i1, i2⟩ := ih ⟨e, rest⟩
        (fun e' he' => (hall e' (List.mem_cons_of_mem _ he')).trans he.symm) (Nat.le_of_succ_le_succ hk)
      exact ⟨s', .cons rfl i1, i2.trans he⟩

section Carry
variable {m : VMState} {s : Spec}

theorem R.valOf (h : R m s) (t : Target) : valOf m t = s.cur.valOf t := by
  cases t with
  | var v => simp only [C01.valOf, Env.valOf, h.var]
  | cmd t => simp only [C01.valOf, Env.valOf, h.getCmd]
  | font => simp only [C01.valOf, Env.valOf, h.curFont]

theorem R.runsTo (h : R m s) {ops : List Op} {s' : Spec} (hr : RunsTo Spec.step s ops s') :
    (∀ o ∈ (run .fixed m ops).2, o.fatal = false) ∧ R (run .fixed m ops).1 s' := by
  obtain ⟨ho, hR⟩ := refines_run_from h ops
  rw [Spec.run_eq] at ho hR
  obtain ⟨r1, rfl⟩ := hr.runWith
  rw [ho]
  exact ⟨r1, hR⟩

theorem close_restores_from (h : R m s) {blk : List Op} (hb : Bal blk) {t : Target}
    (ht : t ∉ Spec.globals (s.step .beginGroup).1 blk) :
    (∀ o ∈ (run .fixed m (.beginGroup :: (blk ++ [.endGroup]))).2, o.fatal = false) ∧
    valOf (run .fixed m (.beginGroup :: (blk ++ [.endGroup]))).1 t = valOf m t := by
  obtain ⟨s1, F, hk⟩ := Spec.bal_keeps hb (s.step .beginGroup).1
  obtain ⟨c1, hR⟩ := h.runsTo hk.group.runs
  rw [hR.valOf, h.valOf, Spec.cur_update]
  exact ⟨c1, (hk.agree s.cur t ht).symm⟩

theorem global_survives_from (h : R m s) {op : Op} {t : Target} (hg : Spec.globalTarget s op = some t)
    {k : Nat} (hk : k ≤ (run .fixed m [op]).1.save.length) :
    (∀ o ∈ (run .fixed m (op :: List.replicate k .endGroup)).2, o.fatal = false) ∧
    valOf (run .fixed m (op :: List.replicate k .endGroup)).1 t = valOf (run .fixed m [op]).1 t := by
  have h1 : (s.step op).2.fatal = false := Spec.step_nonfatal s op (by rintro rfl; cases hg)
  obtain ⟨-, hR1⟩ := h.runsTo (.cons h1 .nil)
  rw [hR1.depth.1] at hk
  obtain ⟨s', c1, c2⟩ := Spec.close_many t k (s.step op).1 (Spec.global_all s op t hg) hk
  obtain ⟨d1, hR⟩ := h.runsTo (.cons h1 c1)
  rw [hR.valOf, hR1.valOf]
  exact ⟨d1, c2⟩

theorem assigned_value_from (h : R m s) (pre : Nat) (v : Var) (x : Val) :
    valOf (assign .fixed m pre v x) (.var v) = .v (some x) := by
  rw [(h.assign pre v x).valOf, Spec.cur_update]; exact (sets_setVarEnv v x).self _

theorem selected_font_from (h : R m s) (pre f : Nat) : valOf (selectFont m pre f) .font = .f f := by
  rw [(h.selectFont pre f).valOf, Spec.cur_update]; rfl

end Carry

theorem Spec.step_out_ok (s : Spec) (op : Op) :
    (s.step op).2 ≠ .panic ∧ (s.step op).2 ≠ .errPrefix := by
  cases op with
  | endGroup => rw [Spec.step]; cases s.saved <;> exact ⟨Out.noConfusion, Out.noConfusion⟩
  | define pre t d => rw [Spec.step]; cases Spec.resolveDef s.cur d <;> exact ⟨Out.noConfusion, Out.noConfusion⟩
  | read t => cases t <;> exact ⟨Out.noConfusion, Out.noConfusion⟩
  | _ => exact ⟨Out.noConfusion, Out.noConfusion⟩

theorem Spec.run_outs_ok (s : Spec) (ops : List Op) :
    ∀ o ∈ (s.run ops).2, o ≠ .panic ∧ o ≠ .errPrefix := by
  rw [Spec.run_eq]; exact runWith_outs _ Spec.step_out_ok

/-- `\globaldefs` has its initial value 0 in every environment on the stack. -/
def NoGD (s : Spec) : Prop :=
  s.cur.var globaldefsVar = none ∧ ∀ e ∈ s.saved, e.var globaldefsVar = none

theorem NoGD_init : NoGD Spec.init := ⟨rfl, fun _ h => (List.not_mem_nil h).elim⟩

theorem NoGD.update {s : Spec} (h : NoGD s) (sc : Scope) (f : Env → Env)
    (hf : ∀ e, (f e).var globaldefsVar = e.var globaldefsVar) : NoGD (s.update sc f) := by
  refine ⟨by rw [Spec.cur_update, hf]; exact h.1, ?_⟩
  cases sc with
  | loc => exact h.2
  | glob =>
    intro e he
    obtain ⟨e0, he0, rfl⟩ := List.mem_map.1 he
    rw [hf]; exact h.2 e0 he0

theorem NoGD.step {s : Spec} (h : NoGD s) (op : Op) (hop : op.noGlobaldefs = true) :
    NoGD (s.step op).1 := by
  cases op with
  | beginGroup => exact ⟨h.1, List.forall_mem_cons.2 ⟨h.1, h.2⟩⟩
  | endGroup =>
    obtain ⟨cur, saved⟩ := s
    cases saved with
    | nil => exact h
    | cons e rest => exact List.forall_mem_cons.1 h.2
  | assign pre v x =>
    have hv : v ≠ globaldefsVar := of_decide_eq_true hop
    exact h.update _ _ fun e => if_neg hv
  | define pre t d =>
    rw [Spec.step]
    cases Spec.resolveDef s.cur d with
    | none => exact h
    | some c => exact h.update _ _ (fun e => by cases t <;> rfl)
  | selectFont pre f => exact h.update _ _ (fun _ => rfl)
  | read t => exact h

theorem NoGD.run {s : Spec} (h : NoGD s) (ops : List Op) (hops : ∀ op ∈ ops, op.noGlobaldefs = true) :
    NoGD (s.run ops).1 := by
  rw [Spec.run_eq]; exact runWith_inv NoGD (fun _ h op hop => h.step op (hops op hop)) h

theorem Op.plain_noGlobaldefs (op : Op) (h : op.plain = true) : op.noGlobaldefs = true := by
  cases op with
  | assign pre v x => exact (Bool.and_eq_true _ _ ▸ h).2
  | _ => rfl

theorem NoGD.globalTarget {s : Spec} (h : NoGD s) (op : Op) (hop : op.plain = true) :
    Spec.globalTarget s op = none := by
  have hg : s.globalDefs = 0 := by rw [Spec.globalDefs, h.1]
  have hsc : ∀ pre, pre = 0 → Spec.effScope s.globalDefs pre = .loc := by
    intro pre hp; rw [hg, hp]; rfl
  cases op with
  | assign pre v x =>
    rw [Spec.globalTarget, hsc pre (of_decide_eq_true (Bool.and_eq_true_iff.1 hop).1)]
  | selectFont pre f => rw [Spec.globalTarget, hsc pre (of_decide_eq_true hop)]
  | define pre t d =>
    obtain ⟨hp, hd⟩ := Bool.and_eq_true_iff.1 hop
    rw [Spec.globalTarget, hsc pre (of_decide_eq_true hp)]
    cases Spec.resolveDef s.cur d with
    | none => rfl
    | some c =>
      cases d with
      | gmac n => cases hd
      | _ => rfl
  | _ => rfl

theorem NoGD.globals {s : Spec} (h : NoGD s) (blk : List Op) (hblk : ∀ op ∈ blk, op.plain = true) :
    Spec.globals s blk = [] := by
  induction blk generalizing s with
  | nil => rfl
  | cons op blk ih =>
    obtain ⟨hp, hblk'⟩ := List.forall_mem_cons.1 hblk
    rw [Spec.globals_cons, h.globalTarget op hp, ih (h.step op (Op.plain_noGlobaldefs op hp)) hblk']
    rfl

theorem Spec.stepTeX_eq (s : Spec) (op : Op) (h : Spec.undefLet s op = false) :
    s.stepTeX op = s.step op := by
  cases op with
  | define pre t d =>
    rw [Spec.undefLet] at h
    rw [Spec.stepTeX]
    cases hr : Spec.resolveDef s.cur d with
    | none => rw [hr] at h; cases h
    | some c => rfl
  | _ => rfl

theorem Spec.runTeX_eq (s : Spec) (ops : List Op) (h : Spec.noUndefLet s ops = true) :
    s.runTeX ops = s.run ops := by
  induction ops generalizing s with
  | nil => rfl
  | cons op ops ih =>
    simp only [Spec.noUndefLet, Bool.and_eq_true, Bool.not_eq_true'] at h
    simp only [Spec.runTeX, Spec.run, Spec.stepTeX_eq s op h.1]
    cases hf : (s.step op).2.fatal with
    | true => rfl
    | false =>
      rw [hf] at h
      rw [ih _ h.2]

end C01
