import TexcraftModel.Model.C10Cst

/-! Termination of the CST model: what a scanner leaves is no longer than its input, so every iteration of the main
loop consumes at least one character (`step_decreases`) and fuel `length + 1` reaches the end of the input
(`loop_some`). -/
namespace C10.Cst

theorem spanP_eq (p : Char → Bool) (l : List Char) : spanP p l = (l.takeWhile p, l.dropWhile p) := by
  fun_induction spanP p l with
  | case1 => rfl
  | case2 c t hc r ih => rw [show r = _ from ih, List.takeWhile_cons_of_pos hc, List.dropWhile_cons_of_pos hc]
  | case3 c t hc => rw [List.takeWhile_cons_of_neg hc, List.dropWhile_cons_of_neg hc]

theorem spanP_length (p : Char → Bool) (l : List Char) :
    (spanP p l).1.length + (spanP p l).2.length = l.length := by
  rw [spanP_eq, ← List.length_append, List.takeWhile_append_dropWhile]

theorem spanP_rest_le (p : Char → Bool) (l : List Char) : (spanP p l).2.length ≤ l.length := by
  rw [spanP_eq]
  exact (List.dropWhile_sublist p).length_le

theorem scanComment_rest_le (cs : List Nat) (pos : Nat) (l acc : List Char) :
    (scanComment cs pos l acc).2.2.2.length ≤ l.length := by
  fun_induction scanComment cs pos l acc with
  | case1 => exact Nat.le_refl _
  | case2 cs pos t acc ih => exact Nat.le_succ_of_le ih
  | case3 => exact Nat.le_succ _
  | case4 cs pos t acc h x ih => exact Nat.le_succ_of_le ih
  | case5 cs pos c t acc h1 h2 ih => exact Nat.le_succ_of_le ih

theorem step_decreases (alnum : Char → Bool) (st : State) (h : st.rest ≠ []) :
    (step alnum st).rest.length < st.rest.length := by
  fun_cases step alnum st
  · exact absurd ‹st.rest = []› h
  · rw [‹st.rest = _ :: _›]
    exact Nat.lt_succ_of_le (Nat.le_trans (scanComment_rest_le _ _ _ _) (spanP_rest_le _ _))
  · rw [‹st.rest = _ :: _›]
    exact Nat.lt_succ_of_le (Nat.le_trans (spanP_rest_le _ _)
      (Nat.le_trans (spanP_rest_le _ _) (spanP_rest_le _ _)))
  · rw [‹st.rest = _ :: _›]; exact Nat.lt_succ_self _
  · rw [‹st.rest = _ :: _›]; exact Nat.lt_succ_self _
  · rw [‹st.rest = _ :: _›]; exact Nat.lt_succ_self _
  · -- junk: the first character is not a parenthesis, so the run is not empty
    rename_i c t _ h1 h2 _ _
    have hj : (spanP notParen (c :: t)).2 = (spanP notParen t).2 := by simp [spanP, notParen, h1, h2]
    rw [‹st.rest = _ :: _›]
    show (spanP notParen (c :: t)).2.length < _
    rw [hj]
    exact Nat.lt_succ_of_le (spanP_rest_le _ _)

theorem loop_some (alnum : Char → Bool) (n : Nat) (st : State) (h : st.rest.length < n) :
    ∃ st', loop alnum n st = some st' ∧ st'.rest = [] := by
  fun_induction loop alnum n st with
  | case1 => omega
  | case2 n st hr => exact ⟨st, rfl, hr⟩
  | case3 n st c t hr ih =>
    have := step_decreases alnum st (by rw [hr]; nofun)
    exact ih (by omega)

end C10.Cst
