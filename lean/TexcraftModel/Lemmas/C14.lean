import TexcraftModel.Model.C14

/-! `IndexIter` as a filter; conservation of letters from P1 and P2; the driver's alignment yields marks
that satisfy P1. -/
namespace C14

/-- The test of `IndexIter::next`: `min ≤ n ≤ max`. -/
def inRange (min max : Nat) (n : Nat) : Bool := decide (n ≥ min ∧ n ≤ max)

theorem drainN_cons (min max fuel a : Nat) (l : List Nat) :
    drainN min max (fuel + 1) (a :: l)
      = if inRange min max a then a :: drainN min max fuel l else drainN min max (fuel + 1) l := by
  simp only [drainN, iterNext, inRange, decide_eq_true_eq]
  by_cases h : a ≥ min ∧ a ≤ max
  · rw [if_pos h, if_pos h]
  · rw [if_neg h, if_neg h]

theorem drainN_eq_filter (min max : Nat) :
    ∀ (l : List Nat) (fuel : Nat), l.length < fuel → drainN min max fuel l = l.filter (inRange min max)
  | [], _ + 1, _ => rfl
  | a :: l, fuel + 1, h => by
    -- a value out of range costs no fuel: `next` goes on pulling
    rw [drainN_cons, List.filter_cons]
    split
    · rw [drainN_eq_filter min max l fuel (Nat.lt_of_succ_lt_succ h)]
    · exact drainN_eq_filter min max l (fuel + 1) (Nat.lt_of_succ_lt h)

theorem drain_eq_filter (min max : Nat) (l : List Nat) : drain min max l = l.filter (inRange min max) :=
  drainN_eq_filter min max l (l.length + 1) (Nat.lt_succ_self _)

theorem effMin_eq (v : Int) : (effMin v : Int) = max 1 v := by
  unfold effMin
  split <;> omega

theorem wordPositions_eq_specPositions (lhm rhm : Int) (len : Nat) (raw : List Nat) :
    wordPositions lhm rhm len raw = specPositions lhm rhm len raw := by
  unfold wordPositions specPositions
  rw [drain_eq_filter]
  apply List.filter_congr
  intro p _
  have h1 := effMin_eq lhm
  have h2 := effMin_eq rhm
  rw [Bool.eq_iff_iff]
  simp only [inRange, decide_eq_true_eq, Bool.and_eq_true]
  omega

theorem wordPositions_ok (lhm rhm : Int) (len : Nat) (raw : List Nat) (hraw : raw.Pairwise (· < ·)) :
    (wordPositions lhm rhm len raw).Pairwise (· < ·) ∧
      ∀ p ∈ wordPositions lhm rhm len raw, 1 ≤ p ∧ p < len := by
  rw [wordPositions_eq_specPositions]
  refine ⟨hraw.sublist List.filter_sublist, fun p hp => ?_⟩
  simp only [specPositions, List.mem_filter, Bool.and_eq_true, decide_eq_true_eq] at hp
  omega

theorem lettersL_cons (x : Item) (xs : List Item) : lettersL (x :: xs) = lettersI x ++ lettersL xs := by
  simp [lettersL]

theorem lettersL_nil : lettersL [] = [] := rfl

theorem lettersL_append (a b : List Item) : lettersL (a ++ b) = lettersL a ++ lettersL b := by
  simp only [lettersL, List.map_append, List.flatten_append]

/-- Conservation with `skip` nodes still hidden (all of them original): their letters followed by what is
still rendered are the letters of the input. -/
theorem render_invariant :
    ∀ (xs : List Item) (ms ts : List Bool) (skip : Nat),
      P2 ms xs = true → ts.length = xs.length →
      skip ≤ xs.length → (ms.take skip).all (fun m => !m) = true →
      lettersL (xs.take skip) ++ render ms ts xs skip = lettersL (erase ms xs)
  | [], [], ts, skip, _, _, hs, _ => by
    obtain rfl := Nat.le_zero.mp hs
    cases ts <;> rfl
  | [], _ :: _, _, _, h2, _, _, _ => by cases h2
  | _ :: _, [], _, _, h2, _, _, _ => by cases h2
  | _ :: _, _ :: _, [], _, _, hl, _, _ => by cases hl
  | x :: xs, false :: ms, t :: ts, 0, h2, hl, _, _ => by
    simp only [P2, Bool.false_eq_true, if_false, Bool.true_and] at h2
    have ih := render_invariant xs ms ts 0 h2 (Nat.succ.inj hl) (Nat.zero_le _) rfl
    show lettersI x ++ render ms ts xs 0 = lettersL (x :: erase ms xs)
    rw [lettersL_cons, ← ih]; rfl
  | x :: xs, false :: ms, t :: ts, k + 1, h2, hl, hs, hm => by
    simp only [P2, Bool.false_eq_true, if_false, Bool.true_and] at h2
    rw [List.take_succ_cons, List.all_cons, Bool.and_eq_true] at hm
    have ih := render_invariant xs ms ts k h2 (Nat.succ.inj hl) (Nat.le_of_succ_le_succ hs) hm.2
    show lettersL (x :: xs.take k) ++ render ms ts xs k = lettersL (x :: erase ms xs)
    rw [lettersL_cons, lettersL_cons, List.append_assoc, ih]
  | _ :: _, true :: ms, _ :: _, k + 1, _, _, _, hm => by
    cases hm
  | x :: xs, true :: ms, t :: ts, 0, h2, hl, _, _ => by
    cases x with
    | disc pre post rc =>
      simp only [P2, if_true, Bool.and_eq_true, discOk, decide_eq_true_eq] at h2
      obtain ⟨⟨⟨hrc, hun⟩, hlet⟩, h2'⟩ := h2
      cases t with
      | true =>
        cases hp : preLetters pre with
        | none => simp [hp] at hlet
        | some a =>
          simp only [hp, decide_eq_true_eq] at hlet
          have ih := render_invariant xs ms ts rc h2' (Nat.succ.inj hl) hrc hun
          show (preLetters pre).getD [] ++ lettersDL post ++ render ms ts xs rc = lettersL (erase ms xs)
          rw [hp, Option.getD_some, hlet, ih]
      | false => exact render_invariant xs ms ts 0 h2' (Nat.succ.inj hl) (Nat.zero_le _) rfl
    | _ => cases h2

theorem P1_iff {marks : List Bool} {out inp : List Item} :
    P1 marks out inp = true ↔ allMarkedDisc marks out = true ∧ erase marks out = inp := by
  simp only [P1, Bool.and_eq_true, decide_eq_true_eq]

theorem P1_original {ms : List Bool} {out inp : List Item} (x : Item) (h : P1 ms out inp = true) :
    P1 (false :: ms) (x :: out) (x :: inp) = true := by
  rw [P1_iff] at h ⊢
  simp [allMarkedDisc, erase, h.1, h.2]

theorem P1_inserted {ms : List Bool} {out inp : List Item} {o : Item} (hd : o.isDisc = true)
    (h : P1 ms out inp = true) : P1 (true :: ms) (o :: out) inp = true := by
  rw [P1_iff] at h ⊢
  simp [allMarkedDisc, erase, hd, h.1, h.2]

theorem align_sound : ∀ (out inp : List Item) (marks : List Bool),
    align inp out = some marks → P1 marks out inp = true := by
  intro out inp
  fun_induction align inp out with
  | case1 => intro marks h; cases h; rfl
  | case2 out i inp ih =>
    intro marks h
    obtain ⟨ms, hms, rfl⟩ := Option.map_eq_some_iff.mp h
    exact P1_original i (ih ms hms)
  | case3 o out i inp _ hd ih =>
    intro marks h
    obtain ⟨ms, hms, rfl⟩ := Option.map_eq_some_iff.mp h
    exact P1_inserted hd (ih ms hms)
  | case5 o out hd ih =>
    intro marks h
    obtain ⟨ms, hms, rfl⟩ := Option.map_eq_some_iff.mp h
    exact P1_inserted hd (ih ms hms)
  | case4 | case6 | case7 => nofun

end C14
