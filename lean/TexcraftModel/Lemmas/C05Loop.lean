import TexcraftModel.Lemmas.C05

/-!
# C05 — fuel lemmas for the compiler's denotation

A pair that resolves with any fuel resolves with `bound p` (`pairResult_bound`): pigeonhole on the
chain of pairs whose minimal fuel decreases by one at each link. The table does not depend on the
boundary character (`table_withRb`).
-/
namespace C05

theorem pairResult_succ (p : Program) :
    ∀ n l r v, pairResult n p l r = some v → pairResult (n + 1) p l r = some v := by
  intro n
  induction n with
  | zero => intro l r v h; cases h
  | succ n ih =>
    intro l r v h
    rw [pairResult_succ_eq] at h ⊢
    exact roundResult_mono ih h

theorem pairResult_mono (p : Program) {n m : Nat} (hnm : n ≤ m) {l : Option Nat} {r : Nat}
    {v : Option Repl} (h : pairResult n p l r = some v) : pairResult m p l r = some v := by
  induction hnm with
  | refl => exact h
  | step _ ih => exact pairResult_succ p _ _ _ _ ih

theorem findInstr_mem (r : Nat) : ∀ (s : Nat) (is : List Instr) (i : Instr),
    findInstr r s is = some i → i ∈ is ∧ i.right = r := by
  intro s is i
  -- the clauses of `findInstr`: no instruction left, a match, STOP, SKIP, an instruction jumped over
  fun_induction findInstr r s is with
  | case1 => nofun
  | case2 x rest hx => intro h; cases h; exact ⟨List.mem_cons_self, hx⟩
  | case3 => nofun
  | case4 x rest hx inc hn ih => exact fun h => ⟨List.mem_cons_of_mem _ (ih h).1, (ih h).2⟩
  | case5 s x rest ih => exact fun h => ⟨List.mem_cons_of_mem _ (ih h).1, (ih h).2⟩

theorem rule_mem_cand (p : Program) (l : Option Nat) (r : Nat) (op : Op)
    (h : rule p l r = some op) : (l, r) ∈ candPairs p := by
  obtain ⟨i, hi, -⟩ := Option.bind_eq_some_iff.mp h
  simp only [rawRule] at hi
  cases he : entryOf p l with
  | none => rw [he] at hi; cases hi
  | some e =>
    rw [he] at hi
    obtain ⟨hmem, hr⟩ := findInstr_mem r e p.instrs i hi
    have hl : l ∈ lefts p := by
      cases l with
      | none => simp only [entryOf] at he; simp [lefts, he]
      | some c =>
        obtain ⟨ent, hfind, -⟩ := Option.map_eq_some_iff.mp he
        have hc : ent.1 = c := by simpa using List.find?_some hfind
        exact List.mem_append_right _ (List.mem_map.mpr ⟨ent, List.mem_of_find?_eq_some hfind, by rw [hc]⟩)
    exact List.mem_flatMap.mpr ⟨l, hl, List.mem_map.mpr ⟨i, hmem, by rw [hr]⟩⟩

/-- The pair `q` needs exactly `k + 1` units of fuel: it has a value with `k + 1`, none with `k`. -/
def Exact (p : Program) (k : Nat) (q : Option Nat × Nat) : Prop :=
  pairResult (k + 1) p q.1 q.2 ≠ none ∧ pairResult k p q.1 q.2 = none

theorem Exact.unique {p : Program} {k k' : Nat} {q : Option Nat × Nat}
    (h : Exact p k q) (h' : Exact p k' q) : k = k' := by
  have lt : ∀ {a b}, Exact p a q → Exact p b q → ¬ a < b := by
    intro a b ha hb hlt
    cases hv : pairResult (a + 1) p q.1 q.2 with
    | none => exact ha.1 hv
    | some v =>
      have := pairResult_mono p (Nat.succ_le_of_lt hlt) hv
      rw [hb.2] at this; cases this
  exact Nat.le_antisymm (Nat.le_of_not_lt (lt h' h)) (Nat.le_of_not_lt (lt h h'))

theorem Exact.child {p : Program} {k : Nat} {q : Option Nat × Nat} (h : Exact p (k + 1) q) :
    q ∈ candPairs p ∧ ∃ q', Exact p k q' := by
  obtain ⟨l, r⟩ := q
  obtain ⟨hs, hn⟩ := h
  simp only at hs hn
  cases hr : rule p l r with
  | none => rw [pairResult_succ_eq, hr] at hn; cases hn
  | some op =>
    refine ⟨rule_mem_cand p l r op hr, Classical.byContradiction fun hno => ?_⟩
    cases hv : pairResult (k + 2) p l r with
    | none => exact hs hv
    | some v =>
      -- otherwise every child that has a value with `k + 1` units has it with `k` already,
      -- and then so does the pair itself
      have down : ∀ l' r' c, pairResult (k + 1) p l' r' = some c → pairResult k p l' r' = some c := by
        intro l' r' c hc
        cases hk : pairResult k p l' r' with
        | none => exact absurd ⟨(l', r'), by simp [hc], hk⟩ hno
        | some c' => rw [← hc, pairResult_succ p k l' r' c' hk]
      rw [pairResult_succ_eq] at hv hn
      rw [roundResult_mono down hv] at hn
      cases hn

theorem Exact.chain {p : Program} : ∀ (k : Nat) (q : Option Nat × Nat), Exact p k q →
    ∃ chain : List (Option Nat × Nat), chain.length = k ∧ chain.Nodup ∧
      ∀ x ∈ chain, x ∈ candPairs p ∧ ∃ j, j ≤ k ∧ Exact p j x := by
  intro k
  induction k with
  | zero => intro q _; exact ⟨[], rfl, List.nodup_nil, by simp⟩
  | succ k ih =>
    intro q h
    obtain ⟨hq, q', hq'⟩ := h.child
    obtain ⟨chain, hlen, hnd, hall⟩ := ih q' hq'
    refine ⟨q :: chain, by simp [hlen], ?_, ?_⟩
    · rw [List.nodup_cons]
      refine ⟨?_, hnd⟩
      intro hmem
      obtain ⟨_, j, hj, hex⟩ := hall q hmem
      have := Exact.unique h hex
      omega
    · intro x hx
      rcases List.mem_cons.mp hx with rfl | hx
      · exact ⟨hq, k + 1, Nat.le_refl _, h⟩
      · obtain ⟨hc, j, hj, hex⟩ := hall x hx
        exact ⟨hc, j, Nat.le_succ_of_le hj, hex⟩

theorem Exact.le_bound {p : Program} {k : Nat} {q : Option Nat × Nat} (h : Exact p k q) :
    k + 1 ≤ bound p := by
  obtain ⟨chain, hlen, hnd, hall⟩ := Exact.chain k q h
  have := List.Nodup.length_le_of_subset hnd (fun x hx => (hall x hx).1)
  simp only [bound]
  omega

theorem exists_exact (p : Program) : ∀ n l r, pairResult n p l r ≠ none →
    ∃ k, k < n ∧ Exact p k (l, r) := by
  intro n
  induction n with
  | zero => intro l r h; exact absurd rfl h
  | succ n ih =>
    intro l r h
    cases hn : pairResult n p l r with
    | none => exact ⟨n, Nat.lt_succ_self _, h, hn⟩
    | some v =>
      obtain ⟨k, hk, hex⟩ := ih l r (by simp [hn])
      exact ⟨k, Nat.lt_succ_of_lt hk, hex⟩

theorem pairResult_bound (p : Program) {n : Nat} {l : Option Nat} {r : Nat} {v : Option Repl}
    (h : pairResult n p l r = some v) : pairResult (bound p) p l r = some v := by
  obtain ⟨k, hk, hex⟩ := exists_exact p n l r (by simp [h])
  cases hv : pairResult (k + 1) p l r with
  | none => exact absurd hv hex.1
  | some v' =>
    have h1 := pairResult_mono p (Nat.succ_le_of_lt hk) hv
    rw [h] at h1
    cases h1
    exact pairResult_mono p hex.le_bound hv

theorem table_value (p : Program) (hac : acyclicB p = true) (l : Option Nat) (r : Nat) :
    pairResult (bound p) p l r = some (table p l r) := by
  cases hv : pairResult (bound p) p l r with
  | some v => cases v <;> simp [table, hv]
  | none =>
    -- a pair outside `candPairs` has no rule and resolves at once
    cases hr : rule p l r with
    | none => rw [bound, pairResult_succ_eq, hr] at hv; cases hv
    | some op =>
      have := List.all_eq_true.mp hac _ (rule_mem_cand p l r op hr)
      simp [loopsM, hv] at this

theorem rule_withRb (p : Program) (x : Option Nat) : rule (withRb p x) = rule p := rfl

theorem pairResult_withRb (p : Program) (x : Option Nat) (n : Nat) : pairResult n (withRb p x) = pairResult n p :=
  pairResult_congr (rule_withRb p x) n

theorem bound_withRb (p : Program) (x : Option Nat) : bound (withRb p x) = bound p := rfl

theorem table_withRb (p : Program) (x : Option Nat) : table (withRb p x) = table p := by
  funext l r
  simp only [table, bound_withRb, pairResult_withRb]

theorem runOpt_false (p : Program) (ov : Option Nat) (w : List Nat) :
    runOpt p false ov w = runM (withRb p (effRb p ov)) w := by
  show runCompiled (table p) (effRb p ov) w = runCompiled (table (withRb p (effRb p ov))) (effRb p ov) w
  rw [table_withRb]

theorem runOpt_true (p : Program) (ov : Option Nat) (w : List Nat) :
    runOpt p true ov w = runNoLB (withRb p (effRb p ov)) w := by
  cases w with
  | nil => rfl
  | cons c rest =>
    show goL (table p) (effRb p ov) rest (some c) true none
      = goL (table (withRb p (effRb p ov))) (effRb p ov) rest (some c) true none
    rw [table_withRb]

theorem acyclicB_withRb (p : Program) (x : Option Nat) : acyclicB (withRb p x) = acyclicB p := by
  have hc : candPairs (withRb p x) = candPairs p := rfl
  simp only [acyclicB, hc, loopsM, bound_withRb, pairResult_withRb]

end C05
