import TexcraftModel.Model.C20Backing
import TexcraftModel.Lemmas.C20VecBacking
import TexcraftModel.Lemmas.C20Obs

/-!
# C20 — the container code over *any* lawful backing simulates `GMap`

`BSim` relates a `BMap bk` to the association-list instance `GMap`; `BImpl` composes it with
`GImpl`, and through it every theorem about `GMap` (refinement of `Snap`, `iter_all` total, round
trip, observers) transfers. The two `impl`s of the trait (`hashBacking`, `vecBacking`) are lawful.
-/
namespace C20
variable {K V : Type} [DecidableEq K] {bk : Backing K V}

/-- Same state: equal lookups, equal logs, backing representation invariant. -/
def BSim (bm : BMap bk) (m : GMap K V) : Prop :=
  (∀ k, bk.get bm.bc k = alookup m.bc k) ∧ bm.groups = m.groups ∧ bk.ok bm.bc

theorem bsim_empty (law : bk.Lawful) : BSim (BMap.empty : BMap bk) GMap.empty :=
  ⟨fun k => by simp only [BMap.empty, GMap.empty, law.get_empty, alookup], rfl, law.ok_empty⟩

theorem bget_insert_sim (law : bk.Lawful) (b : bk.B) (bc : AList K V)
    (h : ∀ k, bk.get b k = alookup bc k) (k : K) (v : V) (k' : K) :
    bk.get (bk.insert b k v) k' = alookup (ainsert k v bc) k' := by
  rw [law.get_insert, alookup_ainsert, h k']

theorem bget_applyLog_sim (law : bk.Lawful) (g : AList K (Action V)) (b : bk.B) (bc : AList K V)
    (h : ∀ k, bk.get b k = alookup bc k) (hok : bk.ok b) :
    (∀ k, bk.get (BMap.applyLog g b) k = alookup (GMap.applyLog g bc) k) ∧
      bk.ok (BMap.applyLog (bk := bk) g b) := by
  induction g generalizing b bc with
  | nil => exact ⟨h, hok⟩
  | cons p t ih =>
    obtain ⟨a, act⟩ := p
    cases act with
    | delete =>
      simp only [BMap.applyLog, GMap.applyLog]
      exact ih _ _ (fun k => by rw [law.get_remove, alookup_aerase, h k]) (law.ok_remove b a hok)
    | revert v =>
      simp only [BMap.applyLog, GMap.applyLog]
      exact ih _ _ (bget_insert_sim law b bc h a v) (law.ok_insert b a v hok)

theorem BMap.insert_eq (m : BMap bk) (k : K) (v : V) (s : Scope) :
    m.insert k v s =
      ({ bc := bk.insert m.bc k v, groups := logInsert k (bk.get m.bc k) s m.groups },
        (bk.get m.bc k).isSome) := by
  obtain ⟨bc, gs⟩ := m
  unfold BMap.insert
  cases s <;> cases bk.get bc k <;> cases gs <;> rfl

theorem bsim_step (law : bk.Lawful) (bm : BMap bk) (m : GMap K V) (op : Op K V) (h : BSim bm m) :
    BSim (bm.step op).1 (m.step op).1 ∧ (bm.step op).2 = (m.step op).2 := by
  obtain ⟨b, bgs⟩ := bm
  obtain ⟨bc, gs⟩ := m
  obtain ⟨hb, hg, hok⟩ := h
  simp only at hb hg hok
  subst hg
  cases op with
  | insert k v s =>
    simp only [BMap.step, GMap.step, BMap.insert_eq, GMap.insert_eq, hb k]
    exact ⟨⟨bget_insert_sim law b bc hb k v, rfl, law.ok_insert b k v hok⟩, trivial⟩
  | beginGroup => exact ⟨⟨hb, rfl, hok⟩, rfl⟩
  | endGroup =>
    cases bgs with
    | nil => exact ⟨⟨hb, rfl, hok⟩, rfl⟩
    | cons g gs =>
      obtain ⟨h1, h2⟩ := bget_applyLog_sim law g b bc hb hok
      exact ⟨⟨h1, rfl, h2⟩, rfl⟩
  | get k => exact ⟨⟨hb, rfl, hok⟩, congrArg (fun o => Out.val o) (hb k)⟩

theorem BMap.feed_eq (m : BMap bk) (i : Item K V) : m.feed i = (m.step i.op).1 := by
  cases i <;> rfl

/-- `bm` implements the stack of snapshots `s`: it is in the same state as an association-list
map that does. -/
def BImpl (bm : BMap bk) (s : Snap K V) : Prop := ∃ m, BSim bm m ∧ GImpl m s

theorem bimpl_empty (law : bk.Lawful) : BImpl (BMap.empty : BMap bk) Snap.init :=
  ⟨_, bsim_empty law, gimpl_empty⟩

theorem BImpl.step (law : bk.Lawful) {bm : BMap bk} {s : Snap K V} (h : BImpl bm s) (op : Op K V) :
    BImpl (bm.step op).1 (s.step op).1 ∧ (bm.step op).2 = (s.step op).2 := by
  obtain ⟨m, hb, hm⟩ := h
  obtain ⟨b1, b2⟩ := bsim_step law bm m op hb
  exact ⟨⟨_, b1, (hm.step op).1⟩, b2.trans (hm.step op).2⟩

theorem BImpl.run (law : bk.Lawful) {bm : BMap bk} {s : Snap K V} (h : BImpl bm s)
    (ops : List (Op K V)) :
    BImpl (bm.run ops).1 (s.run ops).1 ∧ (bm.run ops).2 = (s.run ops).2 := by
  induction ops generalizing bm s with
  | nil => exact ⟨h, rfl⟩
  | cons op ops ih =>
    obtain ⟨h1, h2⟩ := h.step law op
    obtain ⟨i1, i2⟩ := ih h1
    exact ⟨i1, by simp only [BMap.run, Snap.run, h2, i2]⟩

theorem BImpl.feedAll (law : bk.Lawful) {bm : BMap bk} {s : Snap K V} (h : BImpl bm s)
    (items : List (Item K V)) : BImpl (items.foldl BMap.feed bm) (specFeedAll s items) :=
  List.foldl_rel h fun i _ m s hms => by
    rw [BMap.feed_eq, specFeed_eq]
    exact (hms.step law i.op).1

theorem BImpl.get {bm : BMap bk} {s : Snap K V} (h : BImpl bm s) (k : K) :
    bm.get k = s.cur k := by
  obtain ⟨m, hb, _, rfl⟩ := h
  exact hb.1 k

theorem bmap_refines_run (law : bk.Lawful) (ops : List (Op K V)) :
    ((BMap.empty : BMap bk).run ops).2 = (Snap.init.run ops).2 :=
  ((bimpl_empty law).run law ops).2

theorem bmap_get_run (law : bk.Lawful) (ops : List (Op K V)) (k : K) :
    ((BMap.empty : BMap bk).run ops).1.get k = (Snap.init.run ops).1.cur k :=
  ((bimpl_empty law).run law ops).1.get k

/-- The association-list-backed map on which `BMap.iterAll` runs the generic `iter_all`. -/
def BMap.toG (bm : BMap bk) : GMap K V := { bc := bk.iter bm.bc, groups := bm.groups }

theorem biterAll_toG (bm : BMap bk) : bm.iterAll = bm.toG.iterAll := rfl

theorem BImpl.toG (law : bk.Lawful) {bm : BMap bk} {s : Snap K V} (h : BImpl bm s) :
    bk.ok bm.bc ∧ GImpl bm.toG s := by
  obtain ⟨m, ⟨hget, hgs, hok⟩, hi, rfl⟩ := h
  have hc : (fun k => alookup (bk.iter bm.bc) k) = fun k => alookup m.bc k :=
    funext fun k => (law.iter_get bm.bc k).trans (hget k)
  refine ⟨hok, Inv.of_gok (law.iter_nodup _ hok) ?_, ?_⟩
  · rw [hc, hgs]; exact hi.gok
  · show Snap.mk (fun k => alookup (bk.iter bm.bc) k)
      (absGroups (fun k => alookup (bk.iter bm.bc) k) bm.groups) = _
    rw [hc, hgs]; rfl

theorem BImpl.iterAll (law : bk.Lawful) {bm : BMap bk} {s : Snap K V} (h : BImpl bm s) :
    ∃ items, bm.iterAll = .ok items ∧ BImpl (BMap.fromIter items : BMap bk) s := by
  obtain ⟨items, hi, hs⟩ := iterAll_spec bm.toG (h.toG law).2.1
  exact ⟨items, hi, hs.trans (h.toG law).2.2 ▸ (bimpl_empty law).feedAll law items⟩

theorem bmap_iterAll_roundtrip_run (law : bk.Lawful) (pre post : List (Op K V)) :
    ∃ items, ((BMap.empty : BMap bk).run pre).1.iterAll = .ok items ∧
      ((BMap.fromIter items : BMap bk).run post).2 = (((BMap.empty : BMap bk).run pre).1.run post).2 ∧
      ((BMap.fromIter items : BMap bk).run post).2 = ((Snap.init.run pre).1.run post).2 := by
  have h := (bimpl_empty (bk := bk) law).run law pre
  obtain ⟨items, hi, hf⟩ := h.1.iterAll law
  exact ⟨items, hi, (hf.run law post).2.trans (h.1.run law post).2.symm, (hf.run law post).2⟩

theorem bmap_iter_spec (law : bk.Lawful) (ops : List (Op K V)) :
    let bm := ((BMap.empty : BMap bk).run ops).1
    let s := (Snap.init.run ops).1
    (∀ k v, (k, v) ∈ bm.iter ↔ s.cur k = some v) ∧ (bm.iter.map (·.1)).Nodup ∧
      bm.len = bm.iter.length ∧ (bm.isEmpty = true ↔ ∀ k, s.cur k = none) := by
  intro bm s
  obtain ⟨hok, hiG, habs⟩ := ((bimpl_empty law).run law ops).1.toG law
  obtain ⟨h1, h2, _, h4⟩ := gmap_iter_spec bm.toG hiG
  rw [habs] at h1 h4
  have hlen : bm.len = bm.iter.length := law.len_iter _ hok
  refine ⟨h1, h2, hlen, ?_⟩
  rw [← h4]
  simp only [BMap.isEmpty, GMap.isEmpty, GMap.len, hlen, BMap.iter, BMap.toG]

theorem hashBacking_lawful : (hashBacking K V).Lawful where
  ok_empty := by simp [hashBacking]
  ok_insert := fun b k v h => nodupKeys_ainsert k v b h
  ok_remove := fun b k h => nodupKeys_aerase k b h
  get_empty := fun k => rfl
  get_insert := fun b k v k' => alookup_ainsert k v b k'
  get_remove := fun b k k' => alookup_aerase k b k'
  iter_get := fun b k => rfl
  iter_nodup := fun b h => h
  len_iter := fun b _ => rfl

theorem vecBacking_lawful {V : Type} : (vecBacking V).Lawful where
  ok_empty := trivial
  ok_insert := fun _ _ _ _ => trivial
  ok_remove := fun _ _ _ => trivial
  get_empty := VecBacking.get_nil
  get_insert := fun b k v k' => (VecBacking.get_insert b k k' v).trans (ite_cond_congr (propext eq_comm))
  get_remove := fun b k k' => (VecBacking.get_remove b k k').trans (ite_cond_congr (propext eq_comm))
  iter_get := VecBacking.alookup_iter
  iter_nodup := fun b _ => VecBacking.nodupKeys_iter b
  len_iter := fun b _ => VecBacking.len_eq_iter b

theorem bmap_hash_is_gmap (ops : List (Op K V)) :
    ((BMap.empty : BMap (hashBacking K V)).run ops).2 = ((GMap.empty : GMap K V).run ops).2 :=
  ((bimpl_empty hashBacking_lawful).run hashBacking_lawful ops).2.trans (gimpl_empty.run ops).2.symm

end C20
