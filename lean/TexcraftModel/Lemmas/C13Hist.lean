import TexcraftModel.Lemmas.C13Trie
import TexcraftModel.Model.C13Text

/-! C13: for every history (any order of loads, exception inserts and queries) within the budget of
`u32::MAX` vertices the coded hyphenator refines the prefix-map hyphenator. -/
namespace C13

/-- One operation on the prefix-map hyphenator. -/
def aApply (h : Hyph) : Op → Hyph
  | .loadText t => (splitWs t []).foldl loadPattern h
  | .excText t => (exceptionLines t).foldl insertException h
  | .exc e => insertException h e
  | .query _ => h

/-- `next` calls an operation makes (upper bound for the vertices it allocates). -/
def opEdges : Op → Nat
  | .loadText t => ((splitWs t []).map (fun p => (patOps p).2.length)).sum
  | .excText t => ((exceptionLines t).map (fun e => (excScan e [excNo] [.start]).2.length + 1)).sum
  | .exc e => (excScan e [excNo] [.start]).2.length + 1
  | .query _ => 0

theorem rel_applyOp {n : Nat} {c : CHyph} {h : Hyph} (op : Op) (r : Rel n c h)
    (hlt : n + opEdges op < rootV) :
    Rel (n + opEdges op) (applyOpG true c op) (aApply h op) := by
  cases op with
  | loadText t => exact rel_foldl cLoadPattern loadPattern _ rel_loadPattern (splitWs t []) r hlt
  | excText t =>
    exact rel_foldl cInsertException insertException _ rel_insertException (exceptionLines t) r hlt
  | exc e => exact rel_insertException e r hlt
  | query w => exact r

theorem rel_history (ops : List Op) {n : Nat} {c : CHyph} {h : Hyph} (r : Rel n c h)
    (hlt : n + (ops.map opEdges).sum < rootV) :
    Rel (n + (ops.map opEdges).sum) (ops.foldl (applyOpG true) c) (ops.foldl aApply h) :=
  rel_foldl (applyOpG true) aApply opEdges rel_applyOp ops r hlt

end C13
