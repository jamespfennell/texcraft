import TexcraftModel.Model.C04Algo
import TexcraftModel.Lemmas.C04

/-!
C04 — the final choice (`firstBest`, `loosen`, `finish`: lib.rs:937-988, TeX.2021.874-875): both
folds by an invariant over the nodes seen so far, then what `finish` returns, said of the list.
-/
namespace C04

/-- Only a strictly better node replaces the current one, so `firstBest` returns the first node of
least total: in a list sorted by line number, one of least line among those. -/
theorem firstBest_spec (first : ANode) (t : List ANode) :
    firstBest first (first :: t) ∈ first :: t ∧
    (∀ ν, ν ∈ first :: t → (firstBest first (first :: t)).total ≤ ν.total) ∧
    ((first :: t).Pairwise (fun a b => a.line ≤ b.line) → ∀ ν, ν ∈ first :: t →
      ν.total = (firstBest first (first :: t)).total → (firstBest first (first :: t)).line ≤ ν.line) := by
  have h := foldl_prefix (fun b ν => if ν.total < b.total then ν else b)
    (fun P b => b ∈ first :: P ∧ (∀ ν, ν ∈ first :: P → b.total ≤ ν.total) ∧
      ((first :: P).Pairwise (fun a b => a.line ≤ b.line) → ∀ ν, ν ∈ first :: P →
        ν.total = b.total → b.line ≤ ν.line)) ?_ t [] first
    ⟨List.mem_singleton.2 rfl, List.forall_mem_singleton.2 (Int.le_refl _),
      fun _ => List.forall_mem_singleton.2 fun _ => Nat.le_refl _⟩
  · have h1 : firstBest first (first :: t) = firstBest first t := by
      simp [firstBest, List.foldl_cons]
    rw [h1]
    exact h
  · intro P b a ⟨hm, hmin, hline⟩
    rw [← List.cons_append]
    simp only [List.forall_mem_append, List.forall_mem_singleton, List.pairwise_append]
    by_cases hx : a.total < b.total
    · rw [if_pos hx]
      exact ⟨List.mem_append_right _ (List.mem_singleton.2 rfl),
        ⟨fun ν hν => Int.le_of_lt (Int.lt_of_lt_of_le hx (hmin ν hν)), Int.le_refl _⟩,
        fun _ => ⟨fun ν hν ht => by have := hmin ν hν; omega, fun _ => Nat.le_refl _⟩⟩
    · rw [if_neg hx]
      exact ⟨List.mem_append_left _ hm, ⟨hmin, Int.not_lt.1 hx⟩,
        fun hs => ⟨hline hs.1, fun _ => hs.2.2 b hm⟩⟩

/-- One step of the looseness loop; `bl` is the line number of the best node. -/
def loos_step (q : Int) (bl : Nat) (s : ANode × Int) (ν : ANode) : ANode × Int :=
  if (((ν.line : Int) - (bl : Int)) < s.2 ∧ q ≤ ((ν.line : Int) - (bl : Int))) ∨
      (s.2 < ((ν.line : Int) - (bl : Int)) ∧ ((ν.line : Int) - (bl : Int)) ≤ q) then
    (ν, ((ν.line : Int) - (bl : Int)))
  else if ((ν.line : Int) - (bl : Int)) = s.2 ∧ ν.total < s.1.total then (ν, s.2)
  else s

/-- The loop invariant over the processed prefix `P`: the state's node has the state's line
difference, and once a node of line difference exactly `q` has been seen the state has reached
`q` and holds the least total among those nodes. -/
def loos_Inv (q : Int) (b : ANode) (P : List ANode) (s : ANode × Int) : Prop :=
  ((s.1.line : Int) - (b.line : Int) = s.2) ∧
  (s.1 = b ∨ s.1 ∈ P) ∧
  ∀ μ, μ ∈ P → (μ.line : Int) - (b.line : Int) = q → s.2 = q ∧ s.1.total ≤ μ.total

theorem loos_Inv_step (q : Int) (b : ANode) (P : List ANode) (s : ANode × Int) (ν : ANode)
    (h : loos_Inv q b P s) : loos_Inv q b (P ++ [ν]) (loos_step q b.line s ν) := by
  obtain ⟨n, c⟩ := s
  obtain ⟨hd, hm, hs⟩ := h
  dsimp only at hd hm hs
  have hν : ν ∈ P ++ [ν] := List.mem_append_right _ (List.mem_singleton.2 rfl)
  unfold loos_step loos_Inv
  simp only [List.forall_mem_append, List.forall_mem_singleton]
  generalize he : (ν.line : Int) - (b.line : Int) = e
  -- a state that has reached `q` is left only for a node of the same difference and less total
  split
  · refine ⟨he, Or.inr hν, fun μ hμ hq => ?_, fun hq => ⟨hq, Int.le_refl _⟩⟩
    have := (hs μ hμ hq).1
    omega
  split
  · dsimp only
    refine ⟨by omega, Or.inr hν, fun μ hμ hq => ?_, fun hq => ⟨by omega, Int.le_refl _⟩⟩
    have := hs μ hμ hq
    exact ⟨this.1, by omega⟩
  · dsimp only
    exact ⟨hd, hm.imp id (List.mem_append_left _), hs, fun hq => by omega⟩

theorem loosen_inv (q : Int) (b : ANode) (act : List ANode) : loos_Inv q b act (loosen q b act) :=
  foldl_prefix (loos_step q b.line) (loos_Inv q b) (loos_Inv_step q b) act [] _
    ⟨Int.sub_self _, Or.inl rfl, fun _ hμ => nomatch hμ⟩

theorem loosen_mem (q : Int) (b : ANode) (act : List ANode) (hb : b ∈ act) :
    (loosen q b act).1 ∈ act := by
  rcases (loosen_inv q b act).2.1 with h | h
  · rw [h]; exact hb
  · exact h

/-- `b` is the node the looseness is counted from: the first one of least total (`firstBest`). -/
theorem finish_loose_spec (q : Int) (hq : q ≠ 0) (act : List ANode) (hne : act ≠ [])
    (hs : act.Pairwise fun a b => a.line ≤ b.line) :
    ∃ b, b ∈ act ∧ (∀ ν, ν ∈ act → b.total ≤ ν.total ∧ (ν.total = b.total → b.line ≤ ν.line)) ∧
      (∀ bs, finish q false act = some bs → ∃ ν, ν ∈ act ∧ bs = ν.path.reverse ∧
        (ν.line : Int) = b.line + q ∧ ∀ μ, μ ∈ act → μ.line = ν.line → ν.total ≤ μ.total) ∧
      (finish q false act = none → ∀ μ, μ ∈ act → (μ.line : Int) ≠ b.line + q) := by
  cases act with
  | nil => exact absurd rfl hne
  | cons first t =>
    obtain ⟨hbm, hmin, hline⟩ := firstBest_spec first t
    have hf : finish q false (first :: t) =
        if (loosen q (firstBest first (first :: t)) (first :: t)).2 = q
        then some (loosen q (firstBest first (first :: t)) (first :: t)).1.path.reverse else none := by
      simp [finish, hq]
    rw [hf]
    generalize firstBest first (first :: t) = b at hbm hmin hline
    obtain ⟨hrD, _, hr⟩ := loosen_inv q b (first :: t)
    have hrm := loosen_mem q b (first :: t) hbm
    refine ⟨b, hbm, fun ν hν => ⟨hmin ν hν, hline hs ν hν⟩, fun bs hbs => ?_, fun hn μ hμ hl => ?_⟩
    · split at hbs
      · rename_i hr2
        exact ⟨_, hrm, (Option.some.inj hbs).symm, by omega,
          fun μ hμ hl => (hr μ hμ (by omega)).2⟩
      · cases hbs
    · split at hn
      · cases hn
      · rename_i hr2
        exact hr2 (hr μ hμ (by omega)).1

theorem finish_zero (act : List ANode) (bs : List Nat) (h : finish 0 false act = some bs) :
    ∃ ν, ν ∈ act ∧ bs = ν.path.reverse ∧ ∀ μ, μ ∈ act → ν.total ≤ μ.total := by
  cases act with
  | nil => cases h
  | cons first t =>
    simp only [finish, ne_eq, not_true_eq_false, if_false, Option.some.injEq] at h
    exact ⟨_, (firstBest_spec first t).1, h.symm, (firstBest_spec first t).2.1⟩

theorem finish_none_zero (act : List ANode) (h : finish 0 false act = none) : act = [] := by
  cases act with
  | nil => rfl
  | cons first t => simp [finish] at h

theorem finish_mem (q : Int) (act : List ANode) (bs : List Nat) (h : finish q false act = some bs) :
    ∃ ν, ν ∈ act ∧ bs = ν.path.reverse := by
  cases act with
  | nil => cases h
  | cons first t =>
    have hb := (firstBest_spec first t).1
    unfold finish at h
    dsimp only at h
    split at h
    · split at h
      · cases h
      · exact ⟨_, loosen_mem q _ _ hb, (Option.some.inj h).symm⟩
    · exact ⟨_, hb, (Option.some.inj h).symm⟩

end C04
