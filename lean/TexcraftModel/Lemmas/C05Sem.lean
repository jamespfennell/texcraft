import TexcraftModel.Lemmas.C05Loop

/-!
# C05 — the cursor machine

The clauses of `interp` / `interpT` as equations, termination of the typed machine as a relation
whose rules compose without fuel arithmetic (`RunsT`), the erasure of the typed machine to the
untyped one (determinism of `interp` comes from its typed version), and completeness of the compiler's
evaluation with respect to the machine (`decomp`: strong induction on the fuel of `interp` itself,
through `interp_step`).
-/

namespace C05

@[simp] theorem elOf_left (l : Option Nat) : (elOf l).left = l := by cases l <;> rfl

theorem elOf_ne_rb (l : Option Nat) : elOf l ≠ .rb := by cases l <;> simp [elOf]

theorem specRule_eq_rule (p : Program) (l : Option Nat) (r : Nat) : specRule p l r = rule p l r := by
  simp only [specRule, rule]
  cases rawRule p l r with
  | none => rfl
  | some i => cases h : i.op <;> simp [resolveOp, h]

/-- The character the machine looks up when the element after the cursor is `y`. -/
def rightOf (p : Program) : El → Option Nat
  | .ch c => some c
  | .rb => p.rb
  | .lb => none

/-- The instruction S finds for the elements `x y` (`y` may be the right boundary). -/
def lookup (p : Program) (x y : El) : Option Op := (rightOf p y).bind (specRule p x.left)

theorem lookup_eq (p : Program) (l : Option Nat) {y : El} {r : Nat} (hy : rightOf p y = some r) :
    lookup p (elOf l) y = rule p l r := by
  simp [lookup, hy, specRule_eq_rule]

/-- The sequence a ligature command leaves in place of `x y`: `x` if kept, the new element `z`, `y` if
kept (the `seq` of `interp` and of `interpT`; `keep` is `(b, c)` of the command). -/
def ligSeq {α : Type} (x y z : α) (keep : Bool × Bool) (tail : List α) : List α :=
  (if keep.1 then [x] else []) ++ [z] ++ (if keep.2 then [y] else []) ++ tail

theorem interp_step (p : Program) (f : Nat) (x y : El) (tail : List El) (hx : x ≠ .rb) :
    interp p (f + 1) (x :: y :: tail) =
      match lookup p x y with
      | none => (interp p f (y :: tail)).map (x.emit ++ ·)
      | some (.kern k) => (interp p f (y :: tail)).map (x.emit ++ Glyph.kern k :: ·)
      | some (.lig z post) =>
        (interp p f ((ligSeq x y (.ch z) post.abc.2 tail).drop post.abc.1)).map
          (((ligSeq x y (.ch z) post.abc.2 tail).take post.abc.1).flatMap El.emit ++ ·) := by
  cases x with
  | rb => exact absurd rfl hx
  | lb => rfl
  | ch c => rfl

theorem interpT_step (p : Program) (f : Nat) (x y : El × Bool) (tail : List (El × Bool)) (hx : x.1 ≠ .rb) :
    interpT p (f + 1) (x :: y :: tail) =
      match lookup p x.1 y.1 with
      | none => (interpT p f (y :: tail)).map (emitT x ++ ·)
      | some (.kern k) => (interpT p f (y :: tail)).map (emitT x ++ TGlyph.kern k :: ·)
      | some (.lig z post) =>
        (interpT p f ((ligSeq x y (.ch z, true) post.abc.2 tail).drop post.abc.1)).map
          (((ligSeq x y (.ch z, true) post.abc.2 tail).take post.abc.1).flatMap emitT ++ ·) := by
  obtain ⟨e, b⟩ := x
  cases e with
  | rb => exact absurd rfl hx
  | lb => rfl
  | ch c => rfl

/-- The typed machine terminates on `s` with output `out`. Each clause of `interpT` is a rule
for it (`single`, `noRule`, `kern`, `lig`), so runs compose without fuel arithmetic. -/
def RunsT (p : Program) (s : List (El × Bool)) (out : List TGlyph) : Prop :=
  ∃ f, interpT p f s = some out

section
variable {p : Program} {x y e e' : El × Bool} {tail pre next : List (El × Bool)} {out : List TGlyph}
  {k : Int} {z : Nat} {post : PostLig}

theorem RunsT.single (x : El × Bool) : RunsT p [x] (emitT x) := ⟨1, rfl⟩

theorem RunsT.noRule (hx : x.1 ≠ .rb) (hl : lookup p x.1 y.1 = none) (h : RunsT p (y :: tail) out) :
    RunsT p (x :: y :: tail) (emitT x ++ out) := by
  obtain ⟨f, hf⟩ := h
  exact ⟨f + 1, by rw [interpT_step p f x y tail hx, hl]; simp [hf]⟩

theorem RunsT.kern (hx : x.1 ≠ .rb) (hl : lookup p x.1 y.1 = some (.kern k))
    (h : RunsT p (y :: tail) out) : RunsT p (x :: y :: tail) (emitT x ++ TGlyph.kern k :: out) := by
  obtain ⟨f, hf⟩ := h
  exact ⟨f + 1, by rw [interpT_step p f x y tail hx, hl]; simp [hf]⟩

/-- The cursor passes over the first `a` elements of `s`, and the machine goes on from there. -/
def PassT (p : Program) (a : Nat) (s : List (El × Bool)) (out : List TGlyph) : Prop :=
  ∃ o, RunsT p (s.drop a) o ∧ out = (s.take a).flatMap emitT ++ o

theorem PassT.zero {a : Nat} (ha : a = 0) (h : RunsT p next out) : PassT p a next out := ha ▸ ⟨out, h, rfl⟩

theorem PassT.succ {a : Nat} (h : PassT p a next out) : PassT p (a + 1) (e :: next) (emitT e ++ out) := by
  obtain ⟨o, ho, rfl⟩ := h
  exact ⟨o, ho, by simp⟩

theorem RunsT.lig (hx : x.1 ≠ .rb) (hl : lookup p x.1 y.1 = some (.lig z post))
    (h : PassT p post.abc.1 (ligSeq x y (.ch z, true) post.abc.2 tail) out) : RunsT p (x :: y :: tail) out := by
  obtain ⟨o, ⟨f, hf⟩, rfl⟩ := h
  exact ⟨f + 1, by rw [interpT_step p f x y tail hx, hl]; simp only [hf, Option.map_some]⟩

end

theorem interpT_succ (p : Program) : ∀ f s out, interpT p f s = some out → interpT p (f + 1) s = some out := by
  intro f
  induction f with
  | zero => intro s out h; cases h
  | succ f ih =>
    intro s out h
    match s with
    | [] => exact h
    | [x] => exact h
    | x :: y :: tail =>
      by_cases hx : x.1 = .rb
      · obtain ⟨e, b⟩ := x
        cases hx
        exact h
      · rw [interpT_step p _ x y tail hx] at h ⊢
        cases hl : lookup p x.1 y.1 with
        | none =>
          simp only [hl] at h ⊢
          obtain ⟨o, hi, ho⟩ := Option.map_eq_some_iff.mp h
          rw [ih _ _ hi, ← ho]; rfl
        | some op =>
          cases op with
          | kern k =>
            simp only [hl] at h ⊢
            obtain ⟨o, hi, ho⟩ := Option.map_eq_some_iff.mp h
            rw [ih _ _ hi, ← ho]; rfl
          | lig z post =>
            simp only [hl] at h ⊢
            obtain ⟨o, hi, ho⟩ := Option.map_eq_some_iff.mp h
            rw [ih _ _ hi, ← ho]; rfl

theorem interpT_mono (p : Program) {f g : Nat} (hfg : f ≤ g) {s : List (El × Bool)} {out : List TGlyph}
    (h : interpT p f s = some out) : interpT p g s = some out := by
  induction hfg with
  | refl => exact h
  | step _ ih => exact interpT_succ p _ _ _ ih

theorem interpT_det (p : Program) {f g : Nat} {s : List (El × Bool)} {o o' : List TGlyph}
    (h : interpT p f s = some o) (h' : interpT p g s = some o') : o = o' := by
  have a := interpT_mono p (Nat.le_max_left f g) h
  have b := interpT_mono p (Nat.le_max_right f g) h'
  rw [a] at b; exact Option.some.inj b

theorem emitT_erase (x : El × Bool) : (emitT x).map TGlyph.erase = x.1.emit := by
  obtain ⟨e, b⟩ := x
  cases e <;> rfl

theorem flatMap_emitT_erase (l : List (El × Bool)) :
    (l.flatMap emitT).map TGlyph.erase = (l.map Prod.fst).flatMap El.emit := by
  induction l with
  | nil => rfl
  | cons x t ih => simp [List.flatMap_cons, emitT_erase, ih]

theorem ligSeq_map {α β : Type} (f : α → β) (x y z : α) (keep : Bool × Bool) (tail : List α) :
    (ligSeq x y z keep tail).map f = ligSeq (f x) (f y) (f z) keep (tail.map f) := by
  obtain ⟨b, c⟩ := keep
  cases b <;> cases c <;> rfl

theorem interpT_erase (p : Program) : ∀ (f : Nat) (s : List (El × Bool)),
    (interpT p f s).map (List.map TGlyph.erase) = interp p f (s.map Prod.fst) := by
  intro f
  induction f with
  | zero => intro s; rfl
  | succ f ih =>
    intro s
    match s with
    | [] => rfl
    | [x] => simp [interpT, interp, emitT_erase]
    | x :: y :: tail =>
      by_cases hx : x.1 = .rb
      · obtain ⟨e, b⟩ := x
        cases hx
        rfl
      · have ih' : (interpT p f (y :: tail)).map (List.map TGlyph.erase)
            = interp p f (y.1 :: tail.map Prod.fst) := ih (y :: tail)
        rw [interpT_step p f x y tail hx, List.map_cons, List.map_cons, interp_step p f _ _ _ hx]
        cases lookup p x.1 y.1 with
        | none => simp [← ih', Function.comp_def, emitT_erase]
        | some op =>
          cases op with
          | kern k => simp [← ih', Function.comp_def, emitT_erase, TGlyph.erase]
          | lig z post =>
            simp only [← ligSeq_map Prod.fst x y (.ch z, true), ← List.map_drop, ← List.map_take, ← ih, ← flatMap_emitT_erase]
            simp [Function.comp_def]

theorem RunsT.erase {p : Program} {s : List (El × Bool)} {out : List TGlyph} (h : RunsT p s out) :
    ∃ f, interp p f (s.map Prod.fst) = some (out.map TGlyph.erase) := by
  obtain ⟨f, hf⟩ := h
  exact ⟨f, by rw [← interpT_erase, hf]; rfl⟩

theorem RunsT.of_interp {p : Program} {f : Nat} {s : List (El × Bool)} {out : List Glyph}
    (h : interp p f (s.map Prod.fst) = some out) : ∃ tout, RunsT p s tout ∧ tout.map TGlyph.erase = out := by
  rw [← interpT_erase] at h
  obtain ⟨tout, ht, ho⟩ := Option.map_eq_some_iff.mp h
  exact ⟨tout, ⟨f, ht⟩, ho⟩

theorem map_untag (s : List El) : (s.map (fun e => (e, false))).map Prod.fst = s := by
  simp [Function.comp_def]

theorem interp_det (p : Program) {f g : Nat} {s : List El} {o o' : List Glyph}
    (h : interp p f s = some o) (h' : interp p g s = some o') : o = o' := by
  rw [← map_untag s] at h h'
  obtain ⟨t, ⟨_, ht⟩, rfl⟩ := RunsT.of_interp h
  obtain ⟨t', ⟨_, ht'⟩, rfl⟩ := RunsT.of_interp h'
  rw [interpT_det p ht ht']

/-- The character the cursor stands on after the pair with value `v` and right character `r`:
`last` of the replacement, or `r` itself if the pair has no rule. -/
def lastOf (v : Option Repl) (r : Nat) : Nat :=
  match v with
  | none => r
  | some rep => rep.2.c

theorem applyChild_last (pl : Option C) (pr : C) (v : Option Repl) :
    (applyChild pl pr v).2.c = lastOf v pr.c := by
  cases v <;> rfl

/-- If the machine, started with fuel `f` on the left element and a character `r`, terminates, then the
pair has a value with the same fuel, and the machine got from there to `last` of that value (or to `r`)
with the same tail in fewer steps. -/
def Decomp (p : Program) (f : Nat) : Prop :=
  ∀ (l : Option Nat) (r : Nat) (tail : List El) (out : List Glyph),
    interp p f (elOf l :: .ch r :: tail) = some out →
    ∃ v, pairResult f p l r = some v ∧
      ∃ f' out', f' < f ∧ interp p f' (.ch (lastOf v r) :: tail) = some out'

theorem decomp_link (p : Program) {g f : Nat} (ih : Decomp p g) (hg : g ≤ f) (a : Nat) (pl : Option C) (pr : C)
    (tail : List El) (out : List Glyph)
    (h : interp p g ((elOf (charOf pl) :: .ch pr.c :: tail).drop a) = some out) :
    ∃ s, link (pairResult f p) a pl pr = some s ∧
      ∃ f' out', f' ≤ g ∧ interp p f' ((El.ch s.2.c :: tail).drop (a - 1)) = some out' := by
  cases a with
  | zero =>
    obtain ⟨v, hv, f', o', hf, hi⟩ := ih _ _ _ _ h
    exact ⟨applyChild pl pr v, by simp [link, pairResult_mono p hg hv], f', o', Nat.le_of_lt hf,
      by simpa [applyChild_last] using hi⟩
  | succ a => exact ⟨applyChild pl pr none, rfl, g, out, Nat.le_refl _, h⟩

theorem decomp (p : Program) : ∀ f, Decomp p f := by
  intro f
  induction f using Nat.strongRecOn with
  | _ f ih =>
    intro l r tail out h
    cases f with
    | zero => cases h
    | succ f =>
      rw [interp_step p f _ (.ch r) tail (elOf_ne_rb l), lookup_eq p l rfl] at h
      rw [pairResult_succ_eq]
      cases hr : rule p l r with
      | none =>
        simp only [hr] at h
        obtain ⟨o, hi, -⟩ := Option.map_eq_some_iff.mp h
        exact ⟨none, rfl, f, o, Nat.lt_succ_self _, hi⟩
      | some op =>
        cases op with
        | kern k =>
          simp only [hr] at h
          obtain ⟨o, hi, -⟩ := Option.map_eq_some_iff.mp h
          exact ⟨_, rfl, f, o, Nat.lt_succ_self _, hi⟩
        | lig z post =>
          simp only [hr] at h
          obtain ⟨o, hi, -⟩ := Option.map_eq_some_iff.mp h
          -- `hi`: the machine goes on from the sequence the ligature command leaves (`ligSeq`, which in each of
          -- the four shapes below reduces to the elements kept), `a` elements in; the links it then makes are
          -- those of this pair's round
          suffices ∃ t, ligResult (pairResult f p) l z r post.abc = some t ∧
              ∃ f' o', f' ≤ f ∧ interp p f' (.ch t.2.c :: tail) = some o' by
            obtain ⟨t, ht, f', o', hf, hi'⟩ := this
            exact ⟨some t, congrArg (Option.map some) ht, f', o', Nat.lt_succ_of_le hf, hi'⟩
          have hle := abc_le post
          generalize post.abc = abc at hi hle
          obtain ⟨a, b, c⟩ := abc
          have L := fun g (hg : g ≤ f) => decomp_link p (ih g (Nat.lt_succ_of_le hg)) hg
          cases b <;> cases c <;> simp only [Bool.toNat_true, Bool.toNat_false] at hle <;> simp only [ligResult]
          · cases Nat.le_zero.mp hle
            exact ⟨_, rfl, f, o, Nat.le_refl _, hi⟩
          · have := L f (Nat.le_refl _) a (some ⟨z, true⟩) ⟨r, false⟩ tail o hi
            -- by a term, here and in the next case: `omega` would take in the `∃` of `this`, which it treats through
            -- `Classical.choice`
            rwa [show a - 1 = 0 from Nat.sub_eq_zero_of_le hle] at this
          · have := L f (Nat.le_refl _) a (leftC l) ⟨z, true⟩ tail o (by rwa [charOf_leftC])
            rwa [show a - 1 = 0 from Nat.sub_eq_zero_of_le hle] at this
          · obtain ⟨s, hs, f1, o1, hf1, hi1⟩ :=
              L f (Nat.le_refl _) a (leftC l) ⟨z, true⟩ (.ch r :: tail) o (by rwa [charOf_leftC])
            obtain ⟨t, ht, f2, o2, hf2, hi2⟩ := L f1 hf1 (a - 1) (some s.2) ⟨r, false⟩ tail o1 hi1
            rw [show a - 1 - 1 = 0 by omega] at hi2
            exact ⟨(s.1 ++ t.1, t.2), by rw [hs, Option.bind_some, ht]; rfl, f2, o2, Nat.le_trans hf2 hf1, hi2⟩

end C05
