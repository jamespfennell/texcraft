import TexcraftModel.Lemmas.C02
import TexcraftModel.Lemmas.C02Kmp

/-! C02: the whole call (`Macro::call`) against `specExpand`. Holds the quantifier of the property:
`SMValid` (with `Plain`, `bodyToks`) says which descriptions `\def` accepts, `compile` (through
`compileBody`, `compileRepl`) is the macro it stores for one; it never fails, and `compiled s` is its
value (`compile_eq`). -/
namespace C02

/-- The delimiter a parameter was built from (`[]` = undelimited), as `specBind` takes them. -/
def delimOf : Param → List Tok
  | .undelim => []
  | .delim m => m.sub

/-- A parameter as `\def` builds it. -/
def ParamOK : Param → Prop
  | .undelim => True
  | .delim m => MatcherOK m ∧ DelimWF m.sub

/-- The step of `specBind` for one parameter with delimiter `d` (`[]` = undelimited). -/
def specArg (d inp : List Tok) : Option (List Tok × List Tok) :=
  if d = [] then specUndelim inp else (specDelim d inp).map fun (a, rest) => (stripSpec a, rest)

theorem specBind_cons_some {d : List Tok} {ds : List (List Tok)} {inp rest : List Tok}
    {args : List (List Tok)} (h : specBind (d :: ds) inp = some (args, rest)) :
    ∃ a r1 as, specArg d inp = some (a, r1) ∧ specBind ds r1 = some (as, rest) ∧ args = a :: as := by
  rw [specBind] at h
  split at h
  · cases h
  · next a r1 h1 =>
    split at h
    · cases h
    · next as rest' h2 => cases h; exact ⟨a, r1, as, h1, h2, rfl⟩

theorem parseArg_spec {p : Param} (hp : ParamOK p) (n : Nat) {inp a rest : List Tok}
    (h : specArg (delimOf p) inp = some (a, rest)) : parseArg shouldTrim n p inp = .ok (a, rest) := by
  cases p with
  | undelim => exact specUndelim_parse n h
  | delim m =>
    rw [specArg, delimOf, if_neg hp.2.ne] at h
    obtain ⟨⟨a0, rest0⟩, h0, he⟩ := Option.map_eq_some_iff.mp h
    cases he
    exact specDelim_parse m hp.1 hp.2 n h0

theorem parseArgs_spec {ps : List Param} (hok : ∀ p ∈ ps, ParamOK p) (i : Nat) {inp rest : List Tok}
    {args : List (List Tok)} (h : specBind (ps.map delimOf) inp = some (args, rest)) :
    parseArgs shouldTrim i ps inp = .ok (args, rest) := by
  induction ps generalizing i inp args with
  | nil => cases h; rfl
  | cons p ps ih =>
    obtain ⟨hp, hps⟩ := List.forall_mem_cons.mp hok
    obtain ⟨a, r1, as, h1, h2, rfl⟩ := specBind_cons_some h
    rw [parseArgs_cons, parseArg_spec hp (i + 1) h1]
    simp only [ih hps (i + 1) h2]

/-- The expansion of one piece (literal pieces in reading order). -/
def piece (args : List (List Tok)) : Repl → Option (List Tok)
  | .toks ts => some ts
  | .par i => args[i]?

/-- Append of two partial results: defined when both are. -/
def oapp (a b : Option (List Tok)) : Option (List Tok) := a.bind fun x => b.map (x ++ ·)

theorem oapp_assoc (a b c : Option (List Tok)) : oapp (oapp a b) c = oapp a (oapp b c) := by
  cases a <;> cases b <;> cases c <;> simp [oapp]

theorem oapp_nil (a : Option (List Tok)) : oapp a (some []) = a := by
  cases a <;> simp [oapp]

theorem nil_oapp (a : Option (List Tok)) : oapp (some []) a = a := by
  cases a <;> simp [oapp]

/-- What a list of pieces expands to (`none`: some `#n` has no argument). It takes `++` to `oapp`
(`flat_snoc`), so the lemmas below are associativity. -/
def flat (args : List (List Tok)) : List Repl → Option (List Tok)
  | [] => some []
  | r :: rs => oapp (piece args r) (flat args rs)

theorem flat_snoc (args : List (List Tok)) (r : Repl) : ∀ rs : List Repl,
    flat args (rs ++ [r]) = oapp (flat args rs) (piece args r)
  | [] => by rw [List.nil_append, flat, flat, flat, oapp_nil, nil_oapp]
  | r' :: rs => by rw [List.cons_append, flat, flat, flat_snoc args r rs, oapp_assoc]

theorem flat_pushRepl (args : List (List Tok)) (rs : List Repl) (t : Tok) :
    flat args (pushRepl rs t) = oapp (flat args rs) (some [t]) := by
  rcases List.eq_nil_or_concat rs with rfl | ⟨init, last, rfl⟩
  · rfl
  · rw [List.concat_eq_append]
    cases last with
    | toks ts =>
      have : pushRepl (init ++ [.toks ts]) t = init ++ [.toks (ts ++ [t])] := by simp [pushRepl]
      rw [this, flat_snoc, flat_snoc, oapp_assoc]
      rfl
    | par i =>
      have : pushRepl (init ++ [.par i]) t = (init ++ [.par i]) ++ [.toks [t]] := by simp [pushRepl]
      rw [this, flat_snoc]
      rfl

theorem performReplacement_flat (args : List (List Tok)) (rs : List Repl) :
    performReplacement args (rs.map reverseToks) = (flat args rs).map List.reverse := by
  induction rs with
  | nil => rfl
  | cons r rs ih =>
    cases r with
    | toks ts =>
      simp only [List.map_cons, reverseToks, performReplacement, ih, flat, piece]
      cases flat args rs <;> simp [oapp]
    | par i =>
      simp only [List.map_cons, reverseToks, performReplacement, ih, flat, piece]
      cases flat args rs <;> cases args[i]? <;> simp [oapp]

/-- `parse_replacement_text` on a replacement text, as a function of its items. -/
def compileBody : List Repl → List Item → List Repl
  | rs, [] => rs
  | rs, .lit t :: is => compileBody (pushRepl rs t) is
  | rs, .hash :: is => compileBody (pushRepl rs .param) is
  | rs, .arg i :: is => compileBody (rs ++ [.par i]) is

theorem flat_compileBody (args : List (List Tok)) (body : List Item) : ∀ rs : List Repl,
    flat args (compileBody rs body) = oapp (flat args rs) (specSubst args body) := by
  induction body with
  | nil => intro rs; exact (oapp_nil _).symm
  | cons it is ih =>
    intro rs
    cases it with
    -- `oapp (some [t]) x` unfolds to `x.map (t :: ·)`, the clause of `specSubst`
    | lit t => rw [compileBody, ih, flat_pushRepl, oapp_assoc]; rfl
    | hash => rw [compileBody, ih, flat_pushRepl, oapp_assoc]; rfl
    | arg i =>
      rw [compileBody, ih, flat_snoc, oapp_assoc, specSubst, piece]
      cases args[i]? <;> cases specSubst args is <;> rfl

/-- The parameter `\def` builds for the delimiter `d` (`[]` = undelimited), with the table `Matcher::new` computes. -/
def paramOf (d : List Tok) : Param :=
  match mkParam d with
  | some p => p
  | none => .undelim

theorem mkParam_spec (d : List Tok) : mkParam d = some (paramOf d) ∧ delimOf (paramOf d) = d ∧
    (d = [] ∨ DelimWF d → ParamOK (paramOf d)) := by
  cases d with
  | nil => exact ⟨rfl, rfl, fun _ => trivial⟩
  | cons x xs =>
    obtain ⟨pf, hpf, hmok⟩ := kmp_correct (x :: xs) (List.cons_ne_nil _ _)
    have e : paramOf (x :: xs) = .delim ⟨x :: xs, pf⟩ := by simp [paramOf, mkParam, hpf]
    rw [e]
    exact ⟨by simp [mkParam, hpf], rfl, fun h => ⟨hmok, h.resolve_left (List.cons_ne_nil _ _)⟩⟩

theorem mkParams_eq : ∀ ds : List (List Tok), mkParams ds = some (ds.map paramOf)
  | [] => rfl
  | d :: ds => by simp [mkParams, (mkParam_spec d).1, mkParams_eq ds]

/-- Tokens that may appear in a prefix or delimiter. -/
def Plain (t : Tok) : Prop := t ≠ .bg ∧ t ≠ .eg ∧ t ≠ .param

/-- The literal tokens of a replacement text. -/
def bodyToks : List Item → List Tok
  | [] => []
  | .lit t :: is => t :: bodyToks is
  | _ :: is => bodyToks is

/-- A parameter text and replacement text that `\def` accepts (the quantifier of C02). -/
structure SMValid (s : SpecMacro) : Prop where
  pre : ∀ t ∈ s.pre, Plain t
  delims : ∀ d ∈ s.delims, ∀ t ∈ d, Plain t
  nparams : s.delims.length ≤ 9
  args : ∀ i, Item.arg i ∈ s.body → i < s.delims.length
  lits : ∀ t, Item.lit t ∈ s.body → t ≠ .param
  body : runDepth 0 (bodyToks s.body) = some 0

/-- The replacement `parse_replacement_text` returns for `s`: after `#{` the end token `{` is
pushed as the last literal. -/
def compileRepl (s : SpecMacro) : List Repl :=
  if s.hashBrace then pushRepl (compileBody [] s.body) .bg else compileBody [] s.body

/-- The macro `parse_and_set_macro` stores for `s` (`none` = `Matcher::new` panicked). -/
def compile (s : SpecMacro) : Option Macro :=
  match mkParams s.effDelims with
  | none => none
  | some ps => some ⟨s.effPre, ps, (compileRepl s).map reverseToks⟩

theorem effDelims_wf {s : SpecMacro} (h : SMValid s) : ∀ d ∈ s.effDelims, d = [] ∨ DelimWF d := by
  have plainWF : ∀ d ∈ s.delims, d = [] ∨ DelimWF d := by
    intro d hd
    by_cases hne : d = []
    · exact Or.inl hne
    · exact Or.inr ⟨hne, d, fun t ht => ⟨(h.delims d hd t ht).1, (h.delims d hd t ht).2.1⟩, Or.inl rfl⟩
  intro d hd
  unfold SpecMacro.effDelims at hd
  split at hd
  · split at hd
    · cases hd
    · next last hl =>
      -- all delimiters but the last are unchanged; the last one gets the `{` of `#{`
      rcases List.mem_append.mp hd with hd | hd
      · exact plainWF d (List.dropLast_subset _ hd)
      · cases List.mem_singleton.mp hd
        have hlast := h.delims last (List.mem_of_getLast? hl)
        exact Or.inr ⟨by simp, last, fun t ht => ⟨(hlast t ht).1, (hlast t ht).2.1⟩, Or.inr rfl⟩
  · exact plainWF d hd

theorem effDelims_length (s : SpecMacro) : s.effDelims.length = s.delims.length := by
  unfold SpecMacro.effDelims
  split
  · rcases List.eq_nil_or_concat s.delims with h | ⟨init, last, h⟩ <;> simp [h]
  · rfl

/-- The macro `parse_and_set_macro` stores for `s`. -/
def compiled (s : SpecMacro) : Macro := ⟨s.effPre, s.effDelims.map paramOf, (compileRepl s).map reverseToks⟩

theorem compile_eq (s : SpecMacro) : compile s = some (compiled s) := by
  simp only [compile, mkParams_eq]; rfl

theorem compiled_pre (s : SpecMacro) : (compiled s).pre = s.effPre := rfl

theorem compiled_delims (s : SpecMacro) : (compiled s).params.map delimOf = s.effDelims := by
  simp only [compiled, List.map_map]
  exact (List.map_congr_left fun d _ => (mkParam_spec d).2.1).trans (List.map_id _)

theorem compiled_ok {s : SpecMacro} (h : SMValid s) : ∀ p ∈ (compiled s).params, ParamOK p := by
  intro p hp
  obtain ⟨d, hd, rfl⟩ := List.mem_map.mp hp
  exact (mkParam_spec d).2.2 (effDelims_wf h d hd)

theorem compiled_length (s : SpecMacro) : (compiled s).params.length = s.delims.length := by
  rw [compiled, List.length_map, effDelims_length]

theorem removePrefix_append (p x : List Tok) : removePrefix p (p ++ x) = .ok x := by
  induction p with
  | nil => cases x <;> simp [removePrefix]
  | cons t ts ih => simp [removePrefix, ih]

theorem flat_compileRepl (s : SpecMacro) (args : List (List Tok)) :
    flat args (compileRepl s) = oapp (specSubst args s.body) (some (if s.hashBrace then [.bg] else [])) := by
  unfold compileRepl
  cases s.hashBrace with
  | true => rw [if_pos rfl, if_pos rfl, flat_pushRepl, flat_compileBody, flat, nil_oapp]
  | false => simp only [Bool.false_eq_true, if_false, flat_compileBody, flat, nil_oapp, oapp_nil]

theorem performReplacement_compile (s : SpecMacro) (args : List (List Tok)) :
    performReplacement args (compiled s).repl =
      (specSubst args s.body).map fun e => (e ++ if s.hashBrace then [.bg] else []).reverse := by
  rw [compiled, performReplacement_flat, flat_compileRepl]
  cases specSubst args s.body <;> rfl

theorem call_compile {s : SpecMacro} (h : SMValid s) {inp out : List Tok} (hs : specExpand s inp = some out) :
    call (compiled s) inp = .ok out := by
  unfold specExpand at hs
  cases hpre : s.effPre.isPrefixOf inp with
  | false => simp [hpre] at hs
  | true =>
    simp only [hpre] at hs
    obtain ⟨x, rfl⟩ := List.isPrefixOf_iff_prefix.mp hpre
    simp only [List.drop_left] at hs
    cases hb : specBind s.effDelims x with
    | none => simp [hb] at hs
    | some r =>
      obtain ⟨args, rest⟩ := r
      simp only [hb] at hs
      cases hsub : specSubst args s.body with
      | none => simp [hsub] at hs
      | some e =>
        simp only [hsub] at hs
        cases hs
        have hpa := parseArgs_spec (compiled_ok h) 0 (by rw [compiled_delims]; exact hb)
        simp only [call, callWith, compiled_pre, removePrefix_append, hpa, performReplacement_compile, hsub]
        simp

end C02
