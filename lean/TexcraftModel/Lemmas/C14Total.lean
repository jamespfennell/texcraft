import TexcraftModel.Lemmas.C14Recon

/-! The reconstitution model never panics and never hangs: `rebuildWord … ≠ none` for ascending
positions `1 ≤ p < |s|` and every engine that spells and ends every run at a separation point
(`reconstitute_total`, `Props/C14.lean`: `wordLoop_total` at the initial state, where `Tot` holds because the main run
spells the word and ends at a separation point). -/
namespace C14

/-- The value `is_separation_point()` has once the iterator is exhausted. -/
def finalSep : Bool → List (Node × Bool) → Bool
  | s, [] => s
  | _, (_, f) :: t => finalSep f t

/-- An iterator that will be at a separation point when it is exhausted. -/
def IterOK (i : Iter) : Prop := finalSep i.sep i.rest = true

/-- Second law of the engine: every run ends at a separation point (nothing is pending when the
iterator is exhausted). -/
structure EngineSep (eng : Engine) : Prop where
  lastSep : ∀ dlb rbo w, finalSep true (eng.run dlb rbo w) = true

theorem finalSep_advance (s : Bool) (l : List (Node × Bool)) :
    finalSep (sepAfter s l) (advanceL l).2 = finalSep s l := by
  induction l generalizing s with
  | nil => rfl
  | cons x l ih =>
    obtain ⟨n, f⟩ := x
    cases f with
    | true => simp [sepAfter, advanceL, finalSep]
    | false => simp only [sepAfter, advanceL, Bool.false_eq_true, if_false, finalSep]; exact ih false

theorem sepAfter_true (s : Bool) (l : List (Node × Bool)) (h : finalSep s l = true) (hs : l = [] → s = true) :
    sepAfter s l = true := by
  induction l generalizing s with
  | nil => exact hs rfl
  | cons x l ih =>
    obtain ⟨n, f⟩ := x
    cases f with
    | true => simp [sepAfter]
    | false =>
      simp only [sepAfter, Bool.false_eq_true, if_false]
      exact ih false h (fun hn => by rw [hn] at h; exact h)

theorem advanceL_length (l : List (Node × Bool)) (hl : l ≠ []) : (advanceL l).2.length < l.length := by
  induction l with
  | nil => exact absurd rfl hl
  | cons x l ih =>
    obtain ⟨n, f⟩ := x
    cases f with
    | true => simp [advanceL]
    | false =>
      simp only [advanceL, Bool.false_eq_true, if_false, List.length_cons]
      cases l with
      | nil => simp [advanceL]
      | cons y t => have := ih (by simp); omega

theorem advanceL_length_le (l : List (Node × Bool)) : (advanceL l).2.length ≤ l.length := by
  cases l with
  | nil => simp [advanceL]
  | cons x t => exact Nat.le_of_lt (advanceL_length _ (by simp))

theorem IterOK_advance (i : Iter) (h : IterOK i) : IterOK (advance i).2 := by
  simp only [IterOK, advance]; rw [finalSep_advance]; exact h

theorem advance_sep (i : Iter) (h : IterOK i) (hs : i.sep = true) : (advance i).2.sep = true :=
  sepAfter_true _ _ h (fun _ => hs)

theorem IterOK_nil (i : Iter) (h : IterOK i) (hl : i.rest = []) : i.sep = true := by
  simp only [IterOK, hl, finalSep] at h; exact h

/-- Characters still to come. -/
def restChars (i : Iter) : Nat := countChars (i.rest.map (·.1))

theorem restChars_advance (i : Iter) : countChars (advance i).1 + restChars (advance i).2 = restChars i := by
  simp only [restChars]
  rw [← countChars_append, advance_spec]

theorem restChars_nil {i : Iter} (h : i.rest = []) : restChars i = 0 := by rw [restChars, h]; rfl

/-- What keeps `sync` going until it exits: both runs will end at a separation point, the post-break run
is at one now, each side has `L` characters in all (pushed + still to come), and the post-break run has some
still to come as long as `pclb` makes it advance. -/
structure SyncOK (L : Nat) (st : Sync) : Prop where
  postOK : IterOK st.post
  postSep : st.post.sep = true
  mainOK : IterOK st.main
  postCount : st.postCP + restChars st.post = L
  mainCount : st.cp + restChars st.main = L
  pclb : st.pclb = true → st.postCP < L

theorem SyncOK.stepPost {L : Nat} {st : Sync} (ok : SyncOK L st) : SyncOK L st.stepPost where
  postOK := IterOK_advance _ ok.postOK
  postSep := advance_sep _ ok.postOK ok.postSep
  mainOK := ok.mainOK
  postCount := by
    show st.postCP + countChars (advance st.post).1 + restChars (advance st.post).2 = L
    rw [Nat.add_assoc, restChars_advance]; exact ok.postCount
  mainCount := ok.mainCount
  pclb := fun h => nomatch h

theorem SyncOK.stepMain {L : Nat} {st : Sync} (ok : SyncOK L st) : SyncOK L st.stepMain where
  postOK := ok.postOK
  postSep := ok.postSep
  mainOK := IterOK_advance _ ok.mainOK
  postCount := ok.postCount
  mainCount := by
    show st.cp + countChars (advance st.main).1 + restChars (advance st.main).2 = L
    rw [Nat.add_assoc, restChars_advance]; exact ok.mainCount
  pclb := ok.pclb

theorem sync_total (L : Nat) : ∀ (fuel : Nat) (st : Sync), SyncOK L st →
    st.post.rest.length + st.main.rest.length + 2 ≤ fuel →
    ∃ r, sync fuel st = some r ∧ SyncOK L r ∧ st.cp ≤ r.cp ∧ r.main.rest.length ≤ st.main.rest.length := by
  intro fuel
  induction fuel with
  | zero => intro st _ h; omega
  | succ fuel ih =>
    intro st ok hf
    rw [sync_succ]
    split
    · exact ⟨st, rfl, ok, Nat.le_refl _, Nat.le_refl _⟩
    · rename_i hexit
      split
      · -- the post-break run is behind (or has not started): it has a character left
        rename_i hpost
        have hne : st.post.rest ≠ [] := by
          intro hn
          have := restChars_nil hn
          simp only [Bool.or_eq_true, decide_eq_true_eq] at hpost
          have := ok.postCount; have := ok.mainCount
          rcases hpost with h | h
          · have := ok.pclb h; omega
          · omega
        have hlen : (advanceL st.post.rest).2.length < st.post.rest.length := advanceL_length _ hne
        exact ih st.stepPost ok.stepPost
          (show (advanceL st.post.rest).2.length + st.main.rest.length + 2 ≤ fuel by omega)
      · -- equal counts but no exit: the main run is not at a separation point, so not exhausted
        rename_i hpost
        simp only [Bool.or_eq_true, decide_eq_true_eq, not_or, Bool.not_eq_true, Nat.not_lt] at hpost
        have hne : st.main.rest ≠ [] := by
          intro hn
          apply hexit
          have hrc := restChars_nil hn
          have := ok.postCount; have := ok.mainCount
          simp only [Bool.and_eq_true, Bool.not_eq_true', beq_iff_eq]
          exact ⟨⟨⟨hpost.1, by omega⟩, ok.postSep⟩, IterOK_nil _ ok.mainOK hn⟩
        have hlen : (advanceL st.main.rest).2.length < st.main.rest.length := advanceL_length _ hne
        obtain ⟨r, hr, h1, hcp, h2⟩ := ih st.stepMain ok.stepMain
          (show st.post.rest.length + (advanceL st.main.rest).2.length + 2 ≤ fuel by omega)
        exact ⟨r, hr, h1, Nat.le_trans (Nat.le_add_right _ _) hcp, Nat.le_trans h2 (Nat.le_of_lt hlen)⟩

theorem insertDisc_length (font : Nat) (out : List (Item × Bool)) (esp : Nat) (pre : List DElem) (r : Sync) :
    (insertDisc font out esp pre r).length = out.length + r.pushed.length + 1 := by
  rw [insertDisc, List.length_append, List.length_cons, ← Nat.add_assoc, ← List.length_append,
    List.take_append_drop, List.length_append, List.length_map]

/-- The numeric facts that keep the loops out of every `none`. -/
structure Tot (s : List Nat) (w : W) : Prop where
  count : w.cp + restChars w.main = s.length
  iterOK : IterOK w.main
  esp : w.esp ≤ w.out.length
  ssp : w.ssp ≤ w.cp
  sorted : w.pos.Pairwise (· < ·)
  range : ∀ p ∈ w.pos, p < s.length

theorem Tot.resetIf {s : List Nat} {w : W} (tot : Tot s w) (c : Bool) : Tot s (w.resetIf c) := by
  cases c
  · exact tot
  · exact ⟨tot.count, tot.iterOK, Nat.zero_le _, Nat.le_refl _, tot.sorted, tot.range⟩

theorem Tot.push {s : List Nat} {w : W} (tot : Tot s w) (font : Nat) {n : Node} {f : Bool} {t : List (Node × Bool)}
    (hrest : w.main.rest = (n, f) :: t) : Tot s (w.push font n f t) where
  count := by
    have := tot.count
    simp only [W.push, restChars, hrest, List.map_cons, countChars, List.sum_cons] at this ⊢
    omega
  iterOK := by have := tot.iterOK; simp only [IterOK, hrest, finalSep] at this ⊢; exact this
  esp := by show w.esp + 1 ≤ (w.out ++ _).length; rw [List.length_append]; exact Nat.succ_le_succ tot.esp
  ssp := Nat.le_trans tot.ssp (Nat.le_add_right _ _)
  sorted := tot.sorted
  range := tot.range

/-- The remaining positions shrink with every recursive call, so the fuel `pos.length + 1` that `wordLoop` gives
suffices. -/
theorem hyphLoop_total {eng : Engine} {font : Nat} {s : List Nat} {rbo : Option Nat}
    (he : EngineOK eng) (hl : EngineSep eng) :
    ∀ (fuel : Nat) (w : W) (h : Nat) (pos' : List Nat), Tot s w → w.pos = h :: pos' → w.ssp ≤ h →
      pos'.length + 2 ≤ fuel →
      ∃ w', hyphLoop eng font s rbo fuel w = some w' ∧ Tot s w' ∧ w'.Ahead ∧
        w'.main.rest.length ≤ w.main.rest.length := by
  intro fuel
  induction fuel with
  | zero => intro w h pos' _ _ _ hf; omega
  | succ fuel ih =>
    intro w h pos' tot hpos hsh hf
    have hhs : h < s.length := tot.range h (hpos ▸ List.mem_cons_self)
    have hsorted' : pos'.Pairwise (· < ·) := (List.pairwise_cons.mp (hpos ▸ tot.sorted)).2
    have ok : SyncOK s.length (w.sync0 eng s rbo h) := by
      refine ⟨hl.lastSep false rbo (s.drop h), rfl, tot.iterOK, ?_, tot.count, fun _ => hhs⟩
      show h + countChars ((eng.run false rbo (s.drop h)).map (·.1)) = s.length
      rw [countChars_eq, he.spell, List.length_drop]; omega
    obtain ⟨r, hr, okr, hcp, hrlen⟩ := sync_total s.length
      ((eng.run false rbo (s.drop h)).length + w.main.rest.length + 2) _ ok (Nat.le_refl _)
    have tot2 : Tot s (w.disc eng font s h pos' r) := by
      refine ⟨okr.mainCount, okr.mainOK, ?_, Nat.le_trans tot.ssp hcp, hsorted'.sublist (skipPast_sublist _ _), ?_⟩
      · show w.esp ≤ (insertDisc font w.out w.esp _ r).length
        rw [insertDisc_length, Nat.add_assoc]
        exact Nat.le_trans tot.esp (Nat.le_add_right _ _)
      · intro p hp
        exact tot.range p (hpos ▸ List.mem_cons_of_mem _ ((skipPast_sublist _ _).subset hp))
    rw [hyphLoop_succ _ _ _ _ _ hpos, if_neg (by have := tot.esp; omega), hr, Option.bind_some]
    split
    · rename_i hexit
      exact ⟨_, rfl, tot2, W.ahead_of_head tot2.sorted hexit, hrlen⟩
    · rename_i hagain
      cases hpos2 : skipPast r.cp pos' with
      | nil => simp [W.disc, hpos2] at hagain
      | cons h2 t =>
        have hlen2 : t.length + 1 ≤ pos'.length := by
          have := (skipPast_sublist r.cp pos').length_le; rwa [hpos2] at this
        obtain ⟨w', hw', tot', hgt', hlen'⟩ :=
          ih _ h2 t (tot2.resetIf true) hpos2 (skipPast_head _ hpos2) (by omega)
        exact ⟨w', hw', tot', hgt', Nat.le_trans hlen' hrlen⟩

theorem wordLoop_total {eng : Engine} {font : Nat} {s : List Nat} {rbo : Option Nat}
    (he : EngineOK eng) (hl : EngineSep eng) :
    ∀ (fuel : Nat) (w : W), Tot s w → w.Ahead → w.main.rest.length + 1 ≤ fuel →
      ∃ w', wordLoop eng font s rbo fuel w = some w' := by
  intro fuel
  induction fuel with
  | zero => intro w _ _ h; omega
  | succ fuel ih =>
    intro w0 tot0 ha0 hf0
    rw [wordLoop_succ]
    have tot := tot0.resetIf w0.main.sep
    have ha := ha0.resetIf w0.main.sep
    rw [← W.resetIf_main w0.main.sep] at hf0
    generalize w0.resetIf w0.main.sep = w at tot ha hf0 ⊢
    cases hrest : w.main.rest with
    | nil => exact ⟨w, rfl⟩
    | cons x t =>
      obtain ⟨n, f⟩ := x
      have tot1 : Tot s (w.push font n f t) := tot.push font hrest
      have hflen : t.length + 1 ≤ fuel := by rw [hrest, List.length_cons] at hf0; omega
      show ∃ w', (afterPush eng font s rbo (w.push font n f t) n f).bind _ = some w'
      unfold afterPush
      cases hdue : (w.push font n f t).due n with
      | none => exact ih _ tot1 (ha.push tot.sorted hdue) hflen
      | some q =>
        obtain ⟨lc, h⟩ := q
        obtain ⟨tl, hpos⟩ := W.due_some hdue
        dsimp only
        generalize hc : (h == (w.push font n f t).cp && f && !eng.hasRepl (some lc) (some hyphenChar)) = c
        replace hpos : ((w.push font n f t).resetIf c).pos = h :: tl := (W.resetIf_pos _ _).trans hpos
        -- the position is not below the start of the separation point, old or new
        have hsh : ((w.push font n f t).resetIf c).ssp ≤ h := by
          cases c
          · exact Nat.le_trans tot.ssp (Nat.le_of_lt (ha h (hpos ▸ List.mem_cons_self)))
          · simp only [Bool.and_eq_true, beq_iff_eq] at hc
            exact Nat.le_of_eq hc.1.1.symm
        obtain ⟨w3, hw3, tot3, hgt3, hlen3⟩ := hyphLoop_total (font := font) (rbo := rbo) he hl
          (((w.push font n f t).resetIf c).pos.length + 1) _ h tl (tot1.resetIf c) hpos hsh
          (by rw [hpos, List.length_cons]; exact Nat.le_refl _)
        rw [hw3]
        rw [W.resetIf_main] at hlen3
        exact ih _ tot3 hgt3 (Nat.le_trans (Nat.succ_le_succ hlen3) hflen)

theorem finalSep_append (s : Bool) (a b : List (Node × Bool)) :
    finalSep s (a ++ b) = finalSep (finalSep s a) b := by
  induction a generalizing s with
  | nil => rfl
  | cons x a ih => obtain ⟨n, f⟩ := x; simp only [List.cons_append, finalSep]; exact ih f

theorem finalSep_markSeps (s : Bool) (l : List Node) (last : Bool) (hl : l ≠ []) :
    finalSep s (markSeps l last) = last := by
  induction l generalizing s with
  | nil => exact absurd rfl hl
  | cons x l ih =>
    cases l with
    | nil => rfl
    | cons y t => simp only [markSeps, finalSep]; exact ih false (by simp)

theorem finalSep_markSeps_true (l : List Node) : finalSep true (markSeps l true) = true := by
  cases l with
  | nil => rfl
  | cons x t => exact finalSep_markSeps true _ true (by simp)

/-- With a left character pending the run is non-empty and ends at a separation point; without
one (left boundary) it ends at a separation point or is empty. -/
theorem goLS_finalSep (tbl : Option Nat → Nat → Option C05.Repl) (rb : Option Nat) (ht : C05.GoodTable tbl) :
    ∀ (w : List Nat) (left : Option Nat) (lio : Bool) (lg : Option C05.Pending) (s : Bool),
      (left.isSome = true ∨ s = true) → finalSep s (goLS tbl rb w left lio lg) = true := by
  intro w
  induction w with
  | nil =>
    intro left lio lg s hs
    cases left with
    | none => simpa [goLS, finalSep] using hs
    | some l =>
      simp only [goLS]
      cases hrb : rb.bind (fun r => tbl (some l) r) with
      | none => simp [finalSep]
      | some rep =>
        simp only
        split
        · rw [finalSep_append]; simp [finalSep]
        · rename_i hlig
          obtain ⟨rbc, -, hrep⟩ := Option.bind_eq_some_iff.mp hrb
          have hg := ht _ _ _ hrep
          have hc := C05.hasCh_of_good hg (by simpa using hlig)
          have hne : rep.1 ≠ [] := by intro hn; rw [hn] at hc; simp [C05.hasCh] at hc
          have hdl := drain_length (some l) (!rep.2.lig) rep.1 lg lio
          apply finalSep_markSeps
          intro hn
          rw [hn] at hdl
          simp at hdl
          exact hne (List.eq_nil_of_length_eq_zero hdl.symm)
  | cons r rest ih =>
    intro left lio lg s hs
    simp only [goLS]
    cases tbl left r with
    | none =>
      cases left with
      | none => exact ih _ _ _ _ (Or.inl rfl)
      | some l => simp only [finalSep]; exact ih _ _ _ _ (Or.inl rfl)
    | some rep =>
      simp only
      split <;> (rw [finalSep_append]; exact ih _ _ _ _ (Or.inl rfl))

theorem engineOf_sep (tbl : Option Nat → Nat → Option C05.Repl) (prb : Option Nat) (ht : C05.GoodTable tbl) :
    EngineSep (engineOf tbl prb) := by
  constructor
  intro dlb rbo w
  simp only [engineOf]
  cases dlb with
  | false => simp only [Bool.false_eq_true, if_false]; exact goLS_finalSep tbl _ ht w none true none true (Or.inr rfl)
  | true =>
    simp only [if_true]
    cases w with
    | nil => rfl
    | cons c w' => exact goLS_finalSep tbl _ ht w' (some c) true none true (Or.inr rfl)

/-- Why mutant 25 (`mutants/C14/25-sync-exit-ignores-post-sep.diff`) is equivalent: the post-break iterator starts at a
separation point and every advance leaves it at one (its run ends at a separation point), so the conjunct
`post_break_iter.is_separation_point()` of the exit test is always true when the test runs. -/
theorem syncNoPostSep_eq : ∀ (fuel : Nat) (st : Sync), IterOK st.post → st.post.sep = true →
    syncNoPostSep fuel st = sync fuel st := by
  intro fuel
  induction fuel with
  | zero => intro st _ _; rfl
  | succ fuel ih =>
    intro st hok hsep
    rw [sync_succ, syncNoPostSep, hsep, Bool.and_true]
    split
    · rfl
    · split
      · exact ih _ (IterOK_advance _ hok) (advance_sep _ hok hsep)
      · exact ih _ hok hsep

end C14
