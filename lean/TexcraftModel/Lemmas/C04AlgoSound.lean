import TexcraftModel.Lemmas.C04AlgoSpec
import TexcraftModel.Lemmas.C04AlgoGroups

/-!
Soundness of the active list: every active node of `C04.algo` records a feasible sequence of
breaks with its exact total demerits (`NodeInv`, kept by every round: `round_inv`), for every
instance with well-formed discretionaries, every looseness, `force_solution = false`; and the
induction over the main loop that every invariant of the active list goes through
(`mainLoop_induction`). At a sound node the quantities and tests of `try_break` (`nodeRate`,
`allowOf`, `deactOf`, `totOf`) are those of the specification.
-/
namespace C04

/-- What `try_break` is called with at a legal breakpoint `i`. -/
structure CtxOK (x : Inst) (i : Nat) (c : BCtx) : Prop where
  i_eq : c.i = i
  le : i ≤ x.n
  diffs : c.diffs = cum x.items i
  dw : c.discWidth = preWidth x i
  bi : breakInfo x i = some (c.penalty, c.hyph)
  isEnd : c.isEnd = decide (i = x.n)

/-- The soundness invariant of the main loop at the start of iteration `i`. -/
structure LInv (x : Inst) (i : Nat) (st : LState) : Prop where
  basic : LBasic x i st
  nodes : ∀ ν, ν ∈ st.active → NodeInv x i ν

theorem nodeRate_spec {x : Inst} {i : Nat} {c : BCtx} {ν : ANode} (hc : CtxOK x i c)
    (h : NodeInv x i ν) :
    nodeRate x c ν = rate (lineTotals x ν.pos i) (lineWidth x.p.widths ν.line) := by
  unfold nodeRate
  rw [rateFn_eq, hc.diffs, hc.dw, h.ok.ref]
  rfl

theorem forced_of_bi {x : Inst} {i : Nat} {p : Int} {h : Bool} (hb : breakInfo x i = some (p, h)) :
    forced x i = (p == -10000) := by
  unfold forced; rw [hb]

theorem forced_of_none {x : Inst} {i : Nat} (hb : breakInfo x i = none) : forced x i = false := by
  unfold forced; rw [hb]

theorem forcedBetween_eq_false {x : Inst} {a : Option Nat} {i : Nat} :
    forcedBetween x a i = false ↔ ∀ b, b < i → lt? a b = true → forced x b = false := by
  unfold forcedBetween
  simp [List.any_eq_false]

theorem forcedBetween_succ (x : Inst) (a : Option Nat) (i : Nat) :
    forcedBetween x a (i + 1) = (forcedBetween x a i || (lt? a i && forced x i)) := by
  unfold forcedBetween
  rw [List.range_succ, List.any_append]
  simp

theorem lt?_of_succ {pos : Option Nat} {i : Nat} (h : lt? pos (i + 1) = true) (hne : pos ≠ some i) :
    lt? pos i = true := by
  cases pos with
  | none => rfl
  | some a =>
    simp [lt?] at h ⊢
    have : a ≠ i := fun e => hne (by rw [e])
    omega

theorem nodeInv_keep {x : Inst} {i : Nat} {ν : ANode} (h : NodeInv x i ν) (hf : forced x i = false) :
    NodeInv x (i + 1) ν :=
  ⟨h.ok, lt?_trans ν.pos i (i + 1) h.lt (Nat.lt_succ_self i),
    by rw [forcedBetween_succ, h.nf, hf]; simp⟩

theorem lineEval_node {x : Inst} {i : Nat} {c : BCtx} {ν : ANode} (hc : CtxOK x i c)
    (h : NodeInv x i ν) :
    lineEval x ν.pos ν.line i = if allowOf x c ν = true then some (nodeRate x c ν) else none := by
  unfold lineEval allowOf
  rw [hc.bi, if_pos ⟨h.lt, hc.le, by simp [h.nf]⟩, ← nodeRate_spec hc h]
  simp only [decide_eq_true_eq]

theorem deactOf_spec {x : Inst} {i : Nat} {c : BCtx} {ν : ANode} (hc : CtxOK x i c)
    (h : NodeInv x i ν) : deactOf x c ν = (forced x i || overfull x ν.pos ν.line i) := by
  unfold deactOf overfull
  rw [nodeRate_spec hc h, forced_of_bi hc.bi, Bool.eq_iff_iff]
  have := (rate_range (lineTotals x ν.pos i) (lineWidth x.p.widths ν.line)).2
  simp only [decide_eq_true_eq, Bool.or_eq_true, beq_iff_eq]
  omega

theorem totOf_spec {x : Inst} {i : Nat} {c : BCtx} {ν : ANode} (hc : CtxOK x i c)
    (h : NodeInv x i ν) :
    totOf x c ν = ν.total + demerits x ν.pos ν.fit i (nodeRate x c ν).1 (nodeRate x c ν).2 := by
  unfold totOf
  rw [h.ok.hyph, hc.isEnd, demeritsFn_eq x ν.pos i c.penalty c.hyph hc.bi]
  omega

theorem forcedBetween_self (x : Inst) (i : Nat) : forcedBetween x (some i) (i + 1) = false :=
  forcedBetween_eq_false.2 fun b hb hlt => by simp [lt?] at hlt; omega

theorem child_inv {x : Inst} (hd : discOK x = true) {i : Nat} {c : BCtx} {μ : ANode}
    (hc : CtxOK x i c) (h : NodeInv x i μ) (ha : allowOf x c μ = true) :
    NodeInv x (i + 1) (child x c μ) := by
  have hpos : (child x c μ).pos = some i := congrArg some hc.i_eq
  have hle : lineEval x μ.pos μ.line i = some (nodeRate x c μ) := by
    rw [lineEval_node hc h, if_pos ha]
  have htot := totOf_spec hc h
  refine ⟨⟨?_, ?_, ?_⟩, ?_, ?_⟩
  · rw [hpos]
    have : (child x c μ).path.reverse = μ.path.reverse ++ [i] := by simp [child, hc.i_eq]
    rw [this, run_snoc (bad := (nodeRate x c μ).1) (fit := (nodeRate x c μ).2) h.ok.run hle]
    simp only [child, htot]
  · rw [hpos]; simp only [child, hc.i_eq, hc.diffs]; exact breakWidth_eq x hd i
  · rw [hpos]; simp only [child, hyphAt, hc.bi]
  · rw [hpos]; simp [lt?]
  · rw [hpos]; exact forcedBetween_self x i

theorem round_inv {x : Inst} (hd : discOK x = true) {q : Int} {i : Nat} {c : BCtx} (hc : CtxOK x i c)
    {A B : List ANode} (hr : Round x q c A B) (hA : ∀ ν, ν ∈ A → NodeInv x i ν) (μ : ANode)
    (hμ : μ ∈ B) : NodeInv x (i + 1) μ := by
  rcases hr.sub μ hμ with ⟨hμA, hde⟩ | ⟨ν, hνA, hal, rfl⟩
  · rw [deactOf_spec hc (hA μ hμA), Bool.or_eq_false_iff] at hde
    exact nodeInv_keep (hA μ hμA) hde.1
  · exact child_inv hd hc (hA ν hνA) hal

theorem isNone_getElem?_eq (x : Inst) (i : Nat) (hi : i ≤ x.n) :
    (x.items[i]?).isNone = decide (i = x.n) := by
  unfold Inst.n at *
  by_cases h : i = x.items.length
  · subst h; simp
  · have : i < x.items.length := by omega
    simp [h, this]

theorem step_cases {x : Inst} (q : Int) (hd : discOK x = true) {i : Nat} (hi : i ≤ x.n)
    {st : LState} (hb : LBasic x i st) :
    LBasic x (i + 1) (step x q false st i) ∧
    ((breakInfo x i = none ∧ (step x q false st i).active = st.active) ∨
     ∃ c, CtxOK x i c ∧
       (step x q false st i).active = groupsRun x q c st.active.length st.active) := by
  unfold step
  rw [classify_eq x hd i st hi hb]
  cases hraw : rawBreak x i with
  | none => exact ⟨⟨rfl, rfl, rfl⟩, Or.inl ⟨spec_breakInfo_none x i hraw, rfl⟩⟩
  | some r =>
    obtain ⟨pen, hy⟩ := r
    simp only [Option.map_some, Option.isSome_some, if_true]
    have hbi : breakInfo x i = if 10000 ≤ pen then none else
        if pen ≤ -10000 then some (-10000, hy) else some (pen, hy) := by
      unfold breakInfo
      rw [hraw]
    by_cases hp : 10000 ≤ pen
    · rw [if_pos hp] at hbi ⊢
      exact ⟨⟨(rawBreak_contrib hraw (by omega)).symm, rfl, rfl⟩, Or.inl ⟨hbi, rfl⟩⟩
    · rw [if_neg hp] at hbi ⊢
      rw [outer_eq_groupsRun]
      refine ⟨⟨endUpdate_cum hraw, rfl, rfl⟩, Or.inr ⟨_, ⟨rfl, hi, rfl, rfl, hbi.trans ?_,
        isNone_getElem?_eq x i hi⟩, rfl⟩⟩
      split <;> rfl

theorem linv_init (x : Inst) : LInv x 0 {} := by
  refine ⟨⟨?_, ?_, ?_⟩, ?_⟩
  · simp [cum]
  · simp [autoBefore]
  · simp [eorAt]
  · intro ν hν
    have : ν = {} := by simpa using hν
    subst this
    refine ⟨⟨?_, ?_, ?_⟩, ?_, ?_⟩
    · simp [run, ANode.pos]
    · simp [ANode.pos, afterRef]
    · simp [ANode.pos, hyphAt]
    · simp [ANode.pos, lt?]
    · simp [forcedBetween]

/-- The main loop (`force_solution = false`) as seen by an invariant `P` of the active list: an
index that is no legal breakpoint leaves the list alone, a legal one is a `Round` on a list of
sound nodes. Soundness (`LInv`) and sortedness by line class hold throughout, whatever `P`. -/
theorem mainLoop_induction {x : Inst} (q : Int) (hd : discOK x = true) (P : Nat → List ANode → Prop)
    (h0 : P 0 [{}])
    (hskip : ∀ i A, breakInfo x i = none → P i A → P (i + 1) A)
    (hround : ∀ i c A B, CtxOK x i c → Round x q c A B → (∀ ν, ν ∈ A → NodeInv x i ν) →
      P i A → P (i + 1) B)
    (k : Nat) (hk : k ≤ x.n + 1) :
    LInv x k ((List.range k).foldl (step x q false) {}) ∧
      SortedQ x q ((List.range k).foldl (step x q false) {}).active ∧
      P k ((List.range k).foldl (step x q false) {}).active := by
  induction k with
  | zero => exact ⟨linv_init x, List.pairwise_singleton _ _, h0⟩
  | succ k ih =>
    obtain ⟨⟨hb, hn⟩, hs, hp⟩ := ih (by omega)
    rw [List.range_succ, List.foldl_append]
    simp only [List.foldl_cons, List.foldl_nil]
    obtain ⟨hb', hcase⟩ := step_cases q hd (by omega : k ≤ x.n) hb
    rcases hcase with ⟨hbi, hact⟩ | ⟨c, hc, hact⟩
    · refine ⟨⟨hb', ?_⟩, ?_⟩
      · rw [hact]
        exact fun ν hν => nodeInv_keep (hn ν hν) (forced_of_none hbi)
      · rw [hact]
        exact ⟨hs, hskip k _ hbi hp⟩
    · have hr := groupsRun_round x q c _ _ (Nat.le_refl _) hs
      refine ⟨⟨hb', ?_⟩, ?_⟩
      · rw [hact]
        exact round_inv hd hc hr hn
      · rw [hact]
        exact ⟨hr.sorted, hround k c _ _ hc hr hn hp⟩

theorem loop_inv {x : Inst} (q : Int) (hd : discOK x = true) (k : Nat) (hk : k ≤ x.n + 1) :
    LInv x k ((List.range k).foldl (step x q false) {}) ∧
      SortedQ x q ((List.range k).foldl (step x q false) {}).active :=
  let ⟨hl, hs, _⟩ := mainLoop_induction q hd (fun _ _ => True) trivial (fun _ _ _ _ => trivial)
    (fun _ _ _ _ _ _ _ _ => trivial) k hk
  ⟨hl, hs⟩

theorem mainLoop_inv {x : Inst} (q : Int) (hd : discOK x = true) :
    LInv x (x.n + 1) (mainLoop x q false) :=
  (loop_inv q hd (x.n + 1) (Nat.le_refl _)).1

theorem breakInfo_end (x : Inst) : breakInfo x x.n = some (-10000, true) := by
  unfold breakInfo
  rw [rawBreak_end]
  rfl

theorem final_pos {x : Inst} {ν : ANode} (h : NodeInv x (x.n + 1) ν) : ν.pos = some x.n := by
  -- a node before the forced break at `n` would have passed it
  have hnf := h.nf
  rw [forcedBetween_succ, forced_of_bi (breakInfo_end x)] at hnf
  exact Decidable.byContradiction fun hne => by simp [lt?_of_succ h.lt hne] at hnf

theorem final_node {x : Inst} (q : Int) (hd : discOK x = true) (ν : ANode)
    (hν : ν ∈ (mainLoop x q false).active) :
    total x ν.path.reverse = some ν.total ∧ ν.path.reverse.length = ν.line := by
  have h := (mainLoop_inv q hd).nodes ν hν
  exact ⟨total_eq_some.2 ⟨_, h.ok.run, final_pos h⟩, (run_L h.ok.run).symm⟩

end C04
