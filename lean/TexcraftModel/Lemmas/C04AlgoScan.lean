import TexcraftModel.Lemmas.C04AlgoDefs
/-!
C04 — the loops on the deque (`inner`, `outer`) in pure "scan" form, the two `<=` updates of the
candidates (`offer`), and what the candidates are after a scan (`ScanInv`, `scanC_inv`).
-/
namespace C04

theorem tryNode_false (x : Inst) (c : BCtx) (ν : ANode) (e : Bool) (cs : Cands) (md : Int) :
    tryNode x false c ν e cs md =
      ⟨deactOf x c ν, (scanStep x c ν (cs, md)).1, (scanStep x c ν (cs, md)).2⟩ := by
  unfold tryNode
  extract_lets _ _ _ bad _ tol daa
  have hdaa : daa = (deactOf x c ν, allowOf x c ν, false) := by
    show (if 10000 < bad ∨ c.penalty = -10000 then
      (if false = true ∧ _ then _ else (true, decide (bad ≤ tol), false))
      else (false, decide (bad ≤ tol), false)) = (decide (10000 < bad ∨ c.penalty = -10000), _)
    split
    next h1 => rw [if_neg (fun h => Bool.noConfusion h.1), decide_eq_true h1]; rfl
    next h1 => rw [decide_eq_false h1]; rfl
  clear_value daa
  subst hdaa
  unfold scanStep
  split <;> rfl

theorem survivors_cons (x : Inst) (c : BCtx) (ν : ANode) (t : List ANode) :
    survivors x c (ν :: t) = if deactOf x c ν then survivors x c t else ν :: survivors x c t := by
  unfold survivors
  rw [List.filter_cons]
  cases deactOf x c ν <;> simp

theorem scanC_cons (x : Inst) (c : BCtx) (ν : ANode) (t : List ANode) (s : Cands × Int) :
    scanC x c (ν :: t) s = scanC x c t (scanStep x c ν s) := by
  simp [scanC]

theorem scanC_nil (x : Inst) (c : BCtx) (s : Cands × Int) : scanC x c [] s = s := by
  simp [scanC]

theorem inner_eq (x : Inst) (c : BCtx) (G rest : List ANode) (cs : Cands) (md : Int) :
    inner x false c G.length (G ++ rest) cs md = (rest ++ survivors x c G, scanC x c G (cs, md)) := by
  induction G generalizing rest cs md with
  | nil => simp [inner, survivors, scanC_nil]
  | cons ν t ih =>
    rw [List.length_cons, List.cons_append, inner, tryNode_false, survivors_cons,
      scanC_cons]
    cases hd : deactOf x c ν
    · simp only [Bool.false_eq_true, if_false]
      rw [List.append_assoc, ih]
      simp [List.append_assoc]
    · simp only [if_true]
      rw [ih]

theorem numNext_le (x : Inst) (q : Int) (act : List ANode) (k : Nat) : numNext x q act k ≤ k := by
  cases act with
  | nil => simp [numNext]
  | cons first t =>
    unfold numNext
    simp only
    split
    · exact Nat.le_refl _
    · refine Nat.le_trans (List.takeWhile_sublist _).length_le ?_
      rw [List.length_take]
      exact Nat.min_le_left _ _

theorem numNext_pos (x : Inst) (q : Int) (act : List ANode) (k : Nat) (h : act ≠ []) (hk : 0 < k) :
    0 < numNext x q act k := by
  cases act with
  | nil => exact absurd rfl h
  | cons first t =>
    cases k with
    | zero => exact absurd hk (Nat.lt_irrefl _)
    | succ k' =>
      unfold numNext
      simp only
      split
      · exact Nat.succ_pos _
      · rw [List.take_succ_cons, List.takeWhile_cons]
        simp

theorem numNext_append (x : Inst) (q : Int) (todo done : List ANode) :
    numNext x q (todo ++ done) todo.length = numNext x q todo todo.length := by
  cases todo with
  | nil => cases done <;> simp [numNext]
  | cons first t =>
    have h : ((first :: t) ++ done).take (first :: t).length = first :: t := List.take_left' rfl
    unfold numNext
    simp only [List.cons_append]
    rw [← List.cons_append, h, List.take_length]

theorem scan_groupsRun_nil (x : Inst) (q : Int) (c : BCtx) (fuel : Nat) :
    groupsRun x q c fuel [] = [] := by
  cases fuel <;> simp [groupsRun]

theorem outer_eq (x : Inst) (q : Int) (c : BCtx) (fuel : Nat) (todo done : List ANode)
    (h : todo.length ≤ fuel) :
    outer x q false c fuel todo.length (todo ++ done) = done ++ groupsRun x q c fuel todo := by
  induction fuel generalizing todo done with
  | zero =>
    have h0 : todo = [] := List.eq_nil_of_length_eq_zero (Nat.le_zero.mp h)
    subst h0
    simp [outer, groupsRun]
  | succ fuel ih =>
    by_cases h0 : todo = []
    · subst h0
      simp [outer, groupsRun]
    · have hlen : todo.length ≠ 0 := fun hl => h0 (List.eq_nil_of_length_eq_zero hl)
      have hm_le : numNext x q todo todo.length ≤ todo.length := numNext_le x q todo todo.length
      have hm_pos : 0 < numNext x q todo todo.length :=
        numNext_pos x q todo todo.length h0 (Nat.pos_of_ne_zero hlen)
      rw [outer, if_neg hlen, groupsRun, if_neg h0]
      simp only [numNext_append]
      generalize hm : numNext x q todo todo.length = m at hm_le hm_pos
      have hsplit : todo ++ done = todo.take m ++ (todo.drop m ++ done) := by
        rw [← List.append_assoc, List.take_append_drop]
      have htl : (todo.take m).length = m := by
        rw [List.length_take]; exact Nat.min_eq_left hm_le
      have hin := inner_eq x c (todo.take m) (todo.drop m ++ done) Cands.init awfulBad
      rw [htl, ← hsplit] at hin
      rw [hin]
      have hdl : todo.length - m = (todo.drop m).length := by rw [List.length_drop]
      have hfuel : (todo.drop m).length ≤ fuel := by
        rw [List.length_drop]; omega
      simp only
      rw [hdl]
      unfold groupOut
      simp only
      split
      · rw [List.append_assoc, List.append_assoc, ih _ _ hfuel]
        simp only [List.append_assoc]
      · rw [List.append_assoc, ih _ _ hfuel]
        simp only [List.append_assoc, List.append_nil]

theorem outer_eq_groupsRun (x : Inst) (q : Int) (c : BCtx) (A : List ANode) :
    outer x q false c A.length A.length A = groupsRun x q c A.length A := by
  have := outer_eq x q c A.length A [] (Nat.le_refl _)
  simpa using this

theorem offer_apply (s : Cands × Int) (f : Fit) (tot : Int) (line : Nat) (path : List Nat)
    (g : Fit) :
    (offer s f tot line path).1 g =
      if g = f ∧ tot ≤ (s.1 f).total then ⟨tot, line, path⟩ else s.1 g := by
  show (if tot ≤ (s.1 f).total then s.1.set f ⟨tot, line, path⟩ else s.1) g = _
  unfold Cands.set
  by_cases h : g = f ∧ tot ≤ (s.1 f).total
  · rw [if_pos h, if_pos h.2, if_pos h.1]
  · by_cases h1 : tot ≤ (s.1 f).total
    · rw [if_neg h, if_pos h1, if_neg (fun hg => h ⟨hg, h1⟩)]
    · rw [if_neg h, if_neg h1]

theorem offer_total (s : Cands × Int) (f : Fit) (tot : Int) (line : Nat) (path : List Nat)
    (g : Fit) :
    ((offer s f tot line path).1 g).total =
      if g = f ∧ tot ≤ (s.1 f).total then tot else (s.1 g).total := by
  rw [offer_apply]
  split <;> rfl

theorem offer_min (s : Cands × Int) (f : Fit) (tot : Int) (line : Nat) (path : List Nat) :
    (offer s f tot line path).2 = if tot ≤ s.2 then tot else s.2 := rfl

theorem offer_mono (s : Cands × Int) (f : Fit) (tot : Int) (line : Nat) (path : List Nat)
    (g : Fit) :
    ((offer s f tot line path).1 g).total ≤ (s.1 g).total ∧ (offer s f tot line path).2 ≤ s.2 := by
  rw [offer_total, offer_min]
  constructor
  · split
    next h => obtain ⟨rfl, h1⟩ := h; exact h1
    next => exact Int.le_refl _
  · split
    next h => exact h
    next => exact Int.le_refl _

theorem offer_le (s : Cands × Int) (f : Fit) (tot : Int) (line : Nat) (path : List Nat) :
    ((offer s f tot line path).1 f).total ≤ tot ∧ (offer s f tot line path).2 ≤ tot := by
  rw [offer_total, offer_min]
  constructor
  · split
    next => exact Int.le_refl _
    next h => exact Int.le_of_lt (Int.not_le.mp fun h1 => h ⟨rfl, h1⟩)
  · split
    next => exact Int.le_refl _
    next h => exact Int.le_of_lt (Int.not_le.mp h)

theorem minOK_init : MinOK (Cands.init, awfulBad) := by
  refine ⟨fun g => ?_, ⟨Fit.decent, ?_⟩⟩
  · show awfulBad ≤ awfulBad
    exact Int.le_refl _
  · rfl

theorem offer_minOK (s : Cands × Int) (f : Fit) (tot : Int) (line : Nat) (path : List Nat)
    (h : MinOK s) : MinOK (offer s f tot line path) := by
  obtain ⟨hall, g0, hg0⟩ := h
  refine ⟨fun g => ?_, ?_⟩
  · rw [offer_total]
    split
    · exact (offer_le s f tot line path).2
    · exact Int.le_trans (offer_mono s f tot line path g).2 (hall g)
  · by_cases h2 : tot ≤ s.2
    · refine ⟨f, ?_⟩
      rw [offer_total, offer_min, if_pos h2, if_pos ⟨rfl, Int.le_trans h2 (hall f)⟩]
    · refine ⟨g0, ?_⟩
      rw [offer_total, offer_min, if_neg h2, if_neg]
      · exact hg0
      · rintro ⟨rfl, h1⟩
        exact h2 (Int.le_trans h1 (Int.le_of_eq hg0.symm))

/-- What the candidates and the minimum are after the nodes of `G` have been looked at. -/
structure ScanInv (x : Inst) (c : BCtx) (G : List ANode) (s : Cands × Int) : Prop where
  min : MinOK s
  le : ∀ ν, ν ∈ G → allowOf x c ν = true → (s.1 (nodeRate x c ν).2).total ≤ totOf x c ν
  src : ∀ f, (s.1 f).total < awfulBad → CandFrom x c G f (s.1 f)

theorem scanInv_step (x : Inst) (c : BCtx) (P : List ANode) (s : Cands × Int) (ν : ANode)
    (h : ScanInv x c P s) : ScanInv x c (P ++ [ν]) (scanStep x c ν s) := by
  have hsrc : ∀ f, (s.1 f).total < awfulBad → CandFrom x c (P ++ [ν]) f (s.1 f) := fun f hf =>
    let ⟨μ, hμ, h⟩ := h.src f hf
    ⟨μ, List.mem_append_left _ hμ, h⟩
  unfold scanStep
  by_cases ha : allowOf x c ν = true
  · rw [if_pos ha]
    refine ⟨offer_minOK _ _ _ _ _ h.min, List.forall_mem_append.2
      ⟨fun μ hμ hal => Int.le_trans (offer_mono s _ _ _ _ _).1 (h.le μ hμ hal),
        List.forall_mem_singleton.2 fun _ => (offer_le s _ _ _ _).1⟩, fun f => ?_⟩
    rw [offer_apply]
    split
    · rename_i hf
      exact fun _ => ⟨ν, List.mem_append_right _ (List.mem_singleton.2 rfl), ha, hf.1.symm, rfl⟩
    · exact hsrc f
  · rw [if_neg ha]
    exact ⟨h.min, List.forall_mem_append.2
      ⟨h.le, List.forall_mem_singleton.2 fun hal => absurd hal ha⟩, hsrc⟩

theorem scanC_inv (x : Inst) (c : BCtx) (G : List ANode) :
    ScanInv x c G (scanC x c G (Cands.init, awfulBad)) :=
  foldl_prefix (fun s ν => scanStep x c ν s) (ScanInv x c) (scanInv_step x c) G [] _
    ⟨minOK_init, fun _ h => (List.not_mem_nil h).elim, fun _ h => absurd h (Int.lt_irrefl _)⟩

theorem pruneThreshold_eq (adj md : Int) :
    pruneThreshold adj md = min (awfulBad - 1) (md + iabs adj) := by
  unfold pruneThreshold
  split
  · exact (Int.min_eq_left (by omega)).symm
  · exact (Int.min_eq_right (by omega)).symm

theorem pruneThreshold_lt (adj md : Int) : pruneThreshold adj md < awfulBad := by
  rw [pruneThreshold_eq]
  omega

theorem mem_newNodes {c : BCtx} {bw : Totals} {cs : Cands} {thr : Int} {μ : ANode} :
    μ ∈ newNodes c bw cs thr ↔ ∃ f, (cs f).total ≤ thr ∧
      μ = ⟨bw, f, c.hyph, (cs f).line, (cs f).total, c.i :: (cs f).path⟩ := by
  unfold newNodes
  rw [List.mem_filterMap]
  constructor
  · rintro ⟨f, _, hf⟩
    simp only at hf
    split at hf
    · cases hf
    · rename_i h
      exact ⟨f, Int.not_lt.1 h, (Option.some.inj hf).symm⟩
  · rintro ⟨f, hle, rfl⟩
    exact ⟨f, Fit.mem_all f, if_neg (Int.not_lt.2 hle)⟩

end C04
