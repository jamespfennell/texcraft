import TexcraftModel.Model.C05Raw
import TexcraftModel.Util.Assoc

/-! # C05 — the crate's reading of raw lig/kern words agrees with TeX's

The program decoded from the words gives every pair the command `texRule` finds by walking the words
from `lig_kern_base` (`rule_decode`): the op bytes agree by evaluation over the 128 ligature codes
(`form_eq`), the walk over the decoded list and the walk by index by induction (`walk_eq`). `interpG`, the
machine with the rule source as a parameter, is `interp` at `specRule` (`interpG_spec`). -/
namespace C05

/-- The ligature form the crate's `lig_kern_operation_from_bytes` reads from an op byte. -/
def formM (op : Nat) : PostLig :=
  match decodeOp op 0 with
  | .lig _ p => p
  | _ => .neither

/-- The ligature form TeX82 §1040 gives the same op byte. -/
def formS (op : Nat) : PostLig :=
  match texOp [] op 0 with
  | .lig _ p => p
  | _ => .neither

theorem form_eq : ∀ op, op < 128 → formM op = formS op := by decide

theorem decodeOp_lig (op rem : Nat) (h : op < 128) : decodeOp op rem = .lig rem (formM op) := by
  have h' : ¬ (128 ≤ op) := Nat.not_le.mpr h
  simp only [decodeOp, formM, h', if_false]

theorem texOp_lig (kerns : List Int) (op rem : Nat) (h : op < 128) :
    texOp kerns op rem = .lig rem (formS op) := by
  have h' : ¬ (128 ≤ op) := Nat.not_le.mpr h
  simp only [texOp, formS, h', if_false]

theorem resolve_decodeOp (kerns : List Int) (op rem : Nat) :
    resolveOp kerns (decodeOp op rem) = some (texOp kerns op rem) := by
  by_cases h : 128 ≤ op
  · simp [decodeOp, texOp, h, resolveOp, Nat.mul_comm]
  · have h' : op < 128 := Nat.lt_of_not_le h
    rw [decodeOp_lig op rem h', texOp_lig kerns op rem h', form_eq op h']
    rfl

theorem findInstr_skip (r : Nat) : ∀ (s : Nat) (l : List Instr),
    findInstr r s l = findInstr r 0 (l.drop s) := by
  intro s
  induction s with
  | zero => intro l; simp
  | succ s ih =>
    intro l
    cases l with
    | nil => simp [findInstr]
    | cons x t => simp [findInstr, ih]

theorem drop_eq_cons_of_getElem? {α} (l : List α) (k : Nat) (x : α) (h : l[k]? = some x) :
    l.drop k = x :: l.drop (k + 1) := by
  obtain ⟨hk, rfl⟩ := List.getElem?_eq_some_iff.mp h
  exact List.drop_eq_getElem_cons hk

theorem decodeWord_right (w : Word) : (decodeWord w).right = w.next := by
  unfold decodeWord; split <;> rfl

theorem decodeWord_next (w : Word) : (decodeWord w).next = if w.skip < 128 then some w.skip else none := by
  unfold decodeWord
  split
  · rw [if_neg (by omega)]
  · rfl

theorem resolve_decodeWord (kerns : List Int) (w : Word) :
    resolveOp kerns (decodeWord w).op = if w.skip ≤ 128 then some (texOp kerns w.op w.rem) else none := by
  by_cases h : 128 < w.skip
  · simp only [decodeWord, h, if_true, if_neg (show ¬ w.skip ≤ 128 by omega)]
    rfl
  · simp only [decodeWord, h, if_false, if_pos (show w.skip ≤ 128 by omega)]
    exact resolve_decodeOp kerns w.op w.rem

theorem walk_eq (ws : List Word) (kerns : List Int) (r : Nat) :
    ∀ (fuel k : Nat), ws.length < fuel + k →
      (findInstr r 0 ((ws.drop k).map decodeWord)).bind (fun i => resolveOp kerns i.op)
        = (texWalk ws r fuel k).map (fun w => texOp kerns w.op w.rem) := by
  intro fuel
  induction fuel with
  | zero =>
    intro k hk
    rw [List.drop_eq_nil_of_le (by omega)]
    rfl
  | succ fuel ih =>
    intro k hk
    cases hw : ws[k]? with
    | none =>
      rw [List.drop_eq_nil_of_le (List.getElem?_eq_none_iff.mp hw)]
      simp only [texWalk, hw]
      rfl
    | some w =>
      rw [drop_eq_cons_of_getElem? ws k w hw]
      simp only [List.map_cons, findInstr, texWalk, hw, decodeWord_right, decodeWord_next]
      by_cases hr : w.next = r
      · simp only [hr, if_true, Option.bind_some, resolve_decodeWord]
        split <;> rfl
      · simp only [hr, if_false]
        by_cases hs : w.skip < 128
        · -- the list walk skips `w.skip` words of the rest, the index walk goes to `k + w.skip + 1`
          simp only [hs, if_true]
          rw [findInstr_skip, ← List.map_drop, List.drop_drop,
            show k + 1 + w.skip = k + w.skip + 1 by omega]
          exact ih (k + w.skip + 1) (by omega)
        · simp only [hs, if_false]
          rfl

/-- A pass over the values that may drop entries, in the `find?` spelling of `entryOf`. -/
theorem find?_filterMap_keys (l : List (Nat × Nat)) (g : Nat → Option Nat) (c : Nat)
    (hnd : (l.map Prod.fst).Nodup) :
    ((l.filterMap (fun t => (g t.2).map (fun u => (t.1, u)))).find? (fun x => decide (x.1 = c))).map Prod.snd
      = (l.find? (fun x => decide (x.1 = c))).bind (fun t => g t.2) := by
  rw [Assoc.find?_fst_map_snd, Assoc.lookup_filterMap_snd g hnd, ← Assoc.find?_fst_map_snd, Option.bind_map]
  rfl

theorem entryOf_decode (f : RawFont) (hnd : (f.tags.map Prod.fst).Nodup) (l : Option Nat) :
    entryOf (decodeFont f) l = texStart f l := by
  cases l with
  | none => rfl
  | some c =>
    simp only [entryOf, decodeFont, texStart]
    rw [find?_filterMap_keys f.tags (unpackEntry f.words) c hnd]
    cases hf : f.tags.find? (fun x => decide (x.1 = c)) with
    | none => rfl
    | some t =>
      simp only [Option.bind_some, unpackEntry]

theorem rule_decode (f : RawFont) (hnd : (f.tags.map Prod.fst).Nodup) (l : Option Nat) (r : Nat) :
    rule (decodeFont f) l r = texRule f l r := by
  simp only [rule, rawRule, texRule, entryOf_decode f hnd l]
  cases texStart f l with
  | none => rfl
  | some k =>
    have := walk_eq f.words f.kerns r (f.words.length + 1) k (by omega)
    simp only []
    rw [← this, findInstr_skip]
    simp [decodeFont, List.map_drop]

theorem interpG_spec (p : Program) : ∀ (fuel : Nat) (s : List El),
    interpG (specRule p) p.rb fuel s = interp p fuel s := by
  intro fuel
  induction fuel with
  | zero => intro s; rfl
  | succ n ih =>
    intro s
    match s with
    | [] => rfl
    | [x] => rfl
    | x :: y :: tail =>
      cases x with
      | rb => rfl
      | _ => simp only [interpG, interp, ih]; rfl

end C05
