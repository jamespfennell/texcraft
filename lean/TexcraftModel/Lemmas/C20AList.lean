import TexcraftModel.Model.C20
import TexcraftModel.Util.Assoc

/-!
# C20 — laws of the association lists that model `HashMap`

`alookup` after `aerase` / `ainsert`, membership against lookup, and distinctness of keys
(`NodupKeys`). Everything else in C20 reasons about the lists through these. `alookup` is core's
`List.lookup` and `aerase` a `filter` on the keys (`alookup_eq`, `aerase_eq`), so the laws are those of
`Util/Assoc.lean`.
-/
namespace C20
variable {K : Type} [DecidableEq K]

theorem alookup_cons {W : Type} (a : K) (w : W) (t : AList K W) (k : K) :
    alookup ((a, w) :: t) k = if a = k then some w else alookup t k := rfl

theorem alookup_eq {W : Type} (l : AList K W) (k : K) : alookup l k = l.lookup k :=
  Assoc.lookup_unique _ (fun _ => rfl) (fun _ _ _ _ => rfl) l k

theorem aerase_eq {W : Type} (k : K) (l : AList K W) : aerase k l = l.filter (fun e => e.1 != k) := by
  induction l with
  | nil => rfl
  | cons p t ih =>
    obtain ⟨a, w⟩ := p
    by_cases h : a = k <;> simp [aerase, h, ih]

theorem alookup_aerase {W : Type} (k : K) (l : AList K W) (k' : K) :
    alookup (aerase k l) k' = if k = k' then none else alookup l k' := by
  rw [alookup_eq, alookup_eq, aerase_eq, Assoc.lookup_filter_key (· != k)]
  by_cases h : k = k'
  · subst h; simp
  · simp [h, Ne.symm h]

theorem alookup_ainsert {W : Type} (k : K) (v : W) (l : AList K W) (k' : K) :
    alookup (ainsert k v l) k' = if k = k' then some v else alookup l k' := by
  simp only [ainsert, alookup, alookup_aerase]
  by_cases h : k = k' <;> simp [h]

theorem isSome_alookup_ainsert {W : Type} {l : AList K W} {k' : K} (k : K) (w : W)
    (h : (alookup l k').isSome) : (alookup (ainsert k w l) k').isSome := by
  rw [alookup_ainsert]; by_cases hk : k = k' <;> simp [hk, h]

theorem alookup_none_iff {W : Type} (l : AList K W) (k : K) :
    alookup l k = none ↔ k ∉ l.map (·.1) := by
  rw [alookup_eq]; exact Assoc.lookup_eq_none_iff_not_mem_keys

theorem aerase_of_alookup_none {W : Type} (l : AList K W) (k : K) (h : alookup l k = none) :
    aerase k l = l := by
  rw [aerase_eq, List.filter_eq_self]
  intro p hp
  exact bne_iff_ne.2 fun e => (alookup_none_iff l k).1 h (List.mem_map.2 ⟨p, hp, e⟩)

theorem mem_of_alookup_eq_some {W : Type} (l : AList K W) (k : K) (v : W)
    (h : alookup l k = some v) : (k, v) ∈ l :=
  Assoc.mem_of_lookup_eq_some (alookup_eq l k ▸ h)

/-- Each key at most once: what `HashMap` guarantees and `ainsert` / `aerase` keep. -/
def NodupKeys {W : Type} (l : AList K W) : Prop := (l.map (·.1)).Nodup

omit [DecidableEq K] in
theorem nodupKeys_nil {W : Type} : NodupKeys ([] : AList K W) := List.nodup_nil

theorem nodupKeys_cons {W : Type} (a : K) (w : W) (t : AList K W) :
    NodupKeys ((a, w) :: t) ↔ alookup t a = none ∧ NodupKeys t := by
  simp only [NodupKeys, List.map_cons, List.nodup_cons, alookup_none_iff]

theorem nodupKeys_aerase {W : Type} (k : K) (l : AList K W) (h : NodupKeys l) :
    NodupKeys (aerase k l) := by
  rw [aerase_eq]; exact List.Nodup.sublist (List.filter_sublist.map _) h

theorem nodupKeys_ainsert {W : Type} (k : K) (w : W) (l : AList K W) (h : NodupKeys l) :
    NodupKeys (ainsert k w l) := by
  rw [ainsert, nodupKeys_cons, alookup_aerase, if_pos rfl]
  exact ⟨rfl, nodupKeys_aerase k l h⟩

theorem mem_iff_alookup {W : Type} (l : AList K W) (h : NodupKeys l) (k : K) (v : W) :
    (k, v) ∈ l ↔ alookup l k = some v := by
  rw [alookup_eq]; exact (Assoc.lookup_eq_some_iff_mem h).symm

end C20
