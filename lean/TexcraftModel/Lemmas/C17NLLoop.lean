import TexcraftModel.Lemmas.C17NLBasic
/-! The work-list loop of `NextLargerProgram::new` (C17). Its invariant has two parts: `Kahn`, the
invariant of Kahn's topological sort for the current map, which mentions neither the cuts nor the
input map; and `Cuts`, what the loop records about the links it has removed (`G0` is the kept-edge
map after the first loop). When the run ends the map is the cut graph, the warnings are the cuts in
ascending order, and `sorted_chars` is a topological order of all nodes. -/
namespace C17

/-- The nodes whose link has been cut so far (the sources of the `InfiniteLoop` warnings). -/
def cutsOf (σ : WL) : List Nat := σ.loops.map Prod.fst

theorem mem_cutsOf {σ : WL} {y : Nat} : y ∈ cutsOf σ ↔ ∃ l, (y, l) ∈ σ.loops := by
  simp [cutsOf]

/-- The invariant of Kahn's algorithm for the current map on the node set `N`: `sorted` holds the
popped nodes, `leaves` the stack, `nonLeaves` the nodes that wait for an in-edge to be released. -/
structure Kahn (N : Nat → Prop) (σ : WL) : Prop where
  gfun : Functional σ.g
  nodes : ∀ y x, nxt σ.g y = some x → N y ∧ N x
  part : (σ.sorted ++ (σ.leaves ++ σ.nonLeaves)).Nodup
  cover : ∀ x, N x ↔ x ∈ σ.sorted ++ (σ.leaves ++ σ.nonLeaves)
  cntOK : ∀ x ∈ σ.nonLeaves, cntGet σ.cnt x = some (pend σ.g σ.sorted x).length
  nlPos : ∀ x ∈ σ.nonLeaves, pend σ.g σ.sorted x ≠ []
  lvOK : ∀ x ∈ σ.leaves, pend σ.g σ.sorted x = []
  topo : Topo (nxt σ.g) σ.sorted

/-- What the loop records about cuts: the map is the input map `G0` without the cut links, and
every cut is at a node `isCut` marks. -/
structure Cuts (G0 : List (Nat × Nat)) (σ : WL) : Prop where
  graph : ∀ y, nxt σ.g y = if y ∈ cutsOf σ then none else nxt G0 y
  cutOK : ∀ e ∈ σ.loops, isCut G0 e.1 = true ∧ nxt G0 e.1 = some e.2
  /-- The list `loops` has the latest cut first, so it ascends where the Rust vector, in push order,
  descends: every cut is smaller than the cuts before it and (`bound`) at least as large as every
  node still waiting. -/
  desc : σ.loops.Pairwise (fun a b => a.1 < b.1)
  bound : ∀ e ∈ σ.loops, ∀ x ∈ σ.nonLeaves, x ≤ e.1

/-- Termination measure: a pop or a cut lowers it. -/
def meas (σ : WL) : Nat := 2 * σ.nonLeaves.length + σ.leaves.length

section
variable {N : Nat → Prop} {G0 : List (Nat × Nat)} {σ : WL}

theorem Kahn.ndS (hK : Kahn N σ) : σ.sorted.Nodup := (List.nodup_append.1 hK.part).1

theorem Kahn.ndN (hK : Kahn N σ) : σ.nonLeaves.Nodup :=
  (List.nodup_append.1 (List.nodup_append.1 hK.part).2.1).2.1

theorem Kahn.node_iff (hK : Kahn N σ) (x : Nat) :
    N x ↔ x ∈ σ.sorted ∨ x ∈ σ.leaves ∨ x ∈ σ.nonLeaves := by
  rw [hK.cover, List.mem_append, List.mem_append]

theorem Cuts.sub (hC : Cuts G0 σ) (y x : Nat) (h : nxt σ.g y = some x) : nxt G0 y = some x := by
  have := hC.graph y
  rw [h] at this
  split at this
  · cases this
  · exact this.symm

theorem Cuts.pop (hC : Cuts G0 σ) (cnt' : List (Nat × Nat)) (lv' nl' sorted' : List Nat)
    (hsub : ∀ x ∈ nl', x ∈ σ.nonLeaves) :
    Cuts G0 { σ with cnt := cnt', leaves := lv', nonLeaves := nl', sorted := sorted' } :=
  { graph := hC.graph, cutOK := hC.cutOK, desc := hC.desc,
    bound := fun e he x hx => hC.bound e he x (hsub x hx) }

/-- One statement for the three pop branches of `wlRun`: `lv'` and `nl'` are any redistribution of the
rest of the stack and the waiting nodes that agrees with their pending in-edges after the pop. -/
theorem Kahn.pop (hK : Kahn N σ) (s : Nat) (rest : List Nat) (hl : σ.leaves = s :: rest)
    (cnt' : List (Nat × Nat)) (lv' nl' : List Nat) (hp : (lv' ++ nl').Perm (rest ++ σ.nonLeaves))
    (hnl : ∀ x ∈ nl', cntGet cnt' x = some (pend σ.g (s :: σ.sorted) x).length ∧
      pend σ.g (s :: σ.sorted) x ≠ [])
    (hlv : ∀ x ∈ lv', pend σ.g (s :: σ.sorted) x = []) :
    Kahn N { σ with cnt := cnt', leaves := lv', nonLeaves := nl', sorted := s :: σ.sorted } := by
  have hp' : (s :: σ.sorted ++ (lv' ++ nl')).Perm (σ.sorted ++ (σ.leaves ++ σ.nonLeaves)) := by
    rw [hl]; exact ((hp.append_left σ.sorted).cons s).trans List.perm_middle.symm
  refine
    { gfun := hK.gfun, nodes := hK.nodes, part := hp'.nodup_iff.2 hK.part,
      cover := fun x => (hK.cover x).trans hp'.mem_iff.symm,
      cntOK := fun x hx => (hnl x hx).1, nlPos := fun x hx => (hnl x hx).2, lvOK := hlv,
      topo := ⟨?_, hK.topo⟩ }
  -- the links into `s` start at popped nodes: `s` has no pending in-edge
  intro y hy
  apply Classical.byContradiction
  intro hns
  exact List.ne_nil_of_mem (mem_pend.2 ⟨mem_of_nxt σ.g y s hy, rfl, hns⟩)
    (hK.lvOK s (by rw [hl]; simp))

theorem Kahn.waits (hK : Kahn N σ) (s x : Nat) (hx : x ∈ σ.nonLeaves) (h : nxt σ.g s ≠ some x) :
    cntGet σ.cnt x = some (pend σ.g (s :: σ.sorted) x).length ∧ pend σ.g (s :: σ.sorted) x ≠ [] := by
  rw [pend_pop σ.g hK.gfun,
    List.erase_of_not_mem fun hm => h (nxt_of_mem σ.g hK.gfun s x (mem_pend.1 hm).1)]
  exact ⟨hK.cntOK x hx, hK.nlPos x hx⟩

theorem Kahn.rest_ok (hK : Kahn N σ) (s : Nat) (rest : List Nat) (hl : σ.leaves = s :: rest) :
    ∀ x ∈ rest, pend σ.g (s :: σ.sorted) x = [] := fun x hx => by
  rw [pend_pop σ.g hK.gfun, hK.lvOK x (by rw [hl]; exact List.mem_cons_of_mem _ hx)]
  rfl

theorem Kahn.pop_some (hK : Kahn N σ) (s : Nat) (rest : List Nat) (hl : σ.leaves = s :: rest)
    (l : Nat) (hn : nxt σ.g s = some l) :
    l ∈ σ.nonLeaves ∧ cntGet σ.cnt l = some ((pend σ.g (s :: σ.sorted) l).length + 1) := by
  have h1 : s ∉ σ.sorted := fun h =>
    (List.nodup_append.1 hK.part).2.2 s h s (by rw [hl]; simp) rfl
  have hpm : (s, l) ∈ pend σ.g σ.sorted l := mem_pend.2 ⟨mem_of_nxt σ.g s l hn, rfl, h1⟩
  have hln : l ∈ σ.nonLeaves := by
    rcases (hK.node_iff l).1 (hK.nodes s l hn).2 with h | h | h
    · -- `l` popped: then its predecessor `s` was popped before it
      obtain ⟨pre, t, e⟩ := List.append_of_mem h
      have hT := hK.topo
      rw [e] at hT h1
      exact absurd (List.mem_append_right pre (List.mem_cons_of_mem l (hT.mid s hn))) h1
    · exact absurd (hK.lvOK l h) (List.ne_nil_of_mem hpm)
    · exact h
  refine ⟨hln, ?_⟩
  rw [hK.cntOK l hln, pend_pop σ.g hK.gfun, List.length_erase_of_mem hpm,
    Nat.sub_add_cancel (List.length_pos_of_mem hpm)]

theorem pop_step (hK : Kahn N σ) (hC : Cuts G0 σ) (s : Nat) (rest : List Nat)
    (hl : σ.leaves = s :: rest) :
    ∃ σ', (∀ n, wlRun (n + 1) σ = wlRun n σ') ∧ Kahn N σ' ∧ Cuts G0 σ' ∧ meas σ' < meas σ := by
  have hm : meas σ = 2 * σ.nonLeaves.length + (rest.length + 1) := by rw [meas, hl]; rfl
  cases hn : nxt σ.g s with
  | none =>
    exact ⟨_, fun n => by simp only [wlRun, hl, hn],
      hK.pop s rest hl σ.cnt rest σ.nonLeaves (List.Perm.refl _)
        (fun x hx => hK.waits s x hx (by rw [hn]; exact nofun)) (hK.rest_ok s rest hl),
      hC.pop _ _ _ _ fun _ h => h, by rw [hm]; exact Nat.lt_succ_self _⟩
  | some l =>
    obtain ⟨hln, hcnt⟩ := hK.pop_some s rest hl l hn
    have hkeep : ∀ x ∈ σ.nonLeaves, x ≠ l → ∀ k,
        cntGet (cntSet σ.cnt l k) x = some (pend σ.g (s :: σ.sorted) x).length ∧
          pend σ.g (s :: σ.sorted) x ≠ [] := fun x hx hxl k => by
      rw [cntGet_set, if_neg hxl]
      exact hK.waits s x hx (by rw [hn]; exact fun h => hxl (Option.some.inj h).symm)
    -- the counter of `l` is one more than what is pending after the pop (`hcnt`): the test `k = 0`
    -- of `wlRun` is the split on that length; the next state is read off the type of `Kahn.pop`
    cases hk : (pend σ.g (s :: σ.sorted) l).length with
    | zero =>
      rw [hk] at hcnt
      have hlen := length_filter_ne σ.nonLeaves hK.ndN l hln
      refine ⟨_, fun n => by simp only [wlRun, hl, hn, hcnt]; rfl,
        hK.pop s rest hl _ (l :: rest) _ ?_ (fun x hx => ?_) (fun x hx => ?_),
        hC.pop _ _ _ _ fun x hx => ((mem_filter_ne _ _ _).1 hx).1, ?_⟩
      · exact (((filter_ne_perm _ hK.ndN l hln).symm.append_left rest).trans List.perm_middle).symm
      · obtain ⟨hx, hxl⟩ := (mem_filter_ne _ _ _).1 hx
        exact hkeep x hx hxl 0
      · rcases List.mem_cons.1 hx with rfl | hx
        · exact List.eq_nil_of_length_eq_zero hk
        · exact hK.rest_ok s rest hl x hx
      · rw [hm, meas]
        simp only [List.length_cons]
        omega
    | succ k =>
      rw [hk] at hcnt
      refine ⟨_, fun n => by simp only [wlRun, hl, hn, hcnt]; rfl,
        hK.pop s rest hl _ rest σ.nonLeaves (List.Perm.refl _) (fun x hx => ?_)
          (hK.rest_ok s rest hl),
        hC.pop _ _ _ _ fun _ h => h, by rw [hm]; exact Nat.lt_succ_self _⟩
      by_cases hxl : x = l
      · subst hxl
        rw [cntGet_set, if_pos rfl, hcnt, hk]
        exact ⟨rfl, List.ne_nil_of_length_eq_add_one hk⟩
      · exact hkeep x hx hxl _

theorem Kahn.cut (hK : Kahn N σ) (hl : σ.leaves = []) (s l : Nat) (hsl : nxt σ.g s = some l)
    (hln : l ∈ σ.nonLeaves) (hone : ∀ y, nxt σ.g y = some l → y ∉ σ.sorted → y = s) :
    Kahn N { σ with g := σ.g.filter (fun e => e.1 != s), loops := (s, l) :: σ.loops, leaves := [l],
                    nonLeaves := σ.nonLeaves.filter (· != l) } := by
  have hp : (σ.sorted ++ ([l] ++ σ.nonLeaves.filter (· != l))).Perm
      (σ.sorted ++ (σ.leaves ++ σ.nonLeaves)) := by
    rw [hl]; exact (filter_ne_perm _ hK.ndN l hln).append_left σ.sorted
  have hother : ∀ x ∈ σ.nonLeaves.filter (· != l),
      cntGet σ.cnt x = some (pend (σ.g.filter (fun e => e.1 != s)) σ.sorted x).length ∧
        pend (σ.g.filter (fun e => e.1 != s)) σ.sorted x ≠ [] := by
    intro x hx
    obtain ⟨hx, hxl⟩ := (mem_filter_ne _ _ _).1 hx
    rw [pend_cut]
    exact hK.waits s x hx (by rw [hsl]; exact fun h => hxl (Option.some.inj h).symm)
  have hfilt : ∀ y x, nxt (σ.g.filter (fun e => e.1 != s)) y = some x → nxt σ.g y = some x :=
    fun y x h => nxt_of_mem σ.g hK.gfun y x (List.mem_filter.1 (mem_of_nxt _ y x h)).1
  refine
    { gfun := List.Nodup.sublist (List.Sublist.map Prod.fst List.filter_sublist) hK.gfun,
      nodes := fun y x h => hK.nodes y x (hfilt y x h),
      part := hp.nodup_iff.2 hK.part, cover := fun x => (hK.cover x).trans hp.mem_iff.symm,
      cntOK := fun x hx => (hother x hx).1, nlPos := fun x hx => (hother x hx).2,
      lvOK := ?_, topo := hK.topo.mono hfilt }
  intro x hx
  rw [List.mem_singleton.1 hx, pend_cut]
  refine List.eq_nil_iff_forall_not_mem.2 fun e he => ?_
  obtain ⟨heG, hex, hns⟩ := mem_pend.1 he
  rw [List.mem_cons, not_or] at hns
  exact hns.1 (hone e.1 (by rw [← hex]; exact nxt_of_mem σ.g hK.gfun e.1 e.2 heG) hns.2)

theorem Cuts.cut (hC : Cuts G0 σ) (s l : Nat) (hsl : nxt σ.g s = some l) (hcut : isCut G0 s = true)
    (hs : s ∈ σ.nonLeaves) (hmax : ∀ x ∈ σ.nonLeaves, x ≤ s) :
    Cuts G0 { σ with g := σ.g.filter (fun e => e.1 != s), loops := (s, l) :: σ.loops, leaves := [l],
                     nonLeaves := σ.nonLeaves.filter (· != l) } := by
  refine { graph := ?_, cutOK := ?_, desc := List.pairwise_cons.2 ⟨?_, hC.desc⟩, bound := ?_ }
  · intro y
    show nxt (σ.g.filter (fun e => e.1 != s)) y = if y ∈ s :: cutsOf σ then none else nxt G0 y
    rw [nxt_filter_ne, hC.graph y]
    by_cases hys : y = s <;> simp [hys]
  · intro e he
    rcases List.mem_cons.1 he with rfl | he
    · exact ⟨hcut, hC.sub s l hsl⟩
    · exact hC.cutOK e he
  · -- an earlier cut is at least as large as the waiting `s`, and is not `s`, which still has a link
    intro e he
    have h1 := hC.bound e he s hs
    have h2 : s ≠ e.1 := fun h => by
      have := hC.graph s
      rw [hsl, if_pos (h ▸ mem_cutsOf.2 ⟨e.2, he⟩)] at this
      cases this
    show s < e.1
    omega
  · intro e he x hx
    have hx' := ((mem_filter_ne _ _ _).1 hx).1
    rcases List.mem_cons.1 he with rfl | he
    · exact hmax x hx'
    · exact hC.bound e he x hx'

theorem cut_step (hK : Kahn N σ) (hC : Cuts G0 σ)
    (hl : σ.leaves = []) (s : Nat) (hm : maxOf σ.nonLeaves = some s) :
    ∃ σ', (∀ n, wlRun (n + 1) σ = wlRun n σ') ∧ Kahn N σ' ∧ Cuts G0 σ' ∧ meas σ' < meas σ := by
  obtain ⟨hs, hmax⟩ := maxOf_some σ.nonLeaves s hm
  have hwait : ∀ y x, nxt σ.g y = some x → y ∉ σ.sorted → y ∈ σ.nonLeaves := by
    intro y x h hns
    rcases (hK.node_iff y).1 (hK.nodes y x h).1 with h | h | h
    · exact absurd h hns
    · rw [hl] at h; cases h
    · exact h
  have hpred : ∀ x ∈ σ.nonLeaves, ∃ y ∈ σ.nonLeaves, nxt σ.g y = some x := by
    intro x hx
    obtain ⟨e, he⟩ := List.exists_mem_of_ne_nil _ (hK.nlPos x hx)
    obtain ⟨heG, hex, hns⟩ := mem_pend.1 he
    have hn : nxt σ.g e.1 = some x := by rw [← hex]; exact nxt_of_mem σ.g hK.gfun e.1 e.2 heG
    exact ⟨e.1, hwait e.1 x hn hns, hn⟩
  -- every waiting node waits for a waiting node: the links permute the waiting nodes
  obtain ⟨hclosed, hinj, hper⟩ := stuck (nxt σ.g) σ.nonLeaves hK.ndN hpred
  obtain ⟨l, hln, hsl⟩ := hclosed s hs
  -- the cycle of `s` among the waiting nodes is a cycle of `G0`, and `s` is its largest node
  have hcut : isCut G0 s = true := by
    obtain ⟨p, hp1, hp2, hp3⟩ := hper s hs
    have hlen : σ.nonLeaves.length ≤ G0.length := by
      have := hK.ndN.length_le_of_subset (l₂ := G0.map Prod.fst) fun y hy => by
        obtain ⟨x, _, e⟩ := hclosed y hy
        exact nxt_mem_keys G0 y x (hC.sub y x e)
      simpa using this
    refine (isCut_iff G0 s).2 ⟨p, hp1, by omega, it_mono hC.sub hp3, fun m y _ hy => ?_⟩
    obtain ⟨y', hy', e⟩ := it_mem_of_closed _ _ hclosed s hs m
    rw [it_mono hC.sub e] at hy
    cases hy
    exact hmax y hy'
  refine ⟨_, fun n => by simp only [wlRun, hl, hm, hsl],
    hK.cut hl s l hsl hln fun y hy hns => hinj y (hwait y l hy hns) s hs (by rw [hy, hsl]),
    hC.cut s l hsl hcut hs hmax, ?_⟩
  have hlen := length_filter_ne σ.nonLeaves hK.ndN l hln
  simp only [meas, hl, List.length_cons, List.length_nil]
  omega

end

theorem wl_run {N : Nat → Prop} {G0 : List (Nat × Nat)} : ∀ (n : Nat) (σ : WL),
    Kahn N σ → Cuts G0 σ → meas σ < n →
    ∃ σ', wlRun n σ = .ok σ' ∧ Kahn N σ' ∧ Cuts G0 σ' ∧ σ'.leaves = [] ∧ σ'.nonLeaves = [] := by
  intro n
  induction n with
  | zero => intro σ _ _ h; cases h
  | succ n ih =>
    intro σ hK hC hm
    cases hl : σ.leaves with
    | cons s rest =>
      obtain ⟨σ', e, hK', hC', hlt⟩ := pop_step hK hC s rest hl
      rw [e]; exact ih σ' hK' hC' (by omega)
    | nil =>
      cases hmx : maxOf σ.nonLeaves with
      | none => exact ⟨σ, by simp only [wlRun, hl, hmx], hK, hC, hl, maxOf_none _ hmx⟩
      | some s =>
        obtain ⟨σ', e, hK', hC', hlt⟩ := cut_step hK hC hl s hmx
        rw [e]; exact ih σ' hK' hC' (by omega)

theorem nxt_map_self (l : List Nat) (f : Nat → Nat) (x : Nat) (hx : x ∈ l) :
    nxt (l.map (fun c => (c, f c))) x = some (f x) := by
  rw [nxt_eq]; exact Assoc.lookup_map_graph id f (fun _ _ h => h) hx

theorem pend_init (G0 : List (Nat × Nat)) (x : Nat) : (pend G0 [] x).length = countIn G0 x := by
  unfold pend countIn
  congr 1
  apply List.filter_congr
  intro e _
  by_cases h : e.2 = x <;> simp [h]

theorem inv_init (G0 : List (Nat × Nat)) (hF : Functional G0) (order : List Nat) (hnd : order.Nodup)
    (hmem : ∀ x, x ∈ order ↔ IsNode G0 x) :
    Kahn (IsNode G0) (wlInit G0 order) ∧ Cuts G0 (wlInit G0 order) ∧
      meas (wlInit G0 order) < 2 * order.length + 2 := by
  have hp : ((order.filter (fun c => countIn G0 c == 0)).reverse ++
      order.filter (fun c => countIn G0 c != 0)).Perm order :=
    ((List.reverse_perm _).append_right _).trans (List.filter_append_perm _ order)
  refine ⟨?_, ?_, ?_⟩
  · refine
      { gfun := hF, nodes := isNode_of_nxt G0, part := hp.nodup_iff.2 hnd,
        cover := fun x => (hmem x).symm.trans hp.mem_iff.symm, cntOK := ?_, nlPos := ?_, lvOK := ?_,
        topo := ?_ }
    · intro x hx
      show cntGet (order.map (fun c => (c, countIn G0 c))) x = some (pend G0 [] x).length
      rw [pend_init]
      exact nxt_map_self order (countIn G0) x (List.mem_filter.1 hx).1
    · intro x hx h
      have h2 := (List.mem_filter.1 hx).2
      rw [← pend_init, show pend G0 [] x = [] from h] at h2
      simp at h2
    · intro x hx
      simp only [wlInit, List.mem_reverse, List.mem_filter, beq_iff_eq] at hx
      exact List.eq_nil_of_length_eq_zero ((pend_init G0 x).trans hx.2)
    · trivial
  · -- `loops` is empty
    exact { graph := fun y => by simp [wlInit, mem_cutsOf], cutOK := nofun, desc := .nil,
            bound := nofun }
  · have e : (wlInit G0 order).leaves.length + (wlInit G0 order).nonLeaves.length = order.length := by
      rw [← hp.length_eq, List.length_append]; rfl
    rw [meas]
    omega

section
variable {N : Nat → Prop} {G0 : List (Nat × Nat)} {σ : WL}

theorem final_sorted (hK : Kahn N σ) (hl : σ.leaves = []) (hn : σ.nonLeaves = []) (x : Nat)
    (hx : N x) : x ∈ σ.sorted := by
  rcases (hK.node_iff x).1 hx with h | h | h
  · exact h
  · rw [hl] at h; simp at h
  · rw [hn] at h; simp at h

theorem cut_complete (hK : Kahn (IsNode G0) σ) (hC : Cuts G0 σ) (hl : σ.leaves = [])
    (hn : σ.nonLeaves = []) (y : Nat) (hy : isCut G0 y = true) : y ∈ cutsOf σ := by
  obtain ⟨p, p1, _, p2, p3⟩ := (isCut_iff G0 y).1 hy
  apply Classical.byContradiction
  intro hyc
  by_cases hall : ∀ m z, m < p → it (nxt G0) m y = some z → z ∉ cutsOf σ
  · -- the whole cycle is still in the map: impossible in a topological order
    have hnode : IsNode G0 y := by
      obtain ⟨d, hd⟩ := it_prefix _ p2 p1
      exact (isNode_of_nxt G0 y d (by simpa [it] using hd)).1
    refine hK.topo.no_cycle hK.ndS y (final_sorted hK hl hn y hnode) (p - 1) ?_
    rw [Nat.sub_add_cancel p1, it_agree (nxt G0) _ y p fun k z hk hz => by
      rw [hC.graph z, if_neg (hall k z hk hz)]]
    exact p2
  · -- a cut node `z` on the cycle of `y` is the largest node of that cycle, like `y`
    apply hall
    intro m z hm hz hzc
    obtain ⟨l, hc⟩ := mem_cutsOf.1 hzc
    have hzcut : isCut G0 z = true := (hC.cutOK _ hc).1
    have h1 : z ≤ y := p3 m z hm hz
    rw [← Nat.add_sub_cancel' (Nat.le_of_lt hm), it_add, hz] at p2
    simp only [Option.bind_some] at p2
    have h2 : y ≤ z := isCut_all_le G0 z hzcut (p - m) y p2
    have : z = y := by omega
    exact hyc (this ▸ hzc)

theorem final_graph (hK : Kahn (IsNode G0) σ) (hC : Cuts G0 σ) (hl : σ.leaves = [])
    (hn : σ.nonLeaves = []) (y : Nat) : nxt σ.g y = cutNxt G0 y := by
  rw [hC.graph y]
  by_cases hc : y ∈ cutsOf σ
  · obtain ⟨l, hcm⟩ := mem_cutsOf.1 hc
    rw [if_pos hc, cutNxt_cut (hC.cutOK _ hcm).1]
  · rw [if_neg hc, cutNxt_keep fun hcut => hc (cut_complete hK hC hl hn y hcut)]

end

theorem final_loops {G0 : List (Nat × Nat)} {σ : WL} (hK : Kahn (IsNode G0) σ) (hC : Cuts G0 σ)
    (hl : σ.leaves = []) (hn : σ.nonLeaves = []) (hlab : ∀ x, IsNode G0 x → x < 256) :
    σ.loops = nlLoops G0 255 := by
  apply Assoc.pairwise_ext (fun a b (h : a.1 < b.1) (h' : b.1 < a.1) => Nat.lt_asymm h h') hC.desc
    (nlLoops_sorted G0 255)
  intro e
  rw [mem_nlLoops]
  constructor
  · intro he
    obtain ⟨h1, h2⟩ := hC.cutOK e he
    exact ⟨Nat.le_of_lt_succ (hlab _ (isNode_of_nxt G0 e.1 e.2 h2).1), h1, h2⟩
  · rintro ⟨_, h2, h3⟩
    obtain ⟨l, hc⟩ := mem_cutsOf.1 (cut_complete hK hC hl hn e.1 h2)
    have := (hC.cutOK _ hc).2
    rw [h3] at this
    cases this
    exact hc

end C17
