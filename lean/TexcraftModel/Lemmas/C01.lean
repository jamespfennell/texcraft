import TexcraftModel.Model.C01
import TexcraftModel.Lemmas.C20GMap

/-!
# C01 — the VM model refines the stack of environments

`setVar_eq` and `hook_eq` bring the transcribed Rust (`TypedVariable::set` with `update_save_stack`,
the `\global` flag protocol) to `C20.GMap.insert` and TeX's scope rule. The simulation relation `R`
says (`R_iff`) that each scoped container implements (`C20.GImpl`) the projection `Spec.snap` of the
specification's stack of environments to its component; a step of the specification is a step of
every projection, so `R` is preserved by C20's refinement theorem, three times. Whole programs:
every interpreter of `Model/C01.lean` is the same fold `runWith`.
-/
namespace C01
open C20
open C20.Snap (fupd)

theorem purgeLoop_getElem? (v : Var) (n : Nat) :
    ∀ (k : Nat) (s : List (AList Var (Action Val))), k ≤ n → ∀ j,
      (purgeLoop true v n k s)[j]? = if j < k then (s[j]?).map (aerase v) else s[j]? := by
  intro k
  induction k with
  | zero => intro s _ j; rfl
  | succ k ih =>
    intro s hk j
    -- iteration `k + 1` purges list position `k`
    have hidx : n - 1 - (n - (k + 1)) = k := by omega
    rw [purgeLoop, if_pos rfl, hidx, ih _ (Nat.le_of_succ_le hk) j, List.getElem?_modify]
    rcases Nat.lt_trichotomy j k with h | rfl | h
    · simp only [if_pos h, if_pos (Nat.lt_succ_of_lt h), Nat.ne_of_gt h, if_false, id_map']
    · simp only [Nat.lt_irrefl, Nat.lt_succ_self, if_true, if_false]; rfl
    · simp only [Nat.lt_asymm h, Nat.not_lt_of_ge (Nat.succ_le_of_lt h), Nat.ne_of_lt h, if_false, id_map']

/-- After C01-a the loop removes the variable from every open group. -/
theorem purgeLoop_eq_map (v : Var) (s : List (AList Var (Action Val))) :
    purgeLoop true v s.length s.length s = s.map (aerase v) := by
  apply List.ext_getElem?
  intro j
  rw [purgeLoop_getElem? v s.length s.length s (Nat.le_refl _) j, List.getElem?_map]
  by_cases h : j < s.length
  · simp [h]
  · simp [h]

/-- The variables and their save stack, viewed as C20's scoped map. -/
def varsG (m : VMState) : GMap Var Val := { bc := m.vars, groups := m.save }

theorem aerase_of_lookup_none {W : Type} (k : Var) (l : AList Var W) (h : alookup l k = none) :
    aerase k l = l :=
  aerase_of_alookup_none l k h

theorem setVar_eq (m : VMState) (v : Var) (x : Val) (sc : Scope) (h : Inv (varsG m)) :
    setVar .fixed m v x sc =
      { m with vars := ((varsG m).insert v x sc).1.bc, save := ((varsG m).insert v x sc).1.groups } := by
  obtain ⟨vars, save, cmds, active, font, fontSave, bit⟩ := m
  rw [GMap.insert_eq]
  cases sc with
  | glob =>
    cases save with
    | nil => rfl
    | cons g gs => exact congrArg (fun l => VMState.mk _ l _ _ _ _ _) (purgeLoop_eq_map v (g :: gs))
  | loc =>
    cases save with
    | nil => rfl
    | cons g gs =>
      rw [varsG, logInsert, logLocal.eq_def]
      show VMState.mk _ (saveEntry g v _ :: gs) _ _ _ _ _ = _
      rw [saveEntry]
      cases hb : alookup vars v with
      | some old => cases alookup g v <;> rfl
      | none =>
        -- `SaveStackMap::save` keeps an older entry where `GroupingContainer::insert` would write
        -- `Delete`: but a logged variable is visible, so `g` has no entry for `v`
        cases hl : alookup g v with
        | none => rfl
        | some a =>
          have hv : (alookup vars v).isSome = true :=
            h.visible g List.mem_cons_self v (by rw [hl]; rfl)
          rw [hb] at hv; cases hv

theorem globalDefs_setScope (m : VMState) (s : Scope) : globalDefs (setScope m s) = globalDefs m := rfl

theorem hook_eq (m : VMState) (pre : Nat) (hb : m.scopeBit = .loc) :
    readAndResetGlobal (applyPrefix pre m) = (Spec.effScope (globalDefs m) pre, m) := by
  obtain ⟨vars, save, cmds, active, font, fontSave, bit⟩ := m
  simp only at hb
  subst hb
  by_cases hp : pre = 0
  · subst hp
    simp only [applyPrefix, if_true, readAndResetGlobal, Spec.effScope]
    by_cases h1 : globalDefs ⟨vars, save, cmds, active, font, fontSave, .loc⟩ < 0
    · simp [h1]
    · by_cases h2 : globalDefs ⟨vars, save, cmds, active, font, fontSave, .loc⟩ = 0
      · simp [h2]
      · simp [h1, h2]
  · simp only [applyPrefix, hp, if_false, prefixGlobal, readAndResetGlobal, globalDefs_setScope,
      Spec.effScope]
    by_cases h1 : globalDefs ⟨vars, save, cmds, active, font, fontSave, .loc⟩ < 0
    · have h2 : ¬ globalDefs ⟨vars, save, cmds, active, font, fontSave, .loc⟩ = 0 := by omega
      simp [h1, setScope, h2]
    · by_cases h2 : globalDefs ⟨vars, save, cmds, active, font, fontSave, .loc⟩ = 0
      · simp [h2, setScope]
      · simp [h1, h2, setScope]

/-- The fonts that the open groups will restore, innermost first. -/
def absFont : Nat → List (Option Nat) → List Nat
  | _, [] => []
  | cur, none :: r => cur :: absFont cur r
  | _, some f :: r => f :: absFont f r

/-- `es` is the list of environments whose four components are listed separately. -/
inductive Zip4 : List Env → List (Var → Option Val) → List (Nat → Option Cmd) →
    List (Nat → Option Cmd) → List Nat → Prop
  | nil : Zip4 [] [] [] [] []
  | cons (a : Var → Option Val) (b c : Nat → Option Cmd) (f : Nat)
      {es : List Env} {as : List (Var → Option Val)} {bs cs : List (Nat → Option Cmd)} {fs : List Nat} :
      Zip4 es as bs cs fs → Zip4 (⟨a, b, c, f⟩ :: es) (a :: as) (b :: bs) (c :: cs) (f :: fs)

theorem zip4_iff {es : List Env} {as : List (Var → Option Val)} {bs cs : List (Nat → Option Cmd)}
    {fs : List Nat} :
    Zip4 es as bs cs fs ↔
      as = es.map Env.var ∧ bs = es.map Env.cs ∧ cs = es.map Env.act ∧ fs = es.map Env.font := by
  constructor
  · intro h
    induction h with
    | nil => exact ⟨rfl, rfl, rfl, rfl⟩
    | cons a b c f _ ih =>
      obtain ⟨rfl, rfl, rfl, rfl⟩ := ih
      exact ⟨rfl, rfl, rfl, rfl⟩
  · rintro ⟨rfl, rfl, rfl, rfl⟩
    induction es with
    | nil => exact .nil
    | cons e es ih => exact .cons e.var e.cs e.act e.font ih

theorem length_absFont (c : Nat) (l : List (Option Nat)) : (absFont c l).length = l.length := by
  induction l generalizing c with
  | nil => rfl
  | cons o t ih => cases o <;> simp only [absFont, List.length_cons, ih]

theorem absFont_eq_nil (c : Nat) (l : List (Option Nat)) (h : absFont c l = []) : l = [] := by
  cases l with
  | nil => rfl
  | cons o t => cases o <;> simp [absFont] at h

theorem absFont_map_none (f c : Nat) (l : List (Option Nat)) :
    absFont f (l.map (fun _ => none)) = (absFont c l).map (fun _ => f) := by
  induction l generalizing c with
  | nil => rfl
  | cons o t ih =>
    cases o with
    | none => simp [absFont, ih c]
    | some x => simp [absFont, ih x]

/-- The simulation relation: the flag is `Local`, the three scoped containers satisfy C20's
invariant and abstract, level by level, to the components of the specification's environments. -/
structure R (m : VMState) (s : Spec) : Prop where
  bit : m.scopeBit = .loc
  invV : Inv (varsG m)
  invC : Inv m.cmds
  invA : Inv m.active
  curVar : s.cur.var = (varsG m).abs.cur
  curCs : s.cur.cs = m.cmds.abs.cur
  curAct : s.cur.act = m.active.abs.cur
  curFont : s.cur.font = m.font
  saved : Zip4 s.saved (varsG m).abs.saved m.cmds.abs.saved m.active.abs.saved
    (absFont m.font m.fontSave)

/-- One component `p` of all environments of the stack. -/
def Spec.snap {K V : Type} (p : Env → K → Option V) (s : Spec) : Snap K V :=
  { cur := p s.cur, saved := s.saved.map p }

def ImplFont (font : Nat) (fontSave : List (Option Nat)) (s : Spec) : Prop :=
  s.cur.font = font ∧ s.saved.map Env.font = absFont font fontSave

theorem R_iff {m : VMState} {s : Spec} :
    R m s ↔ m.scopeBit = .loc ∧ GImpl (varsG m) (s.snap Env.var) ∧ GImpl m.cmds (s.snap Env.cs) ∧
      GImpl m.active (s.snap Env.act) ∧ ImplFont m.font m.fontSave s := by
  constructor
  · rintro ⟨hb, hV, hC, hA, cV, cC, cA, cF, hz⟩
    obtain ⟨z1, z2, z3, z4⟩ := zip4_iff.1 hz
    exact ⟨hb, ⟨hV, by rw [Spec.snap, cV, ← z1]⟩, ⟨hC, by rw [Spec.snap, cC, ← z2]⟩,
      ⟨hA, by rw [Spec.snap, cA, ← z3]⟩, cF, z4.symm⟩
  · rintro ⟨hb, ⟨hV, aV⟩, ⟨hC, aC⟩, ⟨hA, aA⟩, cF, hF⟩
    exact ⟨hb, hV, hC, hA, (congrArg Snap.cur aV).symm, (congrArg Snap.cur aC).symm,
      (congrArg Snap.cur aA).symm, cF,
      zip4_iff.2 ⟨congrArg Snap.saved aV, congrArg Snap.saved aC, congrArg Snap.saved aA, hF.symm⟩⟩

theorem R_init : R VMState.init Spec.init :=
  ⟨rfl, inv_empty, inv_empty, inv_empty, rfl, rfl, rfl, rfl, .nil⟩

theorem R.var {m : VMState} {s : Spec} (h : R m s) : s.cur.var = alookup m.vars := h.curVar

theorem R.globalDefs {m : VMState} {s : Spec} (h : R m s) : globalDefs m = s.globalDefs := by
  simp only [C01.globalDefs, Spec.globalDefs, h.var]

theorem R.getCmd {m : VMState} {s : Spec} (h : R m s) (t : CTarget) :
    getCmd m t = Spec.getCmd s.cur t := by
  cases t with
  | cs n => simp only [C01.getCmd, Spec.getCmd, h.curCs, GMap.abs, GMap.get]
  | act c => simp only [C01.getCmd, Spec.getCmd, h.curAct, GMap.abs, GMap.get]

theorem R.resolveDef {m : VMState} {s : Spec} (h : R m s) (d : Def) :
    resolveDef m d = Spec.resolveDef s.cur d := by
  cases d with
  | lcs src => exact h.getCmd src
  | _ => rfl

theorem R.readTarget {m : VMState} {s : Spec} (h : R m s) (t : Target) :
    readTarget m t = Spec.readTarget s.cur t := by
  cases t with
  | var v => simp only [C01.readTarget, Spec.readTarget, h.var]
  | cmd t => simp only [C01.readTarget, Spec.readTarget, h.getCmd, h.var]
  | font => simp only [C01.readTarget, Spec.readTarget, h.curFont]

section Snap
variable {s : Spec} {sc : Scope} {f : Env → Env} {K V : Type} [DecidableEq K] {p : Env → K → Option V}
  {g : GMap K V}

theorem Spec.cur_update (s : Spec) (sc : Scope) (f : Env → Env) : (s.update sc f).cur = f s.cur := by
  cases sc <;> rfl

theorem Spec.map_update {β : Type} (s : Spec) (sc : Scope) (p : Env → β) (h : ∀ e, p (f e) = p e) :
    (s.update sc f).saved.map p = s.saved.map p := by
  cases sc with
  | loc => rfl
  | glob => rw [Spec.update, List.map_map]; exact List.map_congr_left fun e _ => h e

theorem ImplFont.update {n : Nat} {l : List (Option Nat)} (hI : ImplFont n l s)
    (h : ∀ e, (f e).font = e.font) : ImplFont n l (s.update sc f) :=
  ⟨by rw [Spec.cur_update, h]; exact hI.1, (Spec.map_update s sc Env.font h).trans hI.2⟩

theorem _root_.C20.GImpl.update (hI : GImpl g (s.snap p)) (h : ∀ e, p (f e) = p e) :
    GImpl g ((s.update sc f).snap p) := by
  rw [Spec.snap, Spec.cur_update, h, Spec.map_update s sc p h]
  exact hI

theorem _root_.C20.GImpl.update_insert (hI : GImpl g (s.snap p)) (k : K) (v : V)
    (h : ∀ e, p (f e) = fupd (p e) k (some v)) :
    GImpl (g.insert k v sc).1 ((s.update sc f).snap p) := by
  have hs : (s.update sc f).snap p = ((s.snap p).step (.insert k v sc)).1 := by
    rw [Spec.snap, Spec.cur_update, h]
    cases sc with
    | loc => rfl
    | glob =>
      show _ = Snap.mk _ (List.map _ (List.map p s.saved))
      rw [Spec.update, List.map_map, List.map_map]
      exact congrArg _ (List.map_congr_left fun e _ => h e)
  rw [hs]
  exact (hI.step (.insert k v sc)).1

end Snap

theorem R.depth {m : VMState} {s : Spec} (h : R m s) :
    m.save.length = s.saved.length ∧ m.cmds.groups.length = s.saved.length ∧
      m.active.groups.length = s.saved.length ∧ m.fontSave.length = s.saved.length := by
  obtain ⟨-, hV, hC, hA, -, hF⟩ := R_iff.1 h
  exact ⟨hV.depth.trans (List.length_map _), hC.depth.trans (List.length_map _),
    hA.depth.trans (List.length_map _), by rw [← length_absFont m.font, ← hF, List.length_map]⟩

theorem R.beginGroup {m : VMState} {s : Spec} (h : R m s) :
    R (beginGroup .fixed m) { cur := s.cur, saved := s.cur :: s.saved } := by
  obtain ⟨hb, hV, hC, hA, cF, hF⟩ := R_iff.1 h
  exact R_iff.2 ⟨hb, (hV.step .beginGroup).1, (hC.step .beginGroup).1, (hA.step .beginGroup).1, cF,
    by rw [List.map_cons, cF, hF]; rfl⟩

theorem R.assign {m : VMState} {s : Spec} (h : R m s) (pre : Nat) (v : Var) (x : Val) :
    R (assign .fixed m pre v x) (s.update (Spec.effScope s.globalDefs pre) (Spec.setVarEnv v x)) := by
  obtain ⟨hb, hV, hC, hA, hF⟩ := R_iff.1 h
  simp only [C01.assign, hook_eq m pre hb, setVar_eq m v x _ hV.1, h.globalDefs]
  exact R_iff.2 ⟨hb, hV.update_insert v x fun _ => rfl, hC.update fun _ => rfl, hA.update fun _ => rfl,
    hF.update fun _ => rfl⟩

theorem R.insertCmd {m : VMState} {s : Spec} (h : R m s) (t : CTarget) (c : Cmd) (sc : Scope) :
    R (insertCmd m t c sc) (s.update sc (Spec.setCmdEnv t c)) := by
  obtain ⟨hb, hV, hC, hA, hF⟩ := R_iff.1 h
  cases t with
  | cs n =>
    exact R_iff.2 ⟨hb, hV.update fun _ => rfl, hC.update_insert n c fun _ => rfl, hA.update fun _ => rfl,
      hF.update fun _ => rfl⟩
  | act n =>
    exact R_iff.2 ⟨hb, hV.update fun _ => rfl, hC.update fun _ => rfl, hA.update_insert n c fun _ => rfl,
      hF.update fun _ => rfl⟩

theorem R.define {m : VMState} {s : Spec} (h : R m s) (pre : Nat) (t : CTarget) (d : Def) :
    ∃ m', define .fixed m pre t d = some m' ∧ R m' (s.step (.define pre t d)).1 := by
  simp only [C01.define, Variant.fixed, hook_eq m pre h.bit, Spec.step, h.globalDefs,
    h.resolveDef d]
  cases hr : Spec.resolveDef s.cur d with
  | none => exact ⟨m, by simp, h⟩
  | some c => exact ⟨_, by simp, h.insertCmd t c _⟩

theorem R.selectFont {m : VMState} {s : Spec} (h : R m s) (pre : Nat) (f : Nat) :
    R (selectFont m pre f) (s.update (Spec.effScope s.globalDefs pre) (Spec.setFontEnv f)) := by
  obtain ⟨hb, hV, hC, hA, cF, hF⟩ := R_iff.1 h
  simp only [C01.selectFont, hook_eq m pre hb, h.globalDefs]
  refine R_iff.2 ⟨hb, hV.update fun _ => rfl, hC.update fun _ => rfl, hA.update fun _ => rfl,
    by rw [Spec.cur_update]; rfl, ?_⟩
  -- the fonts to restore: unchanged by a local selection, all `f` after a global one
  cases Spec.effScope s.globalDefs pre with
  | loc =>
    rw [Spec.update, hF]
    cases m.fontSave with
    | nil => rfl
    | cons o t => cases o <;> rfl
  | glob =>
    rw [Spec.update, List.map_map]
    exact ((absFont_map_none f m.font m.fontSave).trans (by rw [← hF, List.map_map]; rfl)).symm

theorem R.endGroup {m : VMState} {s : Spec} (h : R m s) :
    (s.saved = [] ∧ (step .fixed m .endGroup) = (m, .errNoGroup)) ∨
    (∃ e rest m', s.saved = e :: rest ∧ step .fixed m .endGroup = (m', .unit) ∧
      R m' { cur := e, saved := rest }) := by
  obtain ⟨d1, d2, d3, d4⟩ := h.depth
  obtain ⟨vars, save, ⟨cbc, cgs⟩, ⟨abc, ags⟩, font, fontSave, bit⟩ := m
  obtain ⟨cur, saved⟩ := s
  cases saved with
  | nil =>
    cases List.eq_nil_of_length_eq_zero d2
    exact .inl ⟨rfl, rfl⟩
  | cons e rest =>
    obtain ⟨g1, t1, rfl⟩ := List.exists_cons_of_length_eq_add_one d1
    obtain ⟨g2, t2, rfl⟩ := List.exists_cons_of_length_eq_add_one d2
    obtain ⟨g3, t3, rfl⟩ := List.exists_cons_of_length_eq_add_one d3
    obtain ⟨o, t4, rfl⟩ := List.exists_cons_of_length_eq_add_one d4
    clear d1 d2 d3 d4
    obtain ⟨hb, hV, hC, hA, cF, hF⟩ := R_iff.1 h
    have hV' := (hV.step .endGroup).1
    have hC' := (hC.step .endGroup).1
    have hA' := (hA.step .endGroup).1
    cases o <;> exact .inr ⟨e, rest, _, rfl, rfl, R_iff.2 ⟨hb, hV', hC', hA', List.cons.inj hF⟩⟩

theorem R.step {m : VMState} {s : Spec} (h : R m s) (op : Op) :
    (step .fixed m op).2 = (s.step op).2 ∧ R (step .fixed m op).1 (s.step op).1 := by
  cases op with
  | beginGroup => exact ⟨rfl, h.beginGroup⟩
  | endGroup =>
    have hE := h.endGroup
    obtain ⟨cur, saved⟩ := s
    rcases hE with ⟨rfl, hm⟩ | ⟨e, rest, m', rfl, hm, hR⟩
    · rw [hm]; exact ⟨rfl, h⟩
    · rw [hm]; exact ⟨rfl, hR⟩
  | assign pre v x => exact ⟨rfl, h.assign pre v x⟩
  | define pre t d =>
    obtain ⟨m', hd, hR⟩ := h.define pre t d
    rw [C01.step, hd]
    refine ⟨?_, hR⟩
    rw [Spec.step]
    cases Spec.resolveDef s.cur d <;> rfl
  | selectFont pre f => exact ⟨rfl, h.selectFont pre f⟩
  | read t => exact ⟨h.readTarget t, h⟩

/-- The shape of every interpreter of `Model/C01.lean`: fold a step function over the program and
stop after a fatal outcome. -/
def runWith {σ α : Type} (step : σ → α → σ × Out) : σ → List α → σ × List Out
  | s, [] => (s, [])
  | s, a :: l =>
    let r := step s a
    if r.2.fatal then (r.1, [r.2])
    else
      let rs := runWith step r.1 l
      (rs.1, r.2 :: rs.2)

section RunWith
variable {σ τ α : Type} {f : σ → α → σ × Out} {s : σ} {a : α} {l : List α}

theorem runWith_unique (r : σ → List α → σ × List Out) (h0 : ∀ s, r s [] = (s, []))
    (h1 : ∀ s a l, r s (a :: l) =
      if (f s a).2.fatal then ((f s a).1, [(f s a).2])
      else ((r (f s a).1 l).1, (f s a).2 :: (r (f s a).1 l).2))
    (s : σ) (l : List α) : r s l = runWith f s l := by
  induction l generalizing s with
  | nil => exact h0 s
  | cons a l ih => rw [h1, ih]; rfl

theorem runWith_cons (h : (f s a).2.fatal = false) :
    runWith f s (a :: l) = ((runWith f (f s a).1 l).1, (f s a).2 :: (runWith f (f s a).1 l).2) := by
  simp only [runWith, h, Bool.false_eq_true, if_false]

theorem runWith_cons_fatal (h : (f s a).2.fatal = true) :
    runWith f s (a :: l) = ((f s a).1, [(f s a).2]) := by
  simp only [runWith, h, if_true]

theorem runWith_ok_cons :
    (∀ o ∈ (runWith f s (a :: l)).2, o.fatal = false) ↔
      (f s a).2.fatal = false ∧ ∀ o ∈ (runWith f (f s a).1 l).2, o.fatal = false := by
  cases h : (f s a).2.fatal with
  | false => rw [runWith_cons h, List.forall_mem_cons, h]
  | true =>
    rw [runWith_cons_fatal h]
    constructor
    · intro h'; rw [h' _ List.mem_cons_self] at h; cases h
    · intro h'; cases h'.1

theorem runWith_append (f : σ → α → σ × Out) (s : σ) (a b : List α)
    (h : ∀ o ∈ (runWith f s a).2, o.fatal = false) :
    runWith f s (a ++ b) =
      ((runWith f (runWith f s a).1 b).1, (runWith f s a).2 ++ (runWith f (runWith f s a).1 b).2) := by
  induction a generalizing s with
  | nil => rfl
  | cons x a ih =>
    obtain ⟨h1, h2⟩ := runWith_ok_cons.1 h
    rw [List.cons_append, runWith_cons h1, runWith_cons h1, ih _ h2]
    rfl

theorem runWith_append_fatal (f : σ → α → σ × Out) (s : σ) (a b : List α)
    (h : (runWith f s a).2.any Out.fatal = true) : runWith f s (a ++ b) = runWith f s a := by
  induction a generalizing s with
  | nil => cases h
  | cons x a ih =>
    cases hf : (f s x).2.fatal with
    | true => rw [List.cons_append, runWith_cons_fatal hf, runWith_cons_fatal hf]
    | false =>
      rw [runWith_cons hf, List.any_cons, hf, Bool.false_or] at h
      rw [List.cons_append, runWith_cons hf, runWith_cons hf, ih _ h]

theorem runWith_sim {g : τ → α → τ × Out} (R : σ → τ → Prop)
    (hstep : ∀ {m s}, R m s → ∀ a, (f m a).2 = (g s a).2 ∧ R (f m a).1 (g s a).1)
    {m : σ} {s : τ} (h : R m s) :
    (runWith f m l).2 = (runWith g s l).2 ∧ R (runWith f m l).1 (runWith g s l).1 := by
  induction l generalizing m s with
  | nil => exact ⟨rfl, h⟩
  | cons a l ih =>
    obtain ⟨h1, h2⟩ := hstep h a
    cases hf : (g s a).2.fatal with
    | true =>
      rw [runWith_cons_fatal hf, runWith_cons_fatal (h1 ▸ hf)]
      exact ⟨by rw [h1], h2⟩
    | false =>
      obtain ⟨i1, i2⟩ := ih h2
      rw [runWith_cons hf, runWith_cons (h1 ▸ hf)]
      exact ⟨by rw [h1, i1], i2⟩

theorem runWith_inv (P : σ → Prop) (hstep : ∀ s, P s → ∀ a ∈ l, P (f s a).1) (h : P s) :
    P (runWith f s l).1 := by
  induction l generalizing s with
  | nil => exact h
  | cons a l ih =>
    have h1 := hstep s h a List.mem_cons_self
    cases hf : (f s a).2.fatal with
    | true => rw [runWith_cons_fatal hf]; exact h1
    | false =>
      rw [runWith_cons hf]
      exact ih (fun s hs b hb => hstep s hs b (List.mem_cons_of_mem _ hb)) h1

theorem runWith_outs (P : Out → Prop) (hstep : ∀ s a, P (f s a).2) :
    ∀ o ∈ (runWith f s l).2, P o := by
  induction l generalizing s with
  | nil => exact fun _ h => (List.not_mem_nil h).elim
  | cons a l ih =>
    cases hf : (f s a).2.fatal with
    | true =>
      rw [runWith_cons_fatal hf]
      exact List.forall_mem_cons.2 ⟨hstep s a, fun _ h => (List.not_mem_nil h).elim⟩
    | false => rw [runWith_cons hf]; exact List.forall_mem_cons.2 ⟨hstep s a, ih⟩

end RunWith

section RunsTo
variable {σ α : Type} {f : σ → α → σ × Out} {s s' s'' : σ} {a : α} {l l' : List α}

/-- `l` runs from `s` to its end (no fatal outcome) and stops in `s'`. -/
inductive RunsTo (f : σ → α → σ × Out) : σ → List α → σ → Prop
  | nil {s : σ} : RunsTo f s [] s
  | cons {s s' : σ} {a : α} {l : List α} :
      (f s a).2.fatal = false → RunsTo f (f s a).1 l s' → RunsTo f s (a :: l) s'

theorem RunsTo.runWith (h : RunsTo f s l s') :
    (∀ o ∈ (runWith f s l).2, o.fatal = false) ∧ (runWith f s l).1 = s' := by
  induction h with
  | nil => exact ⟨fun _ h => (List.not_mem_nil h).elim, rfl⟩
  | cons h1 _ ih => exact ⟨runWith_ok_cons.2 ⟨h1, ih.1⟩, by rw [runWith_cons h1]; exact ih.2⟩

theorem RunsTo.append (h : RunsTo f s l s') (h' : RunsTo f s' l' s'') : RunsTo f s (l ++ l') s'' := by
  induction h with
  | nil => exact h'
  | cons h1 _ ih => exact .cons h1 (ih h')

end RunsTo

theorem run_eq (cfg : Variant) (m : VMState) (ops : List Op) : run cfg m ops = runWith (step cfg) m ops :=
  runWith_unique (run cfg) (fun _ => rfl) (fun _ _ _ => rfl) m ops

theorem Spec.run_eq (s : Spec) (ops : List Op) : s.run ops = runWith Spec.step s ops :=
  runWith_unique Spec.run (fun _ => rfl) (fun _ _ _ => rfl) s ops

theorem refines_run_from {m : VMState} {s : Spec} (h : R m s) (ops : List Op) :
    (run .fixed m ops).2 = (s.run ops).2 ∧ R (run .fixed m ops).1 (s.run ops).1 := by
  rw [run_eq, Spec.run_eq]
  exact runWith_sim R (fun h => h.step) h

theorem R_reachable (ops : List Op) : R (run .fixed VMState.init ops).1 (Spec.init.run ops).1 :=
  (refines_run_from R_init ops).2

theorem run_append (cfg : Variant) (m : VMState) (a b : List Op)
    (h : ∀ o ∈ (run cfg m a).2, o.fatal = false) :
    run cfg m (a ++ b) = ((run cfg (run cfg m a).1 b).1, (run cfg m a).2 ++ (run cfg (run cfg m a).1 b).2) := by
  simp only [run_eq] at h ⊢
  exact runWith_append _ m a b h

theorem run_inv (cfg : Variant) (P : VMState → Prop)
    (hstep : ∀ m op, P m → P (step cfg m op).1) (ops : List Op) (m : VMState) (h : P m) :
    P (run cfg m ops).1 := by
  rw [run_eq]
  exact runWith_inv P (fun m hm op _ => hstep m op hm) h

end C01
