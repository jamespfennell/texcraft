import TexcraftModel.Lemmas.C16De
import TexcraftModel.Lemmas.C16Range

/-! Sequences of operations. What `deAll` reads from a byte string is `AllWF`, and it reads back what
`serAll` wrote. `varRemoveFrom` keeps `AllWF` (through the invariant `Values.Fits`) and `Post52Free`;
the two together give the `SeqWF` that the round trip asks for (`seqWF_of`). -/
namespace C16

/-- Every operation of the sequence is a value of the Rust field types. -/
def AllWF (ops : List Op) : Prop := ∀ op ∈ ops, op.WF

theorem allWF_nil : AllWF [] := fun _ h => nomatch h

theorem allWF_cons {op : Op} {ops : List Op} : AllWF (op :: ops) ↔ op.WF ∧ AllWF ops :=
  List.forall_mem_cons

theorem serAll_cons (op : Op) (ops : List Op) : serAll (op :: ops) = ser op ++ serAll ops := rfl

theorem seqWF_of (ops : List Op) (hwf : AllWF ops) (hp : Post52Free ops) : SeqWF ops := by
  fun_induction Post52Free ops with
  | case1 => trivial
  | case2 op => exact ⟨(allWF_cons.1 hwf).1, okBefore_nil op, trivial⟩
  | case3 op op2 ops ih =>
    obtain ⟨h1, hwf'⟩ := allWF_cons.1 hwf
    exact ⟨h1, okBefore_of fun he h => hp.1 ⟨he, ser_head_223 (allWF_cons.1 hwf').1 h⟩,
      ih hwf' hp.2⟩

theorem deAll_allWF (fuel : Nat) (b : List Nat) (hb : bytesOK b) : AllWF (deAll fuel b).1 := by
  fun_induction deAll fuel b with
  | case1 => exact allWF_nil
  | case2 => exact allWF_nil
  | case3 fuel b op rest hde r ih =>
    have g := de_good hb hde
    exact allWF_cons.2 ⟨g.wf, ih g.bytes⟩
  | case4 => exact allWF_nil

theorem deAll_serAll (ops : List Op) (h : SeqWF ops) :
    ∀ fuel, (serAll ops).length < fuel → deAll fuel (serAll ops) = (ops, none) := by
  induction ops with
  | nil =>
    intro fuel hf
    cases fuel with
    | zero => cases hf
    | succ f => rfl
  | cons op ops ih =>
    intro fuel hf
    cases fuel with
    | zero => cases hf
    | succ f =>
      obtain ⟨opc, bs, heq, hlt, hde⟩ := ser_decodes op (serAll ops) h.1 h.2.1
      rw [serAll_cons, heq, List.cons_append] at hf ⊢
      rw [deAll, de]
      simp only [if_neg (Nat.not_le.2 hlt), hde, ih h.2.2 f (by
        rw [List.length_cons, List.length_append] at hf; omega)]

theorem removeStep_fst (s : Values) (op : Op) : (removeStep s op).1 = s.update op := by
  cases op <;> rfl

theorem removeStep_snd_of_isVar_false {op : Op} (h : op.isVar = false) (s : Values) :
    (removeStep s op).2 = op := by
  cases op with
  | move v => cases h
  | setVar v i => cases h
  | _ => rfl

theorem removeStep_snd_of_isVar_true {op : Op} (h : op.isVar = true) (s : Values) :
    ∃ v, (removeStep s op).2 = .right ((s.update op).top.var v) ∨
      (removeStep s op).2 = .down ((s.update op).top.var v) := by
  cases op with
  | move v => exact ⟨v, match v with | .W | .X => .inl rfl | .Y | .Z => .inr rfl⟩
  | setVar v i => exact ⟨v, match v with | .W | .X => .inl rfl | .Y | .Z => .inr rfl⟩
  | _ => cases h

theorem removeStep_snd_isVar (s : Values) (op : Op) : (removeStep s op).2.isVar = false := by
  cases h : op.isVar with
  | false => rw [removeStep_snd_of_isVar_false h]; exact h
  | true => obtain ⟨v, hv | hv⟩ := removeStep_snd_of_isVar_true h s <;> rw [hv] <;> rfl

theorem removeStep_snd_eq {s : Values} {op o : Op} (h : (removeStep s op).2 = o)
    (hr : ∀ d, o ≠ .right d) (hd : ∀ d, o ≠ .down d) : op = o := by
  cases hv : op.isVar with
  | false => rw [← h, removeStep_snd_of_isVar_false hv]
  | true =>
    obtain ⟨v, hv | hv⟩ := removeStep_snd_of_isVar_true hv s
    · exact absurd (h.symm.trans hv) (hr _)
    · exact absurd (h.symm.trans hv) (hd _)

theorem removeStep_wf (s : Values) (op : Op) (hs : s.Fits) (hwf : op.WF) :
    (removeStep s op).2.WF := by
  cases h : op.isVar with
  | false => rw [removeStep_snd_of_isVar_false h]; exact hwf
  | true =>
    obtain ⟨v, hv | hv⟩ := removeStep_snd_of_isVar_true h s <;> rw [hv] <;>
      exact var_fits _ v (update_fits s op hs hwf).1

theorem varRemoveFrom_cons (s : Values) (op : Op) (ops : List Op) :
    varRemoveFrom s (op :: ops) = (removeStep s op).2 :: varRemoveFrom (s.update op) ops := by
  rw [varRemoveFrom, removeStep_fst]

theorem varRemoveFrom_allWF (ops : List Op) (s : Values) (hs : s.Fits) (hwf : AllWF ops) :
    AllWF (varRemoveFrom s ops) := by
  induction ops generalizing s with
  | nil => exact allWF_nil
  | cons op ops ih =>
    obtain ⟨h1, htl⟩ := allWF_cons.1 hwf
    rw [varRemoveFrom_cons]
    exact allWF_cons.2 ⟨removeStep_wf s op hs h1, ih _ (update_fits s op hs h1) htl⟩

theorem varRemoveFrom_post52Free (ops : List Op) (s : Values) (h : Post52Free ops) :
    Post52Free (varRemoveFrom s ops) := by
  fun_induction Post52Free ops generalizing s with
  | case1 => trivial
  | case2 op => trivial
  | case3 op op2 rest ih =>
    have ih' := ih (s.update op) h.2
    rw [varRemoveFrom_cons] at ih' ⊢
    rw [varRemoveFrom_cons]
    refine ⟨?_, ih'⟩
    rintro ⟨h1, h2⟩
    refine h.1 ⟨?_, removeStep_snd_eq h2 (fun _ => Op.noConfusion) (fun _ => Op.noConfusion)⟩
    cases hr : (removeStep s op).2 with
    | endPostamble f p k =>
      rw [removeStep_snd_eq hr (fun _ => Op.noConfusion) (fun _ => Op.noConfusion)]; rfl
    | _ => rw [hr] at h1; cases h1

theorem varRemoveFrom_getElem? (ops : List Op) (s : Values) (i : Nat) :
    (varRemoveFrom s ops)[i]? =
      ops[i]?.map fun op => (removeStep ((ops.take i).foldl Values.update s) op).2 := by
  induction ops generalizing s i with
  | nil => rfl
  | cons op ops ih =>
    rw [varRemoveFrom_cons]
    cases i with
    | zero => rfl
    | succ j => exact ih _ j

theorem varRemoveFrom_no_vars (ops : List Op) (s : Values) :
    ∀ op ∈ varRemoveFrom s ops, op.isVar = false := by
  intro o ho
  obtain ⟨i, hi⟩ := List.getElem?_of_mem ho
  rw [varRemoveFrom_getElem?] at hi
  obtain ⟨op, -, rfl⟩ := Option.map_eq_some_iff.1 hi
  exact removeStep_snd_isVar _ op

theorem varRemoveFrom_eq_self (ops : List Op) (s : Values) (h : ∀ op ∈ ops, op.isVar = false) :
    varRemoveFrom s ops = ops := by
  induction ops generalizing s with
  | nil => rfl
  | cons op ops ih =>
    rw [varRemoveFrom_cons, removeStep_snd_of_isVar_false (h op List.mem_cons_self),
      ih _ (fun o ho => h o (List.mem_cons_of_mem _ ho))]

end C16
