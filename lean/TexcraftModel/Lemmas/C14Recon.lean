import TexcraftModel.Model.C14Recon
import TexcraftModel.Lemmas.C14Marked
import TexcraftModel.Lemmas.C05

/-! Invariants of the reconstitution of one word. `wordLoop_succ` and `hyphLoop_succ` write a round of the two outer
loops as an equation over operations on the state (reset, push, discretionary), so that each invariant has one lemma
per operation; the only one with content is the insertion of a discretionary (`disc_step`, `PosInv.insert`).
`hyphLoop_inv` and `wordLoop_inv` thread these through the equations by induction on the fuel, in two parts: `Base`, for
any list of positions, and, for ascending positions, `Ghost` and `W.Ahead`. At the end, the tables C05 compiles are
engines that spell. -/
namespace C14

theorem numChars_eq (n : Node) : numChars n = (C05.Item.originals n).length := by
  cases n <;> rfl

theorem originals_nil : C05.originals [] = [] := rfl

theorem countChars_append (a b : List Node) : countChars (a ++ b) = countChars a + countChars b := by
  simp only [countChars, List.map_append, List.sum_append]

theorem countChars_eq (l : List Node) : countChars l = (C05.originals l).length := by
  induction l with
  | nil => rfl
  | cons n l ih =>
    rw [C05.originals_cons, List.length_append, ← ih, ← numChars_eq]
    exact List.sum_cons

theorem numChars_of_lastChar_none {n : Node} (h : lastChar n = none) : numChars n = 0 := by
  cases n <;> first | rfl | cases h

theorem lettersL_toItem (font : Nat) (ns : List Node) : lettersL (ns.map (toItem font)) = C05.originals ns := by
  induction ns with
  | nil => rfl
  | cons n ns ih =>
    rw [List.map_cons, lettersL_cons, ih, C05.originals_cons]
    cases n <;> rfl

theorem lettersDL_toDElem (font : Nat) (ns : List Node) : lettersDL (ns.map (toDElem font)) = C05.originals ns := by
  induction ns with
  | nil => rfl
  | cons n ns ih =>
    simp only [lettersDL, List.map_cons, List.flatten_cons] at ih ⊢
    rw [ih, C05.originals_cons]
    cases n <;> rfl

theorem originals_slice {C1 C2 R Mn : List Node} {s : List Nat} (hrest : C1 ++ C2 ++ R = Mn)
    (hs : C05.originals Mn = s) : C05.originals C2 = (s.drop (countChars C1)).take (countChars C2) := by
  rw [← hs, ← hrest, C05.originals_append, C05.originals_append, countChars_eq, countChars_eq, List.append_assoc,
    List.drop_left, List.take_left]

theorem countChars_le {C R Mn : List Node} {s : List Nat} (hrest : C ++ R = Mn) (hs : C05.originals Mn = s) :
    countChars C ≤ s.length := by
  rw [← hs, ← hrest, C05.originals_append, List.length_append, countChars_eq]
  exact Nat.le_add_right _ _

theorem length_slice {α : Type} (s : List α) (a : Nat) {c : Nat} (hc : c ≤ s.length) :
    ((s.drop a).take (c - a)).length = c - a := by
  rw [List.length_take, List.length_drop, Nat.min_eq_left (Nat.sub_le_sub_right hc a)]

theorem slice_append {α : Type} (s : List α) {a h c : Nat} (h1 : a ≤ h) (h2 : h ≤ c) :
    (s.drop a).take (h - a) ++ (s.drop h).take (c - h) = (s.drop a).take (c - a) := by
  rw [← Nat.sub_add_sub_cancel h2 h1, Nat.add_comm, List.take_add, List.drop_drop, Nat.add_sub_of_le h1]

theorem advanceL_spec (l : List (Node × Bool)) :
    (advanceL l).1 ++ (advanceL l).2.map (·.1) = l.map (·.1) := by
  induction l with
  | nil => rfl
  | cons x l ih =>
    obtain ⟨n, f⟩ := x
    cases f with
    | true => rfl
    | false => simp only [advanceL, Bool.false_eq_true, if_false, List.cons_append, List.map_cons, ih]

theorem advance_spec (i : Iter) : (advance i).1 ++ (advance i).2.rest.map (·.1) = i.rest.map (·.1) :=
  advanceL_spec i.rest

/-- What a finished synchronisation has done: it consumed a prefix `postC` of the post-break run
and a prefix `mainC` of the main run, and stopped with equal character counts at a separation
point of both. -/
structure SyncDone (st r : Sync) (postC mainC : List Node) : Prop where
  postBreak : r.postBreak = st.postBreak ++ postC
  pushed : r.pushed = st.pushed ++ mainC
  postRest : postC ++ r.post.rest.map (·.1) = st.post.rest.map (·.1)
  mainRest : mainC ++ r.main.rest.map (·.1) = st.main.rest.map (·.1)
  postCP : r.postCP = st.postCP + countChars postC
  cp : r.cp = st.cp + countChars mainC
  same : r.postCP = r.cp
  mainSep : r.main.sep = true
  postSep : r.post.sep = true

/-- The two ways the loop goes on: the post-break run advances, or the main run does. -/
def Sync.stepPost (st : Sync) : Sync :=
  { st with pclb := false, post := (advance st.post).2, postCP := st.postCP + countChars (advance st.post).1,
            postBreak := st.postBreak ++ (advance st.post).1 }

def Sync.stepMain (st : Sync) : Sync :=
  { st with main := (advance st.main).2, cp := st.cp + countChars (advance st.main).1,
            pushed := st.pushed ++ (advance st.main).1 }

theorem sync_succ (fuel : Nat) (st : Sync) :
    sync (fuel + 1) st =
      if !st.pclb && st.postCP == st.cp && st.post.sep && st.main.sep then some st
      else if st.pclb || decide (st.postCP < st.cp) then sync fuel st.stepPost else sync fuel st.stepMain :=
  rfl

theorem SyncDone.of_stepPost {st r : Sync} {postC mainC : List Node} (d : SyncDone st.stepPost r postC mainC) :
    SyncDone st r ((advance st.post).1 ++ postC) mainC where
  postBreak := d.postBreak.trans (List.append_assoc _ _ _)
  pushed := d.pushed
  postRest := by rw [List.append_assoc, d.postRest]; exact advance_spec st.post
  mainRest := d.mainRest
  postCP := by rw [d.postCP, countChars_append]; exact Nat.add_assoc _ _ _
  cp := d.cp
  same := d.same
  mainSep := d.mainSep
  postSep := d.postSep

theorem SyncDone.of_stepMain {st r : Sync} {postC mainC : List Node} (d : SyncDone st.stepMain r postC mainC) :
    SyncDone st r postC ((advance st.main).1 ++ mainC) where
  postBreak := d.postBreak
  pushed := d.pushed.trans (List.append_assoc _ _ _)
  postRest := d.postRest
  mainRest := by rw [List.append_assoc, d.mainRest]; exact advance_spec st.main
  postCP := d.postCP
  cp := by rw [d.cp, countChars_append]; exact Nat.add_assoc _ _ _
  same := d.same
  mainSep := d.mainSep
  postSep := d.postSep

theorem sync_spec : ∀ (fuel : Nat) (st r : Sync), sync fuel st = some r →
    ∃ postC mainC, SyncDone st r postC mainC := by
  intro fuel
  induction fuel with
  | zero => intro st r h; cases h
  | succ fuel ih =>
    intro st r h
    rw [sync_succ] at h
    split at h
    · rename_i hc
      cases h
      simp only [Bool.and_eq_true, Bool.not_eq_true', beq_iff_eq] at hc
      exact ⟨[], [], (List.append_nil _).symm, (List.append_nil _).symm, rfl, rfl, rfl, rfl, hc.1.1.2, hc.2, hc.1.2⟩
    · split at h
      · obtain ⟨postC, mainC, d⟩ := ih _ r h
        exact ⟨_, _, d.of_stepPost⟩
      · obtain ⟨postC, mainC, d⟩ := ih _ r h
        exact ⟨_, _, d.of_stepMain⟩

/-- The main run is at a separation point: no node since then, the split is at `cp`. -/
def W.reset (w : W) : W := { w with esp := 0, ssp := w.cp }

def W.resetIf (c : Bool) (w : W) : W := if c then w.reset else w

/-- The item `(n, f)` of the main run, followed by `t`, goes to `out`. -/
def W.push (font : Nat) (w : W) (n : Node) (f : Bool) (t : List (Node × Bool)) : W :=
  { w with main := ⟨t, f⟩, out := w.out ++ [(toItem font n, false)], cp := w.cp + numChars n, esp := w.esp + 1 }

/-- After the push of `n`: its last character and the next position, if that position has been reached. -/
def W.due (w : W) (n : Node) : Option (Nat × Nat) :=
  match lastChar n, w.pos with
  | some lc, h :: _ => if h > w.cp then none else some (lc, h)
  | _, _ => none

/-- The synchronisation `hyphLoop` starts for the position `h`. -/
def W.sync0 (eng : Engine) (s : List Nat) (rbo : Option Nat) (w : W) (h : Nat) : Sync :=
  { pclb := eng.hasRepl none (s.drop h).head?, post := ⟨eng.run false rbo (s.drop h), true⟩,
    postCP := h, postBreak := [], main := w.main, cp := w.cp, pushed := [] }

/-- The state once the synchronisation `r` for the position `h` is finished and its discretionary inserted;
`pos'` = the positions after `h`. -/
def W.disc (eng : Engine) (font : Nat) (s : List Nat) (w : W) (h : Nat) (pos' : List Nat) (r : Sync) : W :=
  { out := insertDisc font w.out w.esp (preBreak eng font s w.ssp h) r, cp := r.cp, esp := w.esp, ssp := w.ssp,
    pos := skipPast r.cp pos', main := r.main }

/-- What a round of `wordLoop` does with the state `w1` it has after pushing `(n, f)`: nothing if no position has
been reached, else the loop of TeX §914. -/
def afterPush (eng : Engine) (font : Nat) (s : List Nat) (rbo : Option Nat) (w1 : W) (n : Node) (f : Bool) :
    Option W :=
  match w1.due n with
  | none => some w1
  | some (lc, h) =>
    let w2 := w1.resetIf (h == w1.cp && f && !eng.hasRepl (some lc) (some hyphenChar))
    hyphLoop eng font s rbo (w2.pos.length + 1) w2

theorem W.due_some {w : W} {n : Node} {lc h : Nat} (hd : w.due n = some (lc, h)) : ∃ tl, w.pos = h :: tl := by
  unfold W.due at hd
  split at hd
  · rename_i hpos
    split at hd
    · cases hd
    · cases hd; exact ⟨_, hpos⟩
  · cases hd

theorem W.due_none {w : W} {n : Node} (hd : w.due n = none) :
    lastChar n = none ∨ w.pos.head?.all (fun p => decide (w.cp < p)) = true := by
  unfold W.due at hd
  cases hl : lastChar n with
  | none => exact Or.inl rfl
  | some lc =>
    cases hpos : w.pos with
    | nil => exact Or.inr rfl
    | cons h tl =>
      simp only [hl, hpos] at hd
      split at hd
      · rename_i hgt; exact Or.inr (by simpa using hgt)
      · cases hd

theorem W.resetIf_pos (c : Bool) (w : W) : (w.resetIf c).pos = w.pos := by cases c <;> rfl

theorem W.resetIf_main (c : Bool) (w : W) : (w.resetIf c).main = w.main := by cases c <;> rfl

theorem wordLoop_succ (eng : Engine) (font : Nat) (s : List Nat) (rbo : Option Nat) (fuel : Nat) (w0 : W) :
    wordLoop eng font s rbo (fuel + 1) w0 =
      match (w0.resetIf w0.main.sep).main.rest with
      | [] => some (w0.resetIf w0.main.sep)
      | (n, f) :: t =>
        (afterPush eng font s rbo ((w0.resetIf w0.main.sep).push font n f t) n f).bind
          (wordLoop eng font s rbo fuel) := by
  rw [wordLoop, show (if w0.main.sep = true then ({ w0 with esp := 0, ssp := w0.cp } : W) else w0)
    = w0.resetIf w0.main.sep from rfl]
  generalize w0.resetIf w0.main.sep = w
  cases w.main.rest with
  | nil => rfl
  | cons x t =>
    obtain ⟨n, f⟩ := x
    -- `simp only` would unfold `W.push` in the test `h > w1.cp` and not in its `Decidable` instance
    dsimp only [afterPush, W.due, W.push]
    cases lastChar n with
    | none => rfl
    | some lc =>
      cases w.pos with
      | nil => rfl
      | cons h tl =>
        dsimp only
        by_cases hgt : h > w.cp + numChars n
        · simp only [if_pos hgt]; rfl
        · simp only [if_neg hgt, W.resetIf, W.reset]
          -- the model's `match` on the result of `hyphLoop` against `Option.bind`
          split
          · rename_i e; rw [e]; rfl
          · rename_i e; rw [e]; rfl

theorem hyphLoop_succ (eng : Engine) (font : Nat) (s : List Nat) (rbo : Option Nat) (fuel : Nat) {w : W}
    {h : Nat} {pos' : List Nat} (hpos : w.pos = h :: pos') :
    hyphLoop eng font s rbo (fuel + 1) w =
      if h < w.ssp ∨ s.length < h ∨ w.out.length < w.esp then none
      else
        (sync ((eng.run false rbo (s.drop h)).length + w.main.rest.length + 2) (w.sync0 eng s rbo h)).bind fun r =>
          if (w.disc eng font s h pos' r).pos.head?.all (fun p => decide (r.cp < p)) then
            some (w.disc eng font s h pos' r)
          else hyphLoop eng font s rbo fuel (w.disc eng font s h pos' r).reset := by
  rw [hyphLoop, hpos]
  dsimp only
  by_cases h1 : h < w.ssp ∨ s.length < h
  · rw [if_pos h1, if_pos (by omega)]
  · by_cases h2 : w.out.length < w.esp
    · rw [if_neg h1, if_pos h2, if_pos (by omega)]
    · rw [if_neg h1, if_neg h2, if_neg (by omega)]
      show (match sync _ (w.sync0 eng s rbo h) with | none => none | some r => _) = _
      cases sync _ (w.sync0 eng s rbo h) with
      | none => rfl
      | some r =>
        simp only [Option.bind_some, W.disc, W.reset]
        split
        · rename_i e; simp only [e, List.head?_nil, Option.all_none, if_true]
        · rename_i h2 t e
          simp only [e, List.head?_cons, Option.all_some, decide_eq_true_eq]

/-- The law of the engine the proofs need: C05's `spell` (for every option combination). -/
structure EngineOK (eng : Engine) : Prop where
  spell : ∀ dlb rbo w, C05.originals ((eng.run dlb rbo w).map (·.1)) = w

/-- `C` = the items of the main run consumed so far. -/
structure Base (font : Nat) (Mn : List Node) (w : W) (C : List Node) : Prop where
  rest : C ++ w.main.rest.map (·.1) = Mn
  cp : w.cp = countChars C
  erased : erase (mk w.out) (it w.out) = C.map (toItem font)
  amd : allMarkedDisc (mk w.out) (it w.out) = true
  p2 : P2 (mk w.out) (it w.out) = true

/-- The meaning of `elements_since_separation_point` / `start_of_separation_point`: of the consumed items `C`
the last `esp`, `CB`, stand at the end of `out` as they are; what precedes them, `A`, is good for the others, `CA`,
which have `ssp` characters. -/
structure SplitOK (font : Nat) (w : W) (C : List Node) (A : List (Item × Bool)) (CA CB : List Node) : Prop where
  split : C = CA ++ CB
  out : w.out = A ++ unmarkedL (CB.map (toItem font))
  esp : w.esp = CB.length
  good : Good A (CA.map (toItem font))
  ssp : w.ssp = countChars CA

theorem Base.letters {font : Nat} {Mn : List Node} {w : W} {C : List Node} (b : Base font Mn w C) :
    lettersL (it w.out) = C05.originals C := by
  rw [lettersL_it _ b.amd, b.erased, lettersL_toItem]

section
variable {font : Nat} {Mn : List Node} {w : W} {C : List Node}

theorem Base.good (b : Base font Mn w C) : Good w.out (C.map (toItem font)) := ⟨b.erased, b.amd, b.p2⟩

theorem Base.of_good (hrest : C ++ w.main.rest.map (·.1) = Mn) (hcp : w.cp = countChars C)
    (g : Good w.out (C.map (toItem font))) : Base font Mn w C :=
  ⟨hrest, hcp, g.erased, g.amd, g.p2⟩

theorem Base.resetIf (b : Base font Mn w C) (c : Bool) : Base font Mn (w.resetIf c) C := by
  cases c <;> exact ⟨b.rest, b.cp, b.erased, b.amd, b.p2⟩

theorem splitOK_reset (b : Base font Mn w C) : SplitOK font w.reset C w.out C [] where
  split := (List.append_nil _).symm
  out := (List.append_nil _).symm
  esp := rfl
  good := b.good
  ssp := b.cp

/-- Any reset gives a sound split (`splitOK_reset`), so under a conditional reset the split has to be sound already
only if the condition fails. -/
theorem SplitOK.resetIf (b : Base font Mn w C) {c : Bool}
    (hsp : c = true ∨ ∃ A CA CB, SplitOK font w C A CA CB) :
    ∃ A CA CB, SplitOK font (w.resetIf c) C A CA CB := by
  cases c
  · exact hsp.resolve_left Bool.false_ne_true
  · exact ⟨_, _, _, splitOK_reset b⟩

theorem push_step {A : List (Item × Bool)} {CA CB : List Node} (b : Base font Mn w C)
    (sp : SplitOK font w C A CA CB) {n : Node} {f : Bool} {t : List (Node × Bool)}
    (hrest : w.main.rest = (n, f) :: t) :
    Base font Mn (w.push font n f t) (C ++ [n]) ∧ SplitOK font (w.push font n f t) (C ++ [n]) A CA (CB ++ [n]) := by
  constructor
  · refine Base.of_good ?_ ?_ ?_
    · rw [List.append_assoc, ← b.rest, hrest]; rfl
    · show w.cp + numChars n = countChars (C ++ [n])
      rw [countChars_append, b.cp]; simp [countChars]
    · rw [List.map_append]
      exact b.good.append (Good.unmarked [toItem font n])
  · exact ⟨by rw [sp.split, List.append_assoc],
      by rw [List.map_append, unmarkedL_append, ← List.append_assoc, ← sp.out]; rfl,
      by rw [List.length_append, ← sp.esp]; rfl, sp.good, sp.ssp⟩

end

theorem preBreak_letters {eng : Engine} (he : EngineOK eng) (font : Nat) (s : List Nat) (ssp h : Nat) :
    preLetters (preBreak eng font s ssp h) = some ((s.drop ssp).take (h - ssp)) := by
  have : preBreak eng font s ssp h
      = ((eng.run true none ((s.drop ssp).take (h - ssp) ++ [hyphenChar])).map (·.1)).map (toDElem font) := by
    rw [List.map_map]; rfl
  have hl : lettersDL (preBreak eng font s ssp h) = (s.drop ssp).take (h - ssp) ++ [hyphenChar] := by
    rw [this, lettersDL_toDElem, he.spell]
  simp [preLetters, hl]

theorem insertDisc_eq (font : Nat) (A : List (Item × Bool)) (B : List Item) (pre : List DElem) (r : Sync) :
    insertDisc font (A ++ unmarkedL B) B.length pre r =
      A ++ (Item.disc pre (r.postBreak.map (toDElem font)) (B ++ r.pushed.map (toItem font)).length, true)
        :: unmarkedL (B ++ r.pushed.map (toItem font)) := by
  have hA : (A ++ unmarkedL B).length - B.length = A.length := by
    rw [List.length_append, unmarkedL, List.length_map]; omega
  rw [insertDisc, hA, ← unmarkedL_map, List.append_assoc, ← unmarkedL_append, List.take_left, List.drop_left,
    List.length_append (as := A), Nat.add_sub_cancel_left, unmarkedL, List.length_map]

theorem skipPast_eq (cp : Nat) (l : List Nat) : skipPast cp l = l.dropWhile (· < cp) := by
  induction l with
  | nil => rfl
  | cons h t ih => simp only [skipPast, List.dropWhile_cons, decide_eq_true_eq, ih]

theorem skipPast_sublist (cp : Nat) (l : List Nat) : (skipPast cp l).Sublist l :=
  skipPast_eq cp l ▸ List.dropWhile_sublist _

theorem skipPast_head (cp : Nat) {l : List Nat} {x : Nat} {t : List Nat} (e : skipPast cp l = x :: t) : cp ≤ x := by
  have := List.head?_dropWhile_not (· < cp) l
  rw [← skipPast_eq, e] at this
  exact Nat.not_lt.mp (of_decide_eq_false this)

theorem skipPast_split (cp : Nat) (l : List Nat) : ∃ sk, sk ++ skipPast cp l = l ∧ ∀ p ∈ sk, p < cp :=
  ⟨l.takeWhile (· < cp), skipPast_eq cp l ▸ List.takeWhile_append_dropWhile,
    fun p hp => of_decide_eq_true (List.all_eq_true.mp List.all_takeWhile p hp)⟩

theorem skipPast_ge {cp : Nat} {l : List Nat} (hs : l.Pairwise (· < ·)) : ∀ p ∈ skipPast cp l, cp ≤ p := by
  intro p hp
  cases e : skipPast cp l with
  | nil => rw [e] at hp; cases hp
  | cons x t =>
    have hx := skipPast_head cp e
    have hs' : (x :: t).Pairwise (· < ·) := e ▸ hs.sublist (skipPast_sublist cp l)
    rcases List.mem_cons.mp (e ▸ hp) with rfl | hpt
    · exact hx
    · have := (List.pairwise_cons.mp hs').1 p hpt; omega

theorem skipPast_map_add (cp acc : Nat) (l : List Nat) :
    skipPast (cp + acc) (l.map (· + acc)) = (skipPast cp l).map (· + acc) := by
  rw [skipPast_eq, skipPast_eq, List.dropWhile_map]
  congr 2
  funext x
  exact decide_eq_decide.mpr Nat.add_lt_add_iff_right

/-- Ghost state for the positions, in absolute letter offsets (`acc` letters precede the word):
`T` = the triples (break, span start, span end) of the discretionaries inserted so far, `done` = the
positions `indices` has already yielded. -/
structure PosInv (acc : Nat) (pos0 : List Nat) (out : List (Item × Bool)) (cp : Nat) (pos : List Nat)
    (T : List (Nat × Nat × Nat)) (done : List Nat) : Prop where
  disc : discPositions (mk out) (it out) acc = T
  split : done ++ pos = pos0
  taken : T.map (·.1) = done.filter (fun p => !coveredBy T p)
  /-- no span reaches beyond what the main run has pushed -/
  ends : ∀ t ∈ T, t.2.2 ≤ cp
  /-- no position still to come lies inside a span -/
  free : ∀ t ∈ T, ∀ p ∈ pos, t.2.2 ≤ p

/-- A discretionary for the next position `h` whose span ends at `c`: it is taken, the positions
below `c` that `skipPast` drops are covered by it, nothing before `h` is. -/
theorem PosInv.insert {acc : Nat} {pos0 : List Nat} (hsorted : pos0.Pairwise (· < ·)) {out : List (Item × Bool)}
    {cp h : Nat} {pos' : List Nat} {T : List (Nat × Nat × Nat)} {done : List Nat}
    (pi : PosInv acc pos0 out cp (h :: pos') T done)
    {out2 : List (Item × Bool)} {a c : Nat}
    (hdisc : discPositions (C14.mk out2) (it out2) acc = discPositions (C14.mk out) (it out) acc ++ [(h, a, c)])
    (hc : cp ≤ c) :
    ∃ done', PosInv acc pos0 out2 c (skipPast c pos') (T ++ [(h, a, c)]) done' := by
  obtain ⟨sk, hsk, hlt⟩ := skipPast_split c pos'
  obtain ⟨-, hhp, hdh⟩ := List.pairwise_append.mp (pi.split ▸ hsorted)
  obtain ⟨hgt, hpos'⟩ := List.pairwise_cons.mp hhp
  have hcov : ∀ p, coveredBy (T ++ [(h, a, c)]) p = (coveredBy T p || (decide (h < p) && decide (p < c))) := by
    intro p
    simp only [coveredBy, List.any_append, List.any_cons, List.any_nil, Bool.or_false]
  have hfreeh : coveredBy T h = false := by
    simp only [coveredBy, List.any_eq_false, Bool.and_eq_true, decide_eq_true_eq, not_and]
    intro t ht _
    have := pi.free t ht h List.mem_cons_self
    omega
  refine ⟨done ++ h :: sk, by rw [hdisc, pi.disc], ?_, ?_, ?_, ?_⟩
  · rw [List.append_assoc, List.cons_append, hsk]; exact pi.split
  · rw [List.map_append, pi.taken, List.filter_append, List.filter_cons]
    congr 1
    · apply List.filter_congr
      intro x hx
      have : ¬ h < x := Nat.not_lt.mpr (Nat.le_of_lt (hdh x hx h List.mem_cons_self))
      rw [hcov, decide_eq_false this, Bool.false_and, Bool.or_false]
    · have hsk0 : sk.filter (fun p => !coveredBy (T ++ [(h, a, c)]) p) = [] := by
        rw [List.filter_eq_nil_iff]
        intro p hp
        have h1 : h < p := hgt p (hsk ▸ List.mem_append_left _ hp)
        rw [hcov, decide_eq_true h1, decide_eq_true (hlt p hp)]
        simp
      rw [hcov, hfreeh, decide_eq_false (Nat.lt_irrefl h), hsk0]
      rfl
  · intro t ht
    rcases List.mem_append.mp ht with ht | ht
    · exact Nat.le_trans (pi.ends t ht) hc
    · cases List.mem_singleton.mp ht; exact Nat.le_refl _
  · intro t ht p hp
    rcases List.mem_append.mp ht with ht | ht
    · exact pi.free t ht p (List.mem_cons_of_mem _ ((skipPast_sublist c pos').subset hp))
    · cases List.mem_singleton.mp ht; exact skipPast_ge hpos' p hp

/-- `PosInv` holds of the loop state `w` for some ghost values `T`, `done`; the word starts after `acc` letters. -/
def Ghost (acc : Nat) (pos0 : List Nat) (w : W) : Prop :=
  ∃ T done, PosInv acc pos0 w.out (w.cp + acc) (w.pos.map (· + acc)) T done

/-- The positions still to come lie beyond what has been pushed. -/
def W.Ahead (w : W) : Prop := ∀ p ∈ w.pos, w.cp < p

theorem Ghost.resetIf {acc : Nat} {pos0 : List Nat} {w : W} (g : Ghost acc pos0 w) (c : Bool) :
    Ghost acc pos0 (w.resetIf c) := by
  cases c <;> exact g

theorem W.Ahead.resetIf {w : W} (ha : w.Ahead) (c : Bool) : (w.resetIf c).Ahead := by
  cases c <;> exact ha

theorem Ghost.push {acc : Nat} {pos0 : List Nat} {w : W} {font : Nat} {Mn : List Node} {C : List Node}
    (g : Ghost acc pos0 w) (b : Base font Mn w C) (n : Node) (f : Bool) (t : List (Node × Bool)) :
    Ghost acc pos0 (w.push font n f t) := by
  obtain ⟨T, done, pi⟩ := g
  refine ⟨T, done, ?_, pi.split, pi.taken, fun t ht => ?_, pi.free⟩
  · show discPositions (mk (w.out ++ [(toItem font n, false)])) (it (w.out ++ [(toItem font n, false)])) acc = T
    rw [discPositions_append _ _ b.p2, pi.disc]
    exact List.append_nil T
  · exact Nat.le_trans (pi.ends t ht) (Nat.add_le_add_right (Nat.le_add_right _ _) acc)

theorem Ghost.pos_sorted {acc : Nat} {pos0 : List Nat} {w : W} (hsorted : pos0.Pairwise (· < ·))
    (g : Ghost acc pos0 w) : w.pos.Pairwise (· < ·) := by
  obtain ⟨T, done, pi⟩ := g
  exact (List.pairwise_append.mp (pi.split ▸ hsorted)).2.1.of_map _ (fun _ _ => Nat.lt_of_add_lt_add_right)

theorem W.ahead_of_head {w : W} (hs : w.pos.Pairwise (· < ·))
    (h : w.pos.head?.all (fun p => decide (w.cp < p)) = true) : w.Ahead := by
  intro p hp
  cases hpos : w.pos with
  | nil => rw [hpos] at hp; cases hp
  | cons x t =>
    rw [hpos] at h hs hp
    have hx : w.cp < x := by simpa using h
    rcases List.mem_cons.mp hp with rfl | hpt
    · exact hx
    · exact Nat.lt_trans hx ((List.pairwise_cons.mp hs).1 p hpt)

theorem W.Ahead.push {font : Nat} {w : W} {n : Node} {f : Bool} {t : List (Node × Bool)} (ha : w.Ahead)
    (hs : w.pos.Pairwise (· < ·)) (hd : (w.push font n f t).due n = none) : (w.push font n f t).Ahead := by
  rcases W.due_none hd with hl | hh
  · intro p hp
    show w.cp + numChars n < p
    rw [numChars_of_lastChar_none hl]; exact ha p hp
  · exact W.ahead_of_head hs hh

section
variable {eng : Engine} {font : Nat} {s : List Nat} {rbo : Option Nat} {Mn : List Node}
  (he : EngineOK eng) (hs : C05.originals Mn = s)
include he hs

/-- One iteration of the TeX §914 loop: the synchronisation `r` started at the hyphen position `h`
and the discretionary inserted at the split. The base invariant holds again, and the discretionary offers
the break `h` and covers the letters `ssp .. r.cp`. -/
theorem disc_step {w : W} {C CA CB : List Node} {A : List (Item × Bool)} (b : Base font Mn w C)
    (sp : SplitOK font w C A CA CB) {h : Nat} (h1 : w.ssp ≤ h) (pos' : List Nat)
    {r : Sync} {postC mainC : List Node} (d : SyncDone (w.sync0 eng s rbo h) r postC mainC) :
    Base font Mn (w.disc eng font s h pos' r) (C ++ mainC) ∧
    (∀ acc, discPositions (mk (w.disc eng font s h pos' r).out) (it (w.disc eng font s h pos' r).out) acc
      = discPositions (mk w.out) (it w.out) acc ++ [(h + acc, w.ssp + acc, r.cp + acc)]) ∧
    w.cp ≤ r.cp := by
  -- what the synchronisation has done, read at its start state `sync0`
  have hmR : mainC ++ r.main.rest.map (·.1) = w.main.rest.map (·.1) := d.mainRest
  have hcp : r.cp = w.cp + countChars mainC := d.cp
  have hpcp : r.cp = h + countChars postC := d.same.symm.trans d.postCP
  have hpR : postC ++ r.post.rest.map (·.1) = (eng.run false rbo (s.drop h)).map (·.1) := d.postRest
  have hpu : r.pushed = mainC := d.pushed
  have hpb : r.postBreak = postC := d.postBreak
  have hC : C ++ mainC = CA ++ (CB ++ mainC) := by rw [sp.split, List.append_assoc]
  have hrest : (C ++ mainC) ++ r.main.rest.map (·.1) = Mn := by rw [List.append_assoc, hmR, b.rest]
  have hcpr : r.cp = countChars (C ++ mainC) := by rw [hcp, b.cp, countChars_append]
  have hcpBP : r.cp = w.ssp + countChars (CB ++ mainC) := by rw [hcpr, hC, countChars_append, sp.ssp]
  have hcple : r.cp ≤ s.length := hcpr ▸ countChars_le hrest hs
  have hhle : h ≤ r.cp := hpcp ▸ Nat.le_add_right _ _
  have hout : (w.disc eng font s h pos' r).out
      = A ++ (Item.disc (preBreak eng font s w.ssp h) (postC.map (toDElem font))
          ((CB ++ mainC).map (toItem font)).length, true) :: unmarkedL ((CB ++ mainC).map (toItem font)) := by
    show insertDisc font w.out w.esp _ r = _
    rw [sp.out, sp.esp, ← List.length_map (toItem font), insertDisc_eq, hpu, hpb, ← List.map_append]
  have hletBP : lettersL ((CB ++ mainC).map (toItem font)) = (s.drop w.ssp).take (r.cp - w.ssp) := by
    rw [lettersL_toItem, show r.cp - w.ssp = countChars (CB ++ mainC) by omega, sp.ssp]
    exact originals_slice (hC ▸ hrest) hs
  have hpostL : lettersDL (postC.map (toDElem font)) = (s.drop h).take (r.cp - h) := by
    rw [lettersDL_toDElem, show r.cp - h = countChars postC by omega]
    exact originals_slice (C1 := []) hpR (he.spell false rbo (s.drop h))
  have hpre := preBreak_letters he font s w.ssp h
  have g : Good (w.disc eng font s h pos' r).out ((C ++ mainC).map (toItem font)) := by
    have := sp.good.append (Good.disc (post := postC.map (toDElem font)) hpre
      (by rw [hpostL, hletBP]; exact slice_append s h1 hhle))
    rwa [← hout, ← List.map_append, ← hC] at this
  refine ⟨Base.of_good hrest hcpr g, ?_, hcp ▸ Nat.le_add_right _ _⟩
  intro acc
  rw [hout, discPositions_disc sp.good.p2 _ _ _ hpre, sp.out, discPositions_append A _ sp.good.p2,
    discPositions_unmarked, List.append_nil, sp.good.erased, lettersL_toItem, ← countChars_eq,
    ← sp.ssp, hletBP, length_slice s _ (Nat.le_trans hhle hcple), length_slice s _ hcple, Nat.add_assoc,
    Nat.add_sub_of_le h1, Nat.add_assoc, Nat.add_sub_of_le (Nat.le_trans h1 hhle), Nat.add_comm acc h,
    Nat.add_comm acc w.ssp, Nat.add_comm acc r.cp]

variable (acc : Nat) (pos0 : List Nat)

theorem hyphLoop_inv :
    ∀ (fuel : Nat) (w w' : W) (C : List Node) (A : List (Item × Bool)) (CA CB : List Node), Base font Mn w C →
      SplitOK font w C A CA CB → hyphLoop eng font s rbo fuel w = some w' →
      (∃ C', Base font Mn w' C') ∧ w'.main.sep = true ∧
      (pos0.Pairwise (· < ·) → Ghost acc pos0 w → Ghost acc pos0 w' ∧ w'.Ahead) := by
  intro fuel
  induction fuel with
  | zero => intro w w' C A CA CB _ _ h; simp [hyphLoop] at h
  | succ fuel ih =>
    intro w w' C A CA CB b sp h
    cases hpos : w.pos with
    | nil => rw [hyphLoop, hpos] at h; cases h
    | cons hh pos' =>
      rw [hyphLoop_succ _ _ _ _ _ hpos] at h
      split at h
      · cases h
      · obtain ⟨r, hsync, h⟩ := Option.bind_eq_some_iff.mp h
        obtain ⟨postC, mainC, d⟩ := sync_spec _ _ _ hsync
        obtain ⟨b2, hdisc, hwcp⟩ := disc_step he hs b sp (by omega : w.ssp ≤ hh) pos' d
        have ghost : pos0.Pairwise (· < ·) → Ghost acc pos0 w → Ghost acc pos0 (w.disc eng font s hh pos' r) := by
          intro hsorted ⟨T, done, pi⟩
          rw [hpos, List.map_cons] at pi
          obtain ⟨done', pi'⟩ := PosInv.insert hsorted pi (hdisc acc) (Nat.add_le_add_right hwcp acc)
          rw [skipPast_map_add] at pi'
          exact ⟨_, done', pi'⟩
        split at h
        · rename_i hexit
          cases h
          exact ⟨⟨_, b2⟩, d.mainSep, fun hsorted g =>
            ⟨ghost hsorted g, W.ahead_of_head ((ghost hsorted g).pos_sorted hsorted) hexit⟩⟩
        · obtain ⟨hb, hsep, hp⟩ := ih _ _ _ _ _ _ (b2.resetIf true) (splitOK_reset b2) h
          exact ⟨hb, hsep, fun hsorted g => hp hsorted ((ghost hsorted g).resetIf true)⟩

theorem afterPush_inv {w1 w3 : W} {C CA CB : List Node} {A : List (Item × Bool)} {n : Node} {f : Bool}
    (b1 : Base font Mn w1 C) (sp1 : SplitOK font w1 C A CA CB) (h : afterPush eng font s rbo w1 n f = some w3) :
    (∃ C', Base font Mn w3 C' ∧ (w3.main.sep = true ∨ ∃ A CA CB, SplitOK font w3 C' A CA CB)) ∧
      (pos0.Pairwise (· < ·) → Ghost acc pos0 w1 → (w1.due n = none → w1.Ahead) →
        Ghost acc pos0 w3 ∧ w3.Ahead) := by
  unfold afterPush at h
  split at h
  · rename_i hdue
    cases h
    exact ⟨⟨C, b1, Or.inr ⟨_, _, _, sp1⟩⟩, fun _ g ha => ⟨g, ha hdue⟩⟩
  · obtain ⟨A2, CA2, CB2, sp2⟩ := SplitOK.resetIf b1 (Or.inr ⟨_, _, _, sp1⟩)
    obtain ⟨⟨C', hb⟩, hsep, hp3⟩ := hyphLoop_inv he hs acc pos0 _ _ _ _ _ _ _ (b1.resetIf _) sp2 h
    exact ⟨⟨C', hb, Or.inl hsep⟩, fun hsorted g _ => hp3 hsorted (g.resetIf _)⟩

/-- `hyphLoop` stops at a separation point of the main run, so a sound split is asked for only away from one: at one
the first reset makes it. -/
theorem wordLoop_inv :
    ∀ (fuel : Nat) (w w' : W) (C : List Node), Base font Mn w C →
      (w.main.sep = true ∨ ∃ A CA CB, SplitOK font w C A CA CB) → wordLoop eng font s rbo fuel w = some w' →
      Base font Mn w' Mn ∧
      (pos0.Pairwise (· < ·) → Ghost acc pos0 w → w.Ahead → Ghost acc pos0 w' ∧ w'.Ahead) := by
  intro fuel
  induction fuel with
  | zero => intro w w' C _ _ h; simp [wordLoop] at h
  | succ fuel ih =>
    intro w0 w' C b0 hsp h
    rw [wordLoop_succ] at h
    have b := b0.resetIf w0.main.sep
    obtain ⟨A, CA, CB, sp⟩ := SplitOK.resetIf b0 hsp
    have gh : Ghost acc pos0 w0 → w0.Ahead →
        Ghost acc pos0 (w0.resetIf w0.main.sep) ∧ (w0.resetIf w0.main.sep).Ahead :=
      fun g ha => ⟨g.resetIf _, ha.resetIf _⟩
    generalize w0.resetIf w0.main.sep = w at h b sp gh
    split at h
    · rename_i hrest
      cases h
      have hC : C = Mn := by have := b.rest; rwa [hrest, List.map_nil, List.append_nil] at this
      exact ⟨hC ▸ b, fun _ => gh⟩
    · rename_i n f t hrest
      obtain ⟨b1, sp1⟩ := push_step b sp hrest
      obtain ⟨w3, hround, h⟩ := Option.bind_eq_some_iff.mp h
      obtain ⟨⟨C3, b3, hsp3⟩, hp3⟩ := afterPush_inv he hs acc pos0 b1 sp1 hround
      obtain ⟨hb, hp⟩ := ih _ _ _ b3 hsp3 h
      refine ⟨hb, fun hsorted g ha => ?_⟩
      obtain ⟨g1, ha1⟩ := gh g ha
      obtain ⟨g3, ha3⟩ := hp3 hsorted (g1.push b n f t) (ha1.push (g1.pos_sorted hsorted))
      exact hp hsorted g3 ha3

end

/-- Triples `T` and allowed positions `E` of a segment that starts after `acc` letters. -/
structure PosOK (T : List (Nat × Nat × Nat)) (E : List Nat) (acc : Nat) : Prop where
  eq : T.map (·.1) = E.filter (fun p => !coveredBy T p)
  loT : ∀ t ∈ T, acc < t.1
  loE : ∀ e ∈ E, acc < e

/-- For every list of positions the rebuilt word is good relative to the main run of the word; for
ascending positions in range its discretionaries sit at the positions no earlier one covers
(absolute letter offsets, for a word that starts after `acc` letters). -/
theorem rebuildWord_spec {eng : Engine} (he : EngineOK eng) (font : Nat) (s : List Nat) (rbo : Option Nat)
    (dlb : Bool) (pos : List Nat) (out : List (Item × Bool))
    (h : rebuildWord eng font s rbo dlb pos = some out) :
    Good out (((eng.run dlb rbo s).map (·.1)).map (toItem font)) ∧
    (pos.Pairwise (· < ·) → (∀ p ∈ pos, 1 ≤ p ∧ p ≤ s.length) → ∀ acc,
      PosOK (discPositions (mk out) (it out) acc) (pos.map (· + acc)) acc ∧
        ∀ t ∈ discPositions (mk out) (it out) acc, t.2.2 ≤ acc + s.length) := by
  simp only [rebuildWord, Option.map_eq_some_iff] at h
  obtain ⟨w', hw, rfl⟩ := h
  have b0 : Base font ((eng.run dlb rbo s).map (·.1))
      { out := [], cp := 0, esp := 0, ssp := 0, pos := pos, main := ⟨eng.run dlb rbo s, true⟩ } [] :=
    ⟨rfl, rfl, rfl, rfl, rfl⟩
  have inv := fun acc =>
    wordLoop_inv (rbo := rbo) he (he.spell dlb rbo s) acc (pos.map (· + acc)) _ _ _ _ b0 (Or.inl rfl) hw
  obtain ⟨b', -⟩ := inv 0
  refine ⟨b'.good, fun hsorted hrange acc => ?_⟩
  obtain ⟨⟨T', done', pi'⟩, hgt'⟩ :=
    (inv acc).2 (hsorted.map _ (fun _ _ h => Nat.add_lt_add_right h acc))
      ⟨[], [], rfl, rfl, rfl, nofun, nofun⟩ (fun p hp => (hrange p hp).1)
  have hcp : w'.cp = s.length := by rw [b'.cp, countChars_eq, he.spell]
  -- every position has been yielded: one still waiting would lie beyond the end of the word
  obtain rfl : done' = pos.map (· + acc) := by
    cases hp' : w'.pos with
    | nil => have := pi'.split; rwa [hp', List.map_nil, List.append_nil] at this
    | cons x t =>
      have h1 := hgt' x (hp' ▸ List.mem_cons_self)
      have hx : x + acc ∈ pos.map (· + acc) :=
        pi'.split ▸ List.mem_append_right _ (List.mem_map_of_mem (hp' ▸ List.mem_cons_self))
      obtain ⟨p, hp, e⟩ := List.mem_map.mp hx
      have h2 := (hrange p hp).2
      omega
  have hlo : ∀ e ∈ pos.map (· + acc), acc < e := by
    intro e he
    obtain ⟨p, hp, rfl⟩ := List.mem_map.mp he
    exact Nat.lt_add_of_pos_left (hrange p hp).1
  rw [pi'.disc]
  refine ⟨⟨pi'.taken, fun t ht => hlo _ ?_, hlo⟩, fun t ht => ?_⟩
  · exact (List.mem_filter.mp (pi'.taken ▸ List.mem_map_of_mem ht)).1
  rw [Nat.add_comm, ← hcp]
  exact pi'.ends t ht

theorem markSeps_fst (l : List Node) (b : Bool) : (markSeps l b).map (·.1) = l := by
  induction l with
  | nil => rfl
  | cons x l ih =>
    cases l with
    | nil => rfl
    | cons y t => simp only [markSeps, List.map_cons, ih]

theorem goLS_fst (tbl : Option Nat → Nat → Option C05.Repl) (rb : Option Nat) :
    ∀ (w : List Nat) (left : Option Nat) (lio : Bool) (lg : Option C05.Pending),
      (goLS tbl rb w left lio lg).map (·.1) = C05.goL tbl rb w left lio lg := by
  intro w
  induction w with
  | nil =>
    intro left lio lg
    cases left with
    | none => simp [goLS, C05.goL]
    | some l =>
      simp only [goLS, C05.goL]
      cases rb.bind (fun r => tbl (some l) r) with
      | none => simp
      | some rep =>
        simp only
        split <;> simp [markSeps_fst]
  | cons r rest ih =>
    intro left lio lg
    simp only [goLS, C05.goL]
    cases tbl left r with
    | none => cases left <;> simp [ih]
    | some rep =>
      simp only
      split <;> simp [markSeps_fst, ih]

/-- Every compiled table that satisfies C05's `GoodTable` (in particular `C05.table p` of every
program, `C05.table_good`) is an engine that spells — also with `right_boundary_override` and
`disable_left_boundary`. -/
theorem engineOf_ok (tbl : Option Nat → Nat → Option C05.Repl) (prb : Option Nat) (ht : C05.GoodTable tbl) :
    EngineOK (engineOf tbl prb) := by
  constructor
  intro dlb rbo w
  simp only [engineOf]
  cases dlb with
  | false =>
    simp only [Bool.false_eq_true, if_false, goLS_fst]
    have := C05.goL_spell (effRb rbo prb) ht w none
    simpa using this
  | true =>
    simp only [if_true]
    cases w with
    | nil => rfl
    | cons c w' =>
      simp only [goLS_fst]
      have := C05.goL_spell (effRb rbo prb) ht w' (some c)
      simpa using this

end C14
