import TexcraftModel.Lemmas.C06Units
import TexcraftModel.Lemmas.C06Frac
/-!
C06 — `scan_dimen` (M) against TeX §448–§460 (S). Both compute `headVal`, the value of the head in its
unit before the signs (`scanDimen_val`, `specScanDimen_val`); that they agree and that the code never
panics are read off those two equations.
-/
namespace C06

theorem rdAcc_foldr (ds : List Nat) :
    rdAcc ds = ds.foldr (fun (d : Nat) (a : Int) => (a + (d : Int) * 131072) / 10) 0 := by
  induction ds with
  | nil => rfl
  | cons d ds ih => simp only [rdAcc, List.foldr_cons, ih]

theorem scanFraction_eq (ds : List Nat) : scanFraction ds = Spec.scanFraction ds := by
  unfold scanFraction Spec.scanFraction fromDecimalDigits Spec.roundDecimals
  rw [rdAcc_foldr]

theorem scanFraction_bound (fr : List Nat) (h : ∀ d ∈ fr, d < 10) :
    0 ≤ scanFraction fr ∧ scanFraction fr ≤ 65536 :=
  fromDecimalDigits_bound _ (fun d hd => h d (List.mem_of_mem_take hd))

/-- The coefficient the code computes from the head of a dimension: integer part, fraction. -/
def coeff : Head → Int × Int
  | .const radix ds fr =>
    ((scanConst radix ds).1,
     match fr with
     | some fd => if radix = 10 then scanFraction fd else 0
     | none => 0)
  | .point fr => (0, scanFraction fr)
  | .int i => (satAbs i, 0)
  | .dimen _ => (0, 0)

/-- Inputs the scanner can be given: digits below the radix, 32-bit internal values; the
internal integer `-2^31` (whose negation TeX cannot form) is covered by examples instead. -/
def Head.WF : Head → Prop
  | .const radix ds fr =>
    (radix = 10 ∨ radix = 8 ∨ radix = 16) ∧ (∀ d ∈ ds, (d : Int) < radix) ∧
      (∀ fd, fr = some fd → ∀ d ∈ fd, d < 10)
  | .point fr => ∀ d ∈ fr, d < 10
  | .int i => -2147483647 ≤ i ∧ i ≤ 2147483647
  | .dimen d => -2147483648 ≤ d ∧ d ≤ 2147483647

/-- Heads the scanner can be given, *including* the internal integer `-2^31`: `Head.WF` with the
lower bound of `.int` at `-2^31` instead of `-2^31+1`, nothing else differs. -/
def Head.WF32 : Head → Prop
  | .const radix ds fr =>
    (radix = 10 ∨ radix = 8 ∨ radix = 16) ∧ (∀ d ∈ ds, (d : Int) < radix) ∧
      (∀ fd, fr = some fd → ∀ d ∈ fd, d < 10)
  | .point fr => ∀ d ∈ fr, d < 10
  | .int i => -2147483648 ≤ i ∧ i ≤ 2147483647
  | .dimen d => -2147483648 ≤ d ∧ d ≤ 2147483647

theorem Head.WF.wf32 {h : Head} (wf : h.WF) : h.WF32 := by
  cases h with
  | int i => simp only [Head.WF] at wf; simp only [Head.WF32]; omega
  | _ => exact wf

theorem coeff_bound (h : Head) (wf : h.WF32) :
    0 ≤ (coeff h).1 ∧ 0 ≤ (coeff h).2 ∧ (coeff h).2 ≤ 65536 := by
  cases h with
  | dimen d => simp [coeff]
  | int i =>
    simp only [Head.WF32] at wf
    simp only [coeff, satAbs]
    split <;> (try split) <;> omega
  | point fr =>
    have hb := scanFraction_bound fr wf
    exact ⟨by simp [coeff], hb.1, hb.2⟩
  | const radix ds fr =>
    obtain ⟨hr, hd, hfd⟩ := wf
    have hc := scanConst_range radix (by omega) ds hd
    refine ⟨hc.1, ?_⟩
    simp only [coeff]
    cases fr with
    | none => simp
    | some fd =>
      simp only []
      split
      · exact scanFraction_bound fd (hfd fd rfl)
      · omega

theorem scanDimen_const (neg : Bool) (radix : Int) (ds : List Nat) (fr : Option (List Nat)) (u : UnitSpec)
    (sc : Scan)
    (h : mulSign (applyUnits (coeff (.const radix ds fr)).1 (coeff (.const radix ds fr)).2 u)
      (if neg then -1 else 1) = .ok sc) :
    scanDimen neg (.const radix ds fr) u = .ok { sc with nerr := sc.nerr + (scanConst radix ds).2 } := by
  cases fr <;> simp only [coeff] at h <;> simp only [scanDimen, h]

theorem specScanDimen_const (neg : Bool) (radix : Int) (ds : List Nat) (fr : Option (List Nat)) (u : UnitSpec)
    (hc : scanConst radix ds = Spec.scanConst radix ds) :
    Spec.scanDimen neg (.const radix ds fr) u
      = Spec.units (coeff (.const radix ds fr)).1 (coeff (.const radix ds fr)).2 neg (scanConst radix ds).2 u := by
  simp only [Spec.scanDimen, coeff, ← hc, ← scanFraction_eq]
  cases fr <;> rfl

/-- The sign a head contributes (only an internal integer has one). -/
def headSign : Head → Int
  | .int i => sgn i
  | _ => 1

/-- The errors a head reports by itself: "number too big" in its constant, or a constant with no digits. -/
def headErrs : Head → Nat
  | .const radix ds _ => (scanConst radix ds).2
  | _ => 0

/-- What `scan_dimen` finds before the signs are applied: an internal dimension range-checked, anything
else a coefficient in a unit. `cneg`: whether "too large" is clamped to `-max_dimen`. -/
def headVal (cneg : Bool) (h : Head) (u : UnitSpec) : Scan :=
  match h with
  | .dimen d => clamped false (if d < -maxDimen ∨ d > maxDimen then none else some d) 0 0
  | h => clamped cneg (dimVal (coeff h).1 (coeff h).2 u) (unitErrs u) (unitOrder u)

theorem headVal_bound (cneg : Bool) (h : Head) (u : UnitSpec) (wf : h.WF32) :
    -1073741823 ≤ (headVal cneg h u).val ∧ (headVal cneg h u).val ≤ 1073741823 := by
  have hM : maxDimen = 1073741823 := rfl
  obtain ⟨b1, b3, _⟩ := coeff_bound h wf
  have hu := clamped_bound cneg _ (unitErrs u) (unitOrder u) fun x hx => dimVal_bound _ _ b1 b3 u x hx
  cases h with
  | dimen d =>
    refine clamped_bound _ _ _ _ fun x hx => ?_
    simp only [Option.ite_none_left_eq_some, Option.some.injEq] at hx
    omega
  | int i => exact hu
  | point fr => exact hu
  | const r ds fr => exact hu

theorem headSign_bound (neg : Bool) (h : Head) :
    -1 ≤ (if neg then -1 else 1) * headSign h ∧ (if neg then -1 else 1) * headSign h ≤ 1 := by
  have : -1 ≤ headSign h ∧ headSign h ≤ 1 := by
    cases h <;> simp only [headSign, sgn] <;> (try split) <;> (try split) <;> omega
  cases neg <;> simp <;> omega

theorem mulSign_signed (sc : Scan) (σ : Int) (hσ : -1 ≤ σ ∧ σ ≤ 1)
    (h : -1073741823 ≤ sc.val ∧ sc.val ≤ 1073741823) : mulSign (.ok sc) σ = .ok (sc.signed σ 0) := by
  have hb : -1073741823 ≤ sc.val * σ ∧ sc.val * σ ≤ 1073741823 := sc.signed_bound σ 0 hσ h
  simp only [mulSign]
  rw [if_pos (by simp [inI32]; omega)]
  rfl

theorem scanDimen_val (neg : Bool) (h : Head) (u : UnitSpec) (wf : h.WF32) :
    scanDimen neg h u
      = .ok ((headVal (negUnitOverflow (coeff h).1 (coeff h).2 u) h u).signed
          ((if neg then -1 else 1) * headSign h) (headErrs h)) := by
  have hv := headVal_bound (negUnitOverflow (coeff h).1 (coeff h).2 u) h u wf
  have hσ := headSign_bound neg h
  obtain ⟨b1, b3, b4⟩ := coeff_bound h wf
  have ha := applyUnits_val _ _ b1 b3 b4 u
  cases h with
  | dimen d =>
    simp only [headSign, Int.mul_one, headVal] at hσ hv ⊢
    simp only [scanDimen, headErrs]
    by_cases hd : d < -maxDimen ∨ d > maxDimen
    · rw [if_pos hd] at hv; rw [if_pos hd, if_pos hd]; exact mulSign_signed _ _ hσ hv
    · rw [if_neg hd] at hv; rw [if_neg hd, if_neg hd]; exact mulSign_signed _ _ hσ hv
  | int i =>
    show mulSign (applyUnits (coeff (.int i)).1 (coeff (.int i)).2 u) _ = _
    rw [ha]; exact mulSign_signed _ _ hσ hv
  | point fr =>
    simp only [headSign, Int.mul_one] at hσ ⊢
    show mulSign (applyUnits (coeff (.point fr)).1 (coeff (.point fr)).2 u) _ = _
    rw [ha]; exact mulSign_signed _ _ hσ hv
  | const r ds fr =>
    simp only [headSign, Int.mul_one] at hσ ⊢
    rw [scanDimen_const neg r ds fr u _ (by rw [ha]; exact mulSign_signed _ _ hσ hv)]
    rfl

theorem specScanDimen_val (neg : Bool) (h : Head) (u : UnitSpec) (wf : h.WF) :
    Spec.scanDimen neg h u
      = (SRes.ok ((headVal false h u).signed ((if neg then -1 else 1) * headSign h) (headErrs h))).toSR := by
  have hM : maxDimen = 1073741823 := rfl
  obtain ⟨b1, b3, _⟩ := coeff_bound h wf.wf32
  have hu := fun neg e => units_val _ _ b1 b3 neg e u
  cases h with
  | dimen d =>
    simp only [Spec.scanDimen, attachSign_val, headVal, headSign, Int.mul_one, headErrs, Bool.false_eq_true,
      false_or, show d.natAbs ≥ 1073741824 ↔ d < -maxDimen ∨ d > maxDimen by omega]
  | point fr =>
    simp only [Spec.scanDimen, ← scanFraction_eq, headSign, Int.mul_one]
    exact hu neg 0
  | const r ds fr =>
    rw [specScanDimen_const neg r ds fr u (scanConst_eq r wf.1 ds wf.2.1), hu]
    simp only [headSign, Int.mul_one]
    rfl
  | int i =>
    simp only [Head.WF] at wf
    simp only [coeff] at hu
    simp only [Spec.scanDimen, headSign, headErrs, headVal, coeff]
    -- the one place where the sign of an internal integer is taken apart; at `0` both sides are `0`
    by_cases hi : i < 0
    · have hs : satAbs i = -i := by unfold satAbs; rw [if_neg (by omega), if_pos hi]
      have hg : sgn i = -1 := by unfold sgn; rw [if_neg (by omega), if_pos hi]
      rw [hs] at hu ⊢
      rw [if_pos hi, hu, hg]
      cases neg <;> simp
    · by_cases h0 : i = 0
      · subst h0
        rw [show satAbs 0 = 0 by decide] at hu ⊢
        rw [if_neg hi, hu, dimVal_zero]
        simp [clamped, Scan.signed, sgn]
      · have hs : satAbs i = i := by unfold satAbs; rw [if_neg (by omega), if_neg hi]
        have hg : sgn i = 1 := by unfold sgn; rw [if_pos (by omega)]
        rw [hs] at hu ⊢
        rw [if_neg hi, hu, hg, Int.mul_one]

theorem scanDimen_eq (neg : Bool) (h : Head) (u : UnitSpec) (wf : h.WF)
    (hex : negUnitOverflow (coeff h).1 (coeff h).2 u = false) :
    (scanDimen neg h u).toSR = Spec.scanDimen neg h u := by
  rw [scanDimen_val neg h u wf.wf32, specScanDimen_val neg h u wf, hex]

theorem scanDimen_total (neg : Bool) (h : Head) (u : UnitSpec) (wf : h.WF32) :
    ∃ sc, scanDimen neg h u = .ok sc ∧ -1073741823 ≤ sc.val ∧ sc.val ≤ 1073741823 :=
  ⟨_, scanDimen_val neg h u wf, Scan.signed_bound _ _ _ (headSign_bound neg h) (headVal_bound _ h u wf)⟩

end C06
