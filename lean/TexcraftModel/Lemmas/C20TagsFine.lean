import TexcraftModel.Model.C20TagsFine

/-! C20 — instruction-level tag machines: invariant of the locked protocol, witnesses for the mutants. -/
namespace C20.TagsFine

/-- Invariant of `lockProg`. -/
structure Good (s : St) : Prop where
  excl : ∀ i, (s.th i).pc ≠ 0 → s.owner = some i
  pcLt : ∀ i, (s.th i).pc < 4
  count : s.counter = s.out.length + 1
  lt : ∀ p ∈ s.out, 1 ≤ p.2 ∧ p.2 < s.counter
  nodup : (s.out.map (·.2)).Nodup
  loaded : ∀ i, (s.th i).pc = 2 → (s.th i).reg = s.counter

theorem good_init : Good init :=
  ⟨fun _ h => absurd rfl h, fun _ => (by decide : 0 < 4), rfl, nofun, List.nodup_nil,
    fun _ h => absurd h (by decide : (0 : Nat) ≠ 2)⟩

theorem upd_same (f : Nat → Th) (i : Nat) (t : Th) : upd f i t i = t := if_pos rfl
theorem upd_other (f : Nat → Th) (i j : Nat) (t : Th) (h : j ≠ i) : upd f i t j = f j := if_neg h

/-- While every thread but `i` is at the start of a call, only thread `i` and the output matter:
the conditions on the other threads hold whatever owner and counter are. -/
theorem good_upd {s : St} {i : Nat} (hoth : ∀ j, j ≠ i → (s.th j).pc = 0) {t : Th}
    {o : Option Nat} {c : Nat} {out : List (Nat × Nat)}
    (hex : t.pc ≠ 0 → o = some i) (hpc : t.pc < 4) (hld : t.pc = 2 → t.reg = c)
    (hcount : c = out.length + 1) (hlt : ∀ p ∈ out, 1 ≤ p.2 ∧ p.2 < c)
    (hnd : (out.map (·.2)).Nodup) :
    Good { counter := c, owner := o, th := upd s.th i t, out := out } := by
  have hth : ∀ j, (j = i ∧ upd s.th i t j = t) ∨ (upd s.th i t j).pc = 0 := by
    intro j
    by_cases e : j = i
    · exact .inl ⟨e, e ▸ upd_same _ _ _⟩
    · exact .inr (by rw [upd_other _ _ _ _ e]; exact hoth j e)
  refine ⟨fun j hj => ?_, fun j => ?_, hcount, hlt, hnd, fun j hj => ?_⟩
  · dsimp only at hj ⊢
    rcases hth j with ⟨rfl, e⟩ | e
    · exact hex (e ▸ hj)
    · exact absurd e hj
  · dsimp only
    rcases hth j with ⟨_, e⟩ | e
    · rw [e]; exact hpc
    · rw [e]; decide
  · dsimp only at hj ⊢
    rcases hth j with ⟨_, e⟩ | e
    · rw [e] at hj ⊢; exact hld hj
    · rw [e] at hj; cases hj

theorem good_step (s : St) (i : Nat) (g : Good s) : Good (step lockProg s i) := by
  by_cases h : (s.th i).pc = 0
  · cases ho : s.owner with
    | some o =>
      have hs : step lockProg s i = s := by unfold step; dsimp only; rw [h, ho]; rfl
      rw [hs]; exact g
    | none =>
      have hs : step lockProg s i
          = { s with owner := some i, th := upd s.th i { (s.th i) with pc := 1 } } := by
        unfold step; dsimp only; rw [h, ho]; rfl
      rw [hs]
      refine good_upd (fun j _ => ?_) (fun _ => rfl) (show 1 < 4 by decide) nofun g.count g.lt g.nodup
      apply Decidable.byContradiction
      intro hj
      exact nomatch (g.excl j hj).symm.trans ho
  · -- thread `i` is inside a call: it holds the mutex, so no other thread is
    have ho := g.excl i h
    have hoth : ∀ j, j ≠ i → (s.th j).pc = 0 := by
      intro j e
      apply Decidable.byContradiction
      intro hj
      exact e (Option.some.inj ((g.excl j hj).symm.trans ho))
    rcases (by decide : ∀ n < 4, n ≠ 0 → n = 1 ∨ n = 2 ∨ n = 3) _ (g.pcLt i) h with h | h | h
    · have hs : step lockProg s i = { s with th := upd s.th i { pc := 2, reg := s.counter } } := by
        unfold step; dsimp only; rw [h]; rfl
      rw [hs]
      exact good_upd hoth (fun _ => ho) (show 2 < 4 by decide) (fun _ => rfl) g.count g.lt g.nodup
    · -- the value loaded is the counter, above every tag handed out so far
      have hs : step lockProg s i
          = { s with counter := (s.th i).reg + 1, out := (i, (s.th i).reg) :: s.out,
                     th := upd s.th i { (s.th i) with pc := 3 } } := by
        unfold step; dsimp only; rw [h]; rfl
      rw [hs, g.loaded i h]
      refine good_upd hoth (fun _ => ho) (show 3 < 4 by decide) nofun (congrArg (· + 1) g.count) ?_ ?_
      · intro p hp
        rcases List.mem_cons.mp hp with rfl | hp
        · exact ⟨by rw [g.count]; exact Nat.succ_pos _, Nat.lt_succ_self _⟩
        · exact ⟨(g.lt p hp).1, Nat.lt_succ_of_lt (g.lt p hp).2⟩
      · rw [List.map_cons, List.nodup_cons]
        refine ⟨fun hm => ?_, g.nodup⟩
        obtain ⟨p, hp, hpe⟩ := List.mem_map.mp hm
        exact Nat.lt_irrefl _ (hpe ▸ (g.lt p hp).2)
    · have hs : step lockProg s i
          = { s with owner := none, th := upd s.th i { (s.th i) with pc := 0 } } := by
        unfold step; dsimp only; rw [h]; rfl
      rw [hs]
      exact good_upd hoth (fun h0 => absurd rfl h0) (show 0 < 4 by decide) nofun g.count g.lt g.nodup

theorem good_run (sched : List Nat) : ∀ s, Good s → Good (run lockProg s sched) := by
  induction sched with
  | nil => intro s g; exact g
  | cons i t ih => intro s g; exact ih _ (good_step s i g)

theorem lock_tags_distinct (sched : List Nat) : (tags (run lockProg init sched)).Nodup :=
  (good_run sched init good_init).nodup

theorem lock_tags_range (sched : List Nat) :
    ∀ t ∈ tags (run lockProg init sched), 1 ≤ t ∧ t < (run lockProg init sched).counter := by
  intro t ht
  obtain ⟨p, hp, rfl⟩ := List.mem_map.mp ht
  exact (good_run sched init good_init).lt p hp

theorem lock_tags_count (sched : List Nat) :
    (run lockProg init sched).counter = (tags (run lockProg init sched)).length + 1 := by
  rw [tags, List.length_map]
  exact (good_run sched init good_init).count

theorem lock_mutual_exclusion (sched : List Nat) (i j : Nat)
    (hi : ((run lockProg init sched).th i).pc ≠ 0) (hj : ((run lockProg init sched).th j).pc ≠ 0) :
    i = j := by
  have g := good_run sched init good_init
  exact Option.some.inj ((g.excl i hi).symm.trans (g.excl j hj))

theorem racy_duplicate : ∃ sched, ¬ (tags (run racyProg init sched)).Nodup :=
  ⟨[0, 0, 0, 1, 1, 1, 0, 0, 0, 1, 1, 1], by decide⟩

end C20.TagsFine

namespace C20.StaticFine

/-- Invariant of `codedProg`: every thread is between calls, and every `get` so far returned what
the cell holds. -/
structure Good (s : St) : Prop where
  pc0 : ∀ i, (s.th i).pc = 0
  empty : s.cell = none → s.out = []
  same : ∀ c, s.cell = some c → ∀ p ∈ s.out, p.2 = c

theorem good_init : Good init := ⟨fun _ => rfl, fun _ => rfl, fun _ _ _ hp => nomatch hp⟩

theorem good_step (s : St) (i : Nat) (g : Good s) : Good (step codedProg s i) := by
  have h := g.pc0 i
  have hpc : ∀ t : Th, ∀ j, (upd s.th i { t with pc := 0 } j).pc = 0 := by
    intro t j
    unfold upd
    split
    · rfl
    · exact g.pc0 j
  cases hc : s.cell with
  | none =>
    have hs : step codedProg s i =
        { s with cell := some s.counter, counter := s.counter + 1, out := (i, s.counter) :: s.out,
                 th := upd s.th i { (s.th i) with pc := 0 } } := by
      simp [step, h, codedProg, next, hc]
    rw [hs, g.empty hc]
    refine ⟨hpc _, nofun, fun c hcell p hp => ?_⟩
    cases hcell
    cases List.mem_singleton.mp hp
    rfl
  | some v =>
    have hs : step codedProg s i =
        { s with out := (i, v) :: s.out, th := upd s.th i { (s.th i) with pc := 0 } } := by
      simp [step, h, codedProg, next, hc]
    rw [hs]
    refine ⟨hpc _, fun he => absurd (hc.symm.trans he) (Option.some_ne_none v), fun c hcell p hp => ?_⟩
    rcases List.mem_cons.mp hp with rfl | hp
    · exact Option.some.inj (hc.symm.trans hcell)
    · exact g.same c hcell p hp

theorem good_run (sched : List Nat) : ∀ s, Good s → Good (run codedProg s sched) := by
  induction sched with
  | nil => intro s g; exact g
  | cons i t ih => intro s g; exact ih _ (good_step s i g)

theorem coded_static_once (sched : List Nat) :
    ∀ v ∈ vals (run codedProg init sched), ∀ w ∈ vals (run codedProg init sched), v = w := by
  intro v hv w hw
  have g := good_run sched init good_init
  obtain ⟨p, hp, rfl⟩ := List.mem_map.mp hv
  obtain ⟨q, hq, rfl⟩ := List.mem_map.mp hw
  cases hc : (run codedProg init sched).cell with
  | none => rw [g.empty hc] at hp; cases hp
  | some c => rw [g.same c hc p hp, g.same c hc q hq]

theorem mutant_static_two_values :
    ∃ sched, ∃ v ∈ vals (run mutantProg init sched), ∃ w ∈ vals (run mutantProg init sched), v ≠ w :=
  ⟨[0, 1, 0, 1, 0, 1], 2, by decide, 1, by decide, by decide⟩

end C20.StaticFine
