import TexcraftModel.Lemmas.C20GMap

/-! C20 — the remaining observers of the scoped map (`iter`, `len`, `is_empty`) and `extend`. -/
namespace C20
variable {K V : Type} [DecidableEq K]

theorem gmap_iter_spec (m : GMap K V) (h : Inv m) :
    (∀ k v, (k, v) ∈ m.iter ↔ m.abs.cur k = some v) ∧ (m.iter.map (·.1)).Nodup ∧
    m.len = m.iter.length ∧ (m.isEmpty = true ↔ ∀ k, m.abs.cur k = none) := by
  refine ⟨mem_iff_alookup m.bc h.bcNodup, h.bcNodup, rfl, ?_⟩
  obtain ⟨bc, gs⟩ := m
  cases bc with
  | nil => exact ⟨fun _ _ => rfl, fun _ => rfl⟩
  | cons p t =>
    obtain ⟨a, w⟩ := p
    refine ⟨fun he => (by cases he), fun hall => ?_⟩
    have ha : alookup ((a, w) :: t) a = none := hall a
    rw [alookup_cons, if_pos rfl] at ha
    cases ha

theorem gmap_extend_run (m : GMap K V) (l : List (K × V)) :
    m.extend l = (m.run (l.map fun p => Op.insert p.1 p.2 .loc)).1 := by
  induction l generalizing m with
  | nil => rfl
  | cons p t ih =>
    obtain ⟨k, v⟩ := p
    simp only [GMap.extend, List.map_cons, GMap.run, GMap.step]
    exact ih _

end C20
