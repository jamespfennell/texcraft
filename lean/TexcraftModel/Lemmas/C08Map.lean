import TexcraftModel.Lemmas.C20GMap
namespace C08
open C20

/-!
# C08 — `FromIterator` and `iter_all` are natural in the values of a scoped map

Neither function ever looks at a value, so mapping the values commutes with both
(`fromIter_map`, `iterAll_map`: structural equalities). Everything C08 needs to know about
where the values of a rebuilt map or of an iteration come from is an instance of this: a partial
encoding is a value map into `Option`, a predicate is a value map into `Prop`.
-/

variable {K V W : Type} [DecidableEq K]

def amap (f : V → W) (l : AList K V) : AList K W := l.map (fun p => (p.1, f p.2))

def actMap (f : V → W) : Action V → Action W
  | .revert v => .revert (f v)
  | .delete => .delete

def gmapMap (f : V → W) (m : GMap K V) : GMap K W :=
  { bc := amap f m.bc, groups := m.groups.map (amap (actMap f)) }

def itemMap (f : V → W) : Item K V → Item K W
  | .beginGroup => .beginGroup
  | .value k v => .value k (f v)

def resMap {α β : Type} (f : α → β) : Res α → Res β
  | .ok a => .ok (f a)
  | .panic => .panic
  | .fuel => .fuel

theorem resMap_eq_ok {α β : Type} {f : α → β} {r : Res α} {b : β} (h : resMap f r = .ok b) :
    ∃ a, r = .ok a ∧ f a = b := by
  cases r with
  | ok a => exact ⟨a, rfl, Res.ok.inj h⟩
  | panic => cases h
  | fuel => cases h

omit [DecidableEq K] in
theorem amap_cons (f : V → W) (a : K) (v : V) (t : AList K V) :
    amap f ((a, v) :: t) = (a, f v) :: amap f t := rfl

theorem alookup_amap (f : V → W) (l : AList K V) (k : K) :
    alookup (amap f l) k = (alookup l k).map f := by
  induction l with
  | nil => rfl
  | cons p t ih =>
    obtain ⟨a, v⟩ := p
    rw [amap_cons, alookup, alookup, ih]
    by_cases h : a = k
    · rw [if_pos h, if_pos h]; rfl
    · rw [if_neg h, if_neg h]

theorem aerase_amap (f : V → W) (k : K) (l : AList K V) :
    aerase k (amap f l) = amap f (aerase k l) := by
  induction l with
  | nil => rfl
  | cons p t ih =>
    obtain ⟨a, v⟩ := p
    rw [amap_cons, aerase, aerase, ih]
    by_cases h : a = k
    · rw [if_pos h, if_pos h]
    · rw [if_neg h, if_neg h]; rfl

theorem ainsert_amap (f : V → W) (k : K) (v : V) (l : AList K V) :
    ainsert k (f v) (amap f l) = amap f (ainsert k v l) := by
  rw [ainsert, aerase_amap]; rfl

theorem get_gmapMap (f : V → W) (m : GMap K V) (k : K) :
    (gmapMap f m).get k = (m.get k).map f :=
  alookup_amap f m.bc k

theorem feed_map (f : V → W) (m : GMap K V) (it : Item K V) :
    GMap.feed (gmapMap f m) (itemMap f it) = gmapMap f (GMap.feed m it) := by
  obtain ⟨bc, groups⟩ := m
  cases it with
  | beginGroup => rfl
  | value k v =>
    simp only [GMap.feed, itemMap, gmapMap, GMap.insert, alookup_amap]
    cases alookup bc k with
    | none =>
      cases groups with
      | nil => simp only [Option.map_none, List.map_nil, ainsert_amap]
      | cons g gs =>
        simp only [Option.map_none, List.map_cons, ainsert_amap]
        rw [← ainsert_amap (actMap f) k .delete g]; rfl
    | some old =>
      cases groups with
      | nil => simp only [Option.map_some, List.map_nil, ainsert_amap]
      | cons g gs =>
        simp only [Option.map_some, List.map_cons, ainsert_amap, alookup_amap]
        cases alookup g k with
        | none => rw [← ainsert_amap (actMap f) k (.revert old) g]; rfl
        | some _ => rfl

theorem fromIter_map (f : V → W) (items : List (Item K V)) :
    GMap.fromIter (items.map (itemMap f)) = gmapMap f (GMap.fromIter items) := by
  have h : ∀ m : GMap K V, (items.map (itemMap f)).foldl GMap.feed (gmapMap f m) =
      gmapMap f (items.foldl GMap.feed m) := by
    induction items with
    | nil => intro m; rfl
    | cons it items ih => intro m; rw [List.map_cons, List.foldl_cons, feed_map, ih]; rfl
  exact h GMap.empty

theorem view_amap (f : V → W) (ktv : AList K (Option V)) (bc : AList K V) (a : K) :
    view (amap (Option.map f) ktv) (fun k => alookup (amap f bc) k) a =
      (view ktv (fun k => alookup bc k) a).map f := by
  simp only [view, alookup_amap]
  cases alookup ktv a <;> rfl

omit [DecidableEq K] in
theorem savedOf_actMap (f : V → W) (act : Action V) :
    savedOf (actMap f act) = (savedOf act).map f := by
  cases act <;> rfl

/-- What `iterGroup(s)` returns under a value map: the new `key_to_val` and the pushed items. -/
def pushedMap (f : V → W) (r : AList K (Option V) × List (Item K V)) :
    AList K (Option W) × List (Item K W) :=
  (amap (Option.map f) r.1, r.2.map (itemMap f))

theorem iterGroup_map (f : V → W) (bc : AList K V) (g : AList K (Action V))
    (ktv : AList K (Option V)) :
    GMap.iterGroup (amap f bc) (amap (actMap f) g) (amap (Option.map f) ktv) =
      resMap (pushedMap f) (GMap.iterGroup bc g ktv) := by
  induction g generalizing ktv with
  | nil => rfl
  | cons p t ih =>
    obtain ⟨a, act⟩ := p
    rw [amap_cons, iterGroup_cons, iterGroup_cons, view_amap, savedOf_actMap, ainsert_amap, ih]
    cases view ktv (fun k => alookup bc k) a with
    | none => rfl
    | some v => cases GMap.iterGroup bc t (ainsert a (savedOf act) ktv) <;> rfl

theorem iterGroups_map (f : V → W) (bc : AList K V) (gs : List (AList K (Action V)))
    (ktv : AList K (Option V)) :
    GMap.iterGroups (amap f bc) (gs.map (amap (actMap f))) (amap (Option.map f) ktv) =
      resMap (pushedMap f) (GMap.iterGroups bc gs ktv) := by
  induction gs generalizing ktv with
  | nil => rfl
  | cons g gs ih =>
    rw [List.map_cons, GMap.iterGroups, GMap.iterGroups, iterGroup_map]
    cases GMap.iterGroup bc g ktv with
    | panic => rfl
    | fuel => rfl
    | ok r =>
      simp only [resMap, pushedMap, ih]
      cases GMap.iterGroups bc gs r.1 with
      | panic => rfl
      | fuel => rfl
      | ok r2 => simp only [List.map_append, List.map_cons, itemMap]

theorem visibleItems_map (f : V → W) (ktv : AList K (Option V)) (l : AList K V) :
    GMap.visibleItems (amap (Option.map f) ktv) (amap f l) =
      (GMap.visibleItems ktv l).map (itemMap f) := by
  induction l with
  | nil => rfl
  | cons p t ih =>
    obtain ⟨a, v⟩ := p
    simp only [amap_cons, GMap.visibleItems, alookup_amap, ih]
    cases alookup ktv a with
    | none => rfl
    | some o => cases o <;> rfl

theorem iterAll_map (f : V → W) (m : GMap K V) :
    (gmapMap f m).iterAll = resMap (List.map (itemMap f)) m.iterAll := by
  obtain ⟨bc, gs⟩ := m
  have h := iterGroups_map f bc gs []
  simp only [GMap.iterAll, gmapMap]
  rw [show ([] : AList K (Option W)) = amap (Option.map f) [] from rfl, h]
  cases GMap.iterGroups bc gs [] with
  | panic => rfl
  | fuel => rfl
  | ok r =>
    simp only [resMap, pushedMap, visibleItems_map, List.map_append, List.map_reverse]

/-- every value of a scoped map (visible values and values saved for `Revert`) satisfies `Q` -/
def GAll (Q : V → Prop) (m : GMap K V) : Prop :=
  (∀ p ∈ m.bc, Q p.2) ∧ (∀ g ∈ m.groups, ∀ p ∈ g, ∀ v, p.2 = Action.revert v → Q v)

omit [DecidableEq K] in
theorem gmapMap_of_gAll (Q : V → Prop) (m : GMap K V) (h : GAll Q m) :
    gmapMap Q m = gmapMap (fun _ => True) m := by
  have hbc : amap Q m.bc = amap (fun _ => True) m.bc :=
    List.map_congr_left fun p hp => by rw [eq_true (h.1 p hp)]
  have hgs : m.groups.map (amap (actMap Q)) = m.groups.map (amap (actMap fun _ => True)) :=
    List.map_congr_left fun g hg => List.map_congr_left fun p hp => by
      obtain ⟨k, act⟩ := p
      cases act with
      | delete => rfl
      | revert v => simp only [actMap, eq_true (h.2 g hg _ hp v rfl)]
  simp only [gmapMap, hbc, hgs]

theorem iterAll_all (Q : V → Prop) (m : GMap K V) (h : GAll Q m) (items : List (Item K V))
    (hi : m.iterAll = .ok items) : ∀ k v, Item.value k v ∈ items → Q v := by
  have e := congrArg GMap.iterAll (gmapMap_of_gAll Q m h)
  rw [iterAll_map, iterAll_map, hi] at e
  intro k v hmem
  have := List.map_inj_left.1 (Res.ok.inj e) _ hmem
  exact of_eq_true (Item.value.inj this).2

end C08
