import TexcraftModel.Lemmas.C03Spec

/-! C03 — the model's `RawLexer` in the terms of the specification, under the key-accounting invariant
`Raw.Inv`: `next`, the `^^` rule (named once as `caretStep`, set against `Raw.caret` and §352–§355),
name reading against §354–§356, and loading a line against split + trim + append. Last, the two ways a
`Lexer` gets on in its line, `Lexer.moved` and `Lexer.endLine`, in which the later files speak. -/
namespace C03

theorem utf8Len_pos (c : Char) : 1 ≤ utf8Len c := by
  unfold utf8Len; split <;> (try split) <;> (try split) <;> omega

theorem utf8Len_ascii {c : Char} (h : c.toNat < 128) : utf8Len c = 1 := by simp [utf8Len, h]

theorem length_le_byteLen (l : List Char) : l.length ≤ byteLen l := by
  induction l with
  | nil => simp [byteLen]
  | cons c t ih => simp only [byteLen, List.length_cons]; have := utf8Len_pos c; omega

theorem byteLen_append (a b : List Char) : byteLen (a ++ b) = byteLen a + byteLen b := by
  induction a with
  | nil => simp [byteLen]
  | cons c t ih => simp only [List.cons_append, byteLen, ih]; omega

theorem length_lt_keyLimit (src : List Char) : src.length < keyLimit src := by
  have := length_le_byteLen src
  unfold keyLimit; split <;> omega

/-- For a source of `N` characters: the keys still to be handed out fit; one extra key (for an
end-line character at the end of a text without final newline) only when the source is used up. -/
structure Raw.Inv (N : Nat) (r : Raw) : Prop where
  lim : N < r.limit
  le1 : r.key + r.line.length + r.trimmed + r.rest.length ≤ N + 1
  le0 : r.rest ≠ [] → r.key + r.line.length + r.trimmed + r.rest.length ≤ N

theorem Raw.Inv.init (src : List Char) : (Lexer.init src).raw.Inv src.length := by
  constructor <;> simp [Lexer.init, length_lt_keyLimit]

theorem Raw.Inv.of_sum {N : Nat} {r r' : Raw} (h : r.Inv N) (hlim : r'.limit = r.limit)
    (hsum : r'.key + r'.line.length = r.key + r.line.length) (ht : r'.trimmed = r.trimmed)
    (hr : r'.rest = r.rest) : r'.Inv N := by
  obtain ⟨h1, h2, h3⟩ := h
  rw [← hsum, ← ht, ← hr] at h2 h3
  exact ⟨by omega, h2, h3⟩

theorem Raw.Inv.endLine {N : Nat} {r : Raw} (h : r.Inv N) : r.endLine.Inv N :=
  h.of_sum rfl (by simp [Raw.endLine]) rfl rfl

theorem Raw.next_nil {r : Raw} (hl : r.line = []) : r.next = .eol := by
  simp [Raw.next, hl]

theorem Raw.next_cons {N : Nat} {r : Raw} {c : Char} {l : List Char} (h : r.Inv N)
    (hl : r.line = c :: l) :
    r.next = .got c r.key { r with line := l, key := r.key + 1 } ∧ r.key ≤ N ∧
      Raw.Inv N { r with line := l, key := r.key + 1 } := by
  have h2 := h.le1
  simp only [hl, List.length_cons] at h2
  have hk : r.key < r.limit := by have := h.lim; omega
  exact ⟨by simp [Raw.next, hl, hk], by omega,
    h.of_sum rfl (by simp only [hl, List.length_cons]; omega) rfl rfl⟩

/-- The `^^` rule on the characters from `char_2` on, without keys: how many characters beyond
`char_2` the code takes (1 for `^^c`, 2 for `^^xy`), the reduced character, and what follows it. -/
def caretStep (c1 : Char) : List Char → Option (Nat × Char × List Char)
  | c2 :: c3 :: l3 =>
    if c2 ≠ c1 then none
    else if 128 ≤ c3.toNat then none
    else
      match hexVal c3, l3.head?.bind hexVal with
      | some hi, some lo => some (2, Char.ofNat (16 * hi + lo), l3.drop 1)
      | _, _ => some (1, caretChar c3, l3)
  | _ => none

theorem Raw.caret_step (r : Raw) (c1 : Char) (b : Bool) :
    r.caret c1 b = match caretStep c1 (r.line.drop (if b then 0 else 1)) with
      | none => .no
      | some (n, m, l') =>
        if r.key + ((if b then 0 else 1) + n) ≤ r.limit then
          .yes { r with key := r.key + ((if b then 0 else 1) + n), line := m :: l' }
        else .panic := by
  unfold Raw.caret
  generalize (if b then 0 else 1) = skip
  simp only []
  generalize r.line.drop skip = l2
  match l2 with
  | [] | [_] => rfl
  | c2 :: c3 :: l3 =>
    simp only [caretStep]
    by_cases h2 : c2 = c1
    · by_cases h3 : 128 ≤ c3.toNat
      · simp [h2, h3]
      · simp only [h2, ne_eq, not_true_eq_false, if_false, h3]
        cases hexVal c3 <;> cases l3.head?.bind hexVal <;> rfl
    · simp [h2]

theorem char_le_iff (a b : Char) : a ≤ b ↔ a.toNat ≤ b.toNat := by
  rw [Char.le_def, UInt32.le_iff_toNat_le]; rfl

theorem hexVal_eq (c : Char) :
    hexVal c = if Spec.isHex c then some (Spec.hexDigit c) else none := by
  unfold hexVal Spec.isHex Spec.hexDigit
  simp only [char_le_iff, Bool.or_eq_true, Bool.and_eq_true, decide_eq_true_eq]
  have e0 : '0'.toNat = 48 := by decide
  have e9 : '9'.toNat = 57 := by decide
  have ea : 'a'.toNat = 97 := by decide
  have ef : 'f'.toNat = 102 := by decide
  rw [e0, e9, ea, ef]
  split
  · rename_i h; rw [if_pos (Or.inl h), if_pos h.2]
  · split
    · rename_i h1 h2; rw [if_pos (Or.inr h2), if_neg (by omega)]; congr 1; omega
    · rename_i h1 h2; rw [if_neg (by omega)]

theorem hexVal_ascii {c : Char} {v : Nat} (h : hexVal c = some v) : c.toNat < 128 := by
  unfold hexVal at h
  split at h
  · omega
  · split at h
    · omega
    · cases h

theorem caretStep_expanded (c : Char) (l : List Char) :
    Spec.expanded c l = (caretStep c l).map fun x => (x.2.1, x.2.2, x.1 + 1) := by
  unfold caretStep Spec.expanded
  match l with
  | [] => rfl
  | [_] => rfl
  | c2 :: c3 :: l3 =>
    by_cases h2 : c2 = c
    · by_cases h3 : c3.toNat < 128
      · have h3' : ¬ 128 ≤ c3.toNat := by omega
        simp only [h2, ne_eq, not_true_eq_false, if_false, h3', h3, and_self, if_true, hexVal_eq]
        match l3 with
        | [] => by_cases hx : Spec.isHex c3 <;> simp [hx, caretChar]
        | c4 :: l4 =>
          by_cases hx : Spec.isHex c3 <;> by_cases hy : Spec.isHex c4 <;>
            simp [hx, hy, caretChar, hexVal_eq]
      · have h3' : 128 ≤ c3.toNat := by omega
        simp [h2, h3, h3']
    · simp [h2]

/-- The `char_1_consumed` flag of `maybe_apply_caret_notation` only says who has taken the key of
`char_1`: consuming it and then testing is peeking at it and testing. -/
theorem Raw.caret_next {r : Raw} {c : Char} {l : List Char} (hl : r.line = c :: l) :
    ({ r with line := l, key := r.key + 1 } : Raw).caret c true = r.caret c false := by
  rw [Raw.caret_step, Raw.caret_step]
  simp only [if_true, Bool.false_eq_true, if_false, hl, List.drop_zero, List.drop_succ_cons,
    Nat.zero_add, Nat.add_assoc]

/-- Under the invariant the key range lasts for the keys that `advance` asks for: the code's
characters are all on the line. -/
theorem Raw.caret_peeked {N : Nat} {r : Raw} {c : Char} {t : List Char} (h : r.Inv N)
    (hl : r.line = c :: t) :
    r.caret c false = match Spec.expanded c t with
      | some (c', l', n) => .yes { r with key := r.key + n, line := c' :: l' }
      | none => .no := by
  rw [Raw.caret_step]
  simp only [Bool.false_eq_true, if_false, hl, List.drop_succ_cons, List.drop_zero]
  have he := caretStep_expanded c t
  cases hs : caretStep c t with
  | none => rw [hs] at he; rw [he]; rfl
  | some x =>
    obtain ⟨n, m, l'⟩ := x
    rw [hs] at he
    have hk : r.key + (1 + n) ≤ r.limit := by
      have hn := (expanded_n he).2
      have h1 := h.le1
      have := h.lim
      simp only [hl, List.length_cons] at h1
      omega
    rw [he]
    simp only [Option.map_some, if_pos hk]
    rw [Nat.add_comm 1 n]

theorem Raw.Inv.caret {N : Nat} {r : Raw} {c c' : Char} {t l' : List Char} {n : Nat} (h : r.Inv N)
    (hl : r.line = c :: t) (he : Spec.expanded c t = some (c', l', n)) :
    Raw.Inv N { r with key := r.key + n, line := c' :: l' } :=
  h.of_sum rfl (by have := expanded_n he; simp only [hl, List.length_cons]; omega) rfl rfl

theorem readLetters_eq {N : Nat} (cfg : Cfg) : ∀ (f : Nat) (acc : List Char) (r : Raw), r.Inv N →
    readLetters cfg f acc r = match Spec.moreLetters cfg f acc r.line r.key with
      | some (name, l', k') => .ok (name, { r with line := l', key := k' })
      | none => .fuel := by
  intro f
  induction f with
  | zero => intro acc r _; rfl
  | succ f ih =>
    intro acc r h
    -- with the record taken apart, "`r` unchanged" and "`r` with the line and key it has" are the same term
    obtain ⟨rest, line, key, limit, trimmed⟩ := r
    cases line with
    | nil => rfl
    | cons c l =>
      obtain ⟨-, hk, hinv⟩ := Raw.next_cons h rfl
      have hlim : ¬ limit ≤ key := Nat.not_le.2 (Nat.lt_of_le_of_lt hk h.lim)
      simp only [readLetters, Spec.moreLetters, if_neg hlim]
      cases hc : cfg.cat c
      case letter =>
        simp only [if_true]
        exact ih _ _ hinv
      case superscript =>
        simp only [reduceCtorEq, if_false, if_true, Raw.caret_peeked h rfl]
        cases he : Spec.expanded c l with
        | none => rfl
        | some x => exact ih _ _ (h.caret rfl he)
      all_goals rfl

theorem readCS_eq {N : Nat} (cfg : Cfg) : ∀ (f : Nat) (r : Raw), r.Inv N →
    readCS cfg f r = match Spec.csName cfg f r.line r.key with
      | some (name, st, l', k') => .ok (name, st, { r with line := l', key := k' })
      | none => .fuel := by
  intro f
  induction f with
  | zero => intro r _; rfl
  | succ f ih =>
    intro r h
    obtain ⟨rest, line, key, limit, trimmed⟩ := r
    cases line with
    | nil => rfl
    | cons c l =>
      obtain ⟨hn, -, hinv⟩ := Raw.next_cons h rfl
      simp only [readCS, Spec.csName, hn]
      cases hc : cfg.cat c
      case letter =>
        simp only [if_true]
        rw [readLetters_eq cfg _ _ _ hinv]
        cases Spec.moreLetters cfg (l.length + 1) [c] l (key + 1) with
        | none => rfl
        | some x => rfl
      case superscript =>
        simp only [reduceCtorEq, if_false, if_true, Raw.caret_next (r := ⟨rest, c :: l, key, limit, trimmed⟩) rfl,
          Raw.caret_peeked h rfl]
        cases he : Spec.expanded c l with
        | none => rfl
        | some x => exact ih _ (h.caret rfl he)
      case space => simp
      all_goals simp

/-- The loop of `start_new_line` with `p` blanks pending behind the right-trimmed `acc`: the line it cuts
off is `content` and `q` blanks, followed by a newline (`nl`) and the rest, or by nothing. -/
theorem scanLineGo_eq : ∀ (src acc : List Char) (p : Nat),
    Spec.trimRight (acc ++ List.replicate p ' ') = acc → '\n' ∉ acc →
    ∃ (content rest' : List Char) (q : Nat) (nl : Bool),
      scanLineGo acc p src = (content, q + nl.toNat, rest') ∧
      acc ++ List.replicate p ' ' ++ src
        = content ++ List.replicate q ' ' ++ (if nl then '\n' :: rest' else []) ∧
      (nl = false → rest' = []) ∧ '\n' ∉ content ∧
      Spec.trimRight (content ++ List.replicate q ' ') = content := by
  intro src
  induction src with
  | nil => intro acc p ht hn; exact ⟨acc, [], p, false, by simp [scanLineGo], by simp, by simp, hn, ht⟩
  | cons c t ih =>
    intro acc p ht hn
    by_cases h1 : c = '\n'
    · subst h1
      exact ⟨acc, t, p, true, by simp [scanLineGo], by simp, by simp, hn, ht⟩
    · by_cases h2 : c = ' '
      · subst h2
        have ht' : Spec.trimRight (acc ++ List.replicate (p + 1) ' ') = acc := by
          rw [List.replicate_succ', ← List.append_assoc, trimRight_snoc_space, ht]
        obtain ⟨content, rest', q, nl, e1, e2, e⟩ := ih acc (p + 1) ht' hn
        refine ⟨content, rest', q, nl, ?_, ?_, e⟩
        · simp only [scanLineGo, h1, if_false, if_true]; exact e1
        · rw [← e2, List.replicate_succ']; simp
      · have ht' : Spec.trimRight ((acc ++ List.replicate p ' ' ++ [c]) ++ List.replicate 0 ' ')
            = acc ++ List.replicate p ' ' ++ [c] := by
          simp only [List.replicate_zero, List.append_nil]; exact trimRight_snoc _ c h2
        have hn' : '\n' ∉ acc ++ List.replicate p ' ' ++ [c] := by
          simp only [List.mem_append, List.mem_singleton, not_or]
          exact ⟨⟨hn, by simp [List.mem_replicate]⟩, fun h => h1 h.symm⟩
        obtain ⟨content, rest', q, nl, e1, e2, e⟩ := ih _ 0 ht' hn'
        refine ⟨content, rest', q, nl, ?_, ?_, e⟩
        · simp only [scanLineGo, h1, h2, if_false]; exact e1
        · rw [← e2]; simp

/-- The new `trimmed` (`tr`, bounded from both sides) is what makes `key + line.length + trimmed` the first
key of the next line; only a line that ends the source without newline or blank gets one key more, for
its end-line character. -/
theorem startNewLine_eq (cfg : Cfg) (r : Raw) (hr : r.rest ≠ []) :
    ∃ (ln rest' : List Char) (nl : Bool) (tr : Nat),
      r.startNewLine cfg = (true, { r with
          key := r.key + r.line.length + r.trimmed, line := Spec.buffer cfg ln, trimmed := tr,
          rest := rest' }) ∧
      r.rest = ln ++ (if nl then '\n' :: rest' else []) ∧ (nl = false → rest' = []) ∧ '\n' ∉ ln ∧
      ln.length + nl.toNat ≤ (Spec.buffer cfg ln).length + tr ∧
      (Spec.buffer cfg ln).length + tr ≤ ln.length + 1 ∧
      Spec.splitLines r.rest = ln :: Spec.splitLines rest' := by
  obtain ⟨content, rest', q, nl, e1, e2, e3, e4, e5⟩ :=
    scanLineGo_eq r.rest [] 0 (by simp [Spec.trimRight]) (by simp)
  simp only [List.replicate_zero, List.append_nil, List.nil_append] at e2
  have hb := buffer_length cfg (content ++ List.replicate q ' ')
  rw [e5] at hb
  have hln : '\n' ∉ content ++ List.replicate q ' ' := by
    simp only [List.mem_append, not_or]; exact ⟨e4, by simp [List.mem_replicate]⟩
  refine ⟨content ++ List.replicate q ' ', rest', nl,
    q + nl.toNat - (if cfg.endline.isSome then 1 else 0), ?_, e2, e3, hln, ?_, ?_, ?_⟩
  · unfold Raw.startNewLine
    cases hrr : r.rest with
    | nil => exact absurd hrr hr
    | cons c t =>
      rw [hrr] at e1
      simp only [e1]
      cases he : cfg.endline <;> simp [Spec.buffer, he, e5]
  · rw [hb]; simp only [List.length_append, List.length_replicate]; split <;> omega
  · rw [hb]; simp only [List.length_append, List.length_replicate]; cases nl <;> split <;> simp <;> omega
  · unfold Spec.splitLines
    rw [e2, splitLinesAux_append [] _ _ hln, List.nil_append]
    cases nl with
    | true => simp [Spec.splitLinesAux]
    | false =>
      have hne : content ++ List.replicate q ' ' ≠ [] := fun h0 => hr (by rw [e2, h0]; rfl)
      simp [Spec.splitLinesAux, hne, e3 rfl]

theorem Raw.startNewLine_spec {N : Nat} {cfg : Cfg} {r r' : Raw} (h : r.Inv N)
    (hr : r.rest ≠ []) (hs : r.startNewLine cfg = (true, r')) :
    r'.Inv N ∧ 3 * r'.rest.length + r'.line.length < 3 * r.rest.length := by
  obtain ⟨ln, rest', nl, tr, e, hrest, hnl, -, lo, hi, -⟩ := startNewLine_eq cfg r hr
  rw [e] at hs
  obtain rfl := (Prod.mk.inj hs).2
  have h0 := h.le0 hr
  have hpos : 0 < r.rest.length := List.length_pos_iff.2 hr
  have hlen := congrArg List.length hrest
  cases nl with
  | false =>
    obtain rfl := hnl rfl
    simp only [Bool.toNat_false, Bool.false_eq_true, if_false, List.append_nil] at lo hlen
    exact ⟨⟨h.lim, by dsimp only [List.length_nil]; omega, fun h => absurd rfl h⟩,
      by dsimp only [List.length_nil]; omega⟩
  | true =>
    simp only [Bool.toNat_true, if_true, List.length_append, List.length_cons] at lo hlen
    exact ⟨⟨h.lim, by dsimp only; omega, fun _ => by dsimp only; omega⟩, by dsimp only; omega⟩

def Lexer.endLine (L : Lexer) : Lexer := { L with raw := L.raw.endLine }

/-- `L` moved along its line: state `st'`, unread part `l'`, next key `k'`. -/
def Lexer.moved (L : Lexer) (st' : St) (l' : List Char) (k' : Nat) : Lexer :=
  { L with raw := { L.raw with line := l', key := k' }, st := st' }

theorem Lexer.moved_endLine {L : Lexer} {l' : List Char} {k' : Nat}
    (hsum : k' + l'.length = L.raw.key + L.raw.line.length) :
    (L.moved L.st l' k').endLine = L.endLine := by
  simp only [Lexer.endLine, Raw.endLine, Lexer.moved, hsum]

theorem Lexer.endLine_of_nil {L : Lexer} (h : L.raw.line = []) : L.endLine = L := by
  cases L with
  | mk raw st started =>
    cases raw
    simp_all [Lexer.endLine, Raw.endLine]

theorem Lexer.mu_init (src : List Char) : (Lexer.init src).mu = 3 * src.length := rfl

theorem Lexer.mu_moved_lt {L : Lexer} {st' : St} {l' : List Char} {k' : Nat}
    (h : l'.length < L.raw.line.length) : (L.moved st' l' k').mu < L.mu :=
  Nat.add_lt_add_left h _

theorem Lexer.mu_endLine_le (L : Lexer) : L.endLine.mu ≤ L.mu :=
  Nat.le_add_right _ _

end C03
