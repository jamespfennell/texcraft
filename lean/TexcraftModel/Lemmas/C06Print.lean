import TexcraftModel.Lemmas.C06
import TexcraftModel.Lemmas.C06Frac
/-!
C06 — printing and scanning back. Everything is said about the magnitude `|s|` (as TeX does,
§103), so that the sign is dealt with once: `display_no_units` prints Knuth's `print_scaled` for
every integer, `parse_no_units` as one formula, the round trip, and the shortest-decimal guarantee.
-/
namespace C06

theorem natAbs_signed (s : Int) : (if decide (s < 0) = true then -(s.natAbs : Int) else s.natAbs) = s := by
  by_cases h : s < 0
  · rw [if_pos (decide_eq_true h)]; omega
  · rw [if_neg (by simpa using h)]; omega

/-- `display_no_units` prints, for every integer and not only for legal dimensions, exactly what
Knuth's `print_scaled` prints. -/
theorem printScaled_eq_spec (s : Int) : printScaled s = some (Spec.printScaled s) := by
  unfold printScaled
  rw [Int.natAbs_tmod, Int.natAbs_tdiv]
  exact congrArg (Option.map _) (printFrac_eq (s.natAbs % 65536) (Nat.mod_lt _ (by decide)))

theorem printScaled_neg (s : Int) : (Spec.printScaled s).neg = decide (s < 0) := rfl

theorem printScaled_ip (s : Int) : (Spec.printScaled s).ip = s.natAbs / 65536 := rfl

/-- Not by `rfl`: the unifier would evaluate `printLoop 17` before it unfolds `printScaled`. -/
theorem printScaled_frac (s : Int) :
    (Spec.printScaled s).frac = Spec.printLoop 17 (10 * (s.natAbs % 65536) + 5) 10 := by
  simp only [Spec.printScaled]

theorem printed_frac (s : Int) :
    1 ≤ (Spec.printScaled s).frac.length ∧ (Spec.printScaled s).frac.length ≤ 5 ∧
      (∀ d ∈ (Spec.printScaled s).frac, d < 10) ∧
      fromDecimalDigits (pad17 (Spec.printScaled s).frac) = ((s.natAbs % 65536 : Nat) : Int) := by
  obtain ⟨_, h2, h3, h4, h5⟩ := printFrac_spec (s.natAbs % 65536) (Nat.mod_lt _ (by decide))
  rw [printScaled_frac]
  exact ⟨h3, h2, h4, h5⟩

theorem printed_ip_small (s : Int) (h : -maxDimen ≤ s ∧ s ≤ maxDimen) : (Spec.printScaled s).ip < 16384 := by
  have hM : maxDimen = 1073741823 := rfl
  rw [printScaled_ip]; omega

theorem pad17_digits (ds : List Nat) (h : ∀ d ∈ ds, d < 10) : ∀ d ∈ pad17 ds, d < 10 := by
  intro d hd
  simp only [pad17, List.mem_append, List.mem_replicate] at hd
  rcases hd with hd | ⟨_, rfl⟩
  · exact h d hd
  · omega

theorem scanNoUnits_eq (q : Printed) (hq : ∀ d ∈ q.frac, d < 10) (hip : (q.ip : Int) ≤ 2147483647)
    (hlen : q.frac.length ≤ 17) :
    scanNoUnits q =
      if (q.ip : Int) + fromDecimalDigits (pad17 q.frac) / 65536 ≥ 16384 then .overflow
      else .ok (if q.neg then -(65536 * (q.ip : Int) + fromDecimalDigits (pad17 q.frac))
                else 65536 * (q.ip : Int) + fromDecimalDigits (pad17 q.frac)) := by
  have hf := fromDecimalDigits_bound (pad17 q.frac) (pad17_digits q.frac hq)
  unfold scanNoUnits
  rw [if_neg (by omega), if_neg (by omega), scaledNew_val .pt (q.ip : Int) _ (by omega) hf.1 hf.2, physVal_pt]
  by_cases hov : (q.ip : Int) + fromDecimalDigits (pad17 q.frac) / 65536 ≥ 16384
  · simp only [if_pos hov]
  · simp only [if_neg hov]

theorem scanNoUnits_printed (s : Int) (h : -maxDimen ≤ s ∧ s ≤ maxDimen) :
    scanNoUnits (Spec.printScaled s) = .ok s := by
  have hM : maxDimen = 1073741823 := rfl
  obtain ⟨_, h2, h3, h4⟩ := printed_frac s
  have hip := printed_ip_small s h
  have e : 65536 * ((s.natAbs / 65536 : Nat) : Int) + ((s.natAbs % 65536 : Nat) : Int) = s.natAbs := by omega
  rw [scanNoUnits_eq _ h3 (by omega) (by omega), h4, if_neg (by omega), printScaled_ip, printScaled_neg, e,
    natAbs_signed]

theorem parseFromString_pt (p : Printed) (hip : (p.ip : Int) ≤ 2147483647) (hlen : p.frac.length ≤ 17) :
    parseFromString p .pt = scanNoUnits p := by
  unfold parseFromString scanNoUnits
  rw [if_neg (by omega), if_neg (by omega), if_neg (by omega), fromDecimalDigits_pad17]

theorem scanNoUnits_ok (q : Printed) (hq : ∀ d ∈ q.frac, d < 10) (s : Int) (hs : scanNoUnits q = .ok s) :
    s.natAbs = 65536 * q.ip + (fromDecimalDigits q.frac).toNat := by
  by_cases c1 : (q.ip : Int) > 2147483647
  · unfold scanNoUnits at hs; rw [if_pos c1] at hs; cases hs
  by_cases c2 : q.frac.length > 17
  · unfold scanNoUnits at hs; rw [if_neg c1, if_pos c2] at hs; cases hs
  have hb := fromDecimalDigits_bound q.frac hq
  rw [scanNoUnits_eq q hq (by omega) (by omega), fromDecimalDigits_pad17] at hs
  split at hs
  · cases hs
  · cases hs; split <;> omega

/-- Knuth's guarantee: no decimal with fewer fraction digits scans to the same value. -/
theorem print_shortest_core (s : Int) (h : -maxDimen ≤ s ∧ s ≤ maxDimen) (q : Printed)
    (hq : ∀ d ∈ q.frac, d < 10) (hs : scanNoUnits q = .ok s) :
    ∃ p, printScaled s = some p ∧ p.frac.length ≤ max 1 q.frac.length := by
  refine ⟨_, printScaled_eq_spec s, ?_⟩
  have hb := fromDecimalDigits_bound q.frac hq
  have := printLoop_shortest q.frac hq _ (Int.toNat_of_nonneg hb.1).symm
  rw [printScaled_frac, scanNoUnits_ok q hq s hs, Nat.mul_add_mod]
  exact this

end C06
