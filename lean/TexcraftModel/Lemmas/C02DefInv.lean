import TexcraftModel.Lemmas.C02Def

/-! C02: inversion of the definition parser — every accepted definition text is the rendering
of a valid `SpecMacro` — and absence of panics: in the parser, and in the call of a macro it
accepted. -/
namespace C02

theorem replLoop_inv (e : Option Tok) (n : Nat) (d : Int) (rs : List Repl) (inp : List Tok)
    {rs' : List Repl} {rest : List Tok} : ∀ dn : Nat, d = dn → replLoop e n d rs inp = .ok (rs', rest) →
    ∃ body, inp = (body.map renderItem).flatten ++ .eg :: rest ∧
      runDepth dn (bodyToks body) = some 0 ∧ (∀ it ∈ body, ItemOK n it) ∧
      rs' = (match e with | some f => pushRepl (compileBody rs body) f | none => compileBody rs body) := by
  fun_induction replLoop e n d rs inp
  -- the error branches: end of input, `#` at the end, `#n` out of range, `#` before a non-digit
  case case1 | case6 | case9 | case10 => intro dn _ h; cases h
  -- `{`
  case case2 d rs ts ih =>
    intro dn hd h
    obtain ⟨body, rfl, hdp, hok, hrs⟩ := ih (dn + 1) (by rw [hd]; rfl) h
    exact ⟨.lit .bg :: body, rfl, hdp, List.forall_mem_cons.mpr ⟨Tok.noConfusion, hok⟩, hrs⟩
  -- the closing `}` (depth 0), parameter text ended with `#{`
  case case3 rs ts f he =>
    intro dn hd h
    cases h
    cases Int.ofNat.inj hd
    subst he
    exact ⟨[], rfl, rfl, nofun, rfl⟩
  -- the closing `}` (depth 0), no `#{`
  case case4 rs ts he =>
    intro dn hd h
    cases h
    cases Int.ofNat.inj hd
    subst he
    exact ⟨[], rfl, rfl, nofun, rfl⟩
  -- `}` inside the text
  case case5 d rs ts hne ih =>
    intro dn hd h
    cases dn with
    | zero => exact absurd hd hne
    | succ k =>
      obtain ⟨body, rfl, hdp, hok, hrs⟩ := ih k (by rw [hd]; exact Int.add_sub_cancel (k : Int) 1) h
      exact ⟨.lit .eg :: body, rfl, hdp, List.forall_mem_cons.mpr ⟨Tok.noConfusion, hok⟩, hrs⟩
  -- `##`
  case case7 d rs ts ih =>
    intro dn hd h
    obtain ⟨body, rfl, hdp, hok, hrs⟩ := ih dn hd h
    exact ⟨.hash :: body, rfl, hdp, List.forall_mem_cons.mpr ⟨trivial, hok⟩, hrs⟩
  -- `#n`, `n` in range
  case case8 d rs p ts hp i hpi hin ih =>
    intro dn hd h
    obtain ⟨body, rfl, hdp, hok, hrs⟩ := ih dn hd h
    obtain ⟨rfl, _⟩ := paramIndex_eq_some.mp hpi
    exact ⟨.arg i :: body, rfl, hdp, List.forall_mem_cons.mpr ⟨hin, hok⟩, hrs⟩
  -- any other token
  case case11 d rs t ts hbg heg hp1 hp2 ih =>
    intro dn hd h
    have htp : t ≠ .param := by
      intro ht
      cases ts with
      | nil => exact hp1 ht rfl
      | cons p ts' => exact hp2 p ts' ht rfl
    obtain ⟨body, rfl, hdp, hok, hrs⟩ := ih dn hd h
    refine ⟨.lit t :: body, rfl, ?_, List.forall_mem_cons.mpr ⟨htp, hok⟩, hrs⟩
    rw [bodyToks, runDepth_cons_other hbg heg]
    exact hdp

theorem pushTok_length (pre : List Tok) (ps : List (List Tok)) (t : Tok) :
    (pushTok pre ps t).2.length = ps.length := by
  rcases List.eq_nil_or_concat ps with rfl | ⟨init, last, rfl⟩ <;> simp [pushTok]

theorem ppLoop_inv (pre : List Tok) (ps : List (List Tok)) (inp : List Tok) {pt : ParamText} {rest : List Tok} :
    ps.length ≤ 9 → ppLoop pre ps inp = .ok (pt, rest) →
    ∃ ext ds, ∃ hb : Bool, (∀ t ∈ ext, Plain t) ∧ (∀ d ∈ ds, ∀ t ∈ d, Plain t) ∧
      ps.length + ds.length ≤ 9 ∧
      inp = ext ++ renderParams ps.length ds ++ (if hb then [.param, .bg] else [.bg]) ++ rest ∧
      pt = ptFinish (pushAll pre ps ext).1 ((pushAll pre ps ext).2 ++ ds) hb := by
  fun_induction ppLoop pre ps inp
  -- the error branches: end of input, `}`, `#` at the end, a tenth parameter, a wrong number
  case case1 | case3 | case4 | case6 | case8 => intro _ h; cases h
  -- `{`
  case case2 pre ps ts =>
    intro hlen h
    cases h
    exact ⟨[], [], false, nofun, nofun, hlen, rfl, by simp [pushAll, ptFinish]⟩
  -- `#{`
  case case5 pre ps ts pre' ps' hx =>
    intro hlen h
    cases h
    exact ⟨[], [], true, nofun, nofun, hlen, rfl, by simp [pushAll, ptFinish, hx]⟩
  -- `#n`, the next parameter
  case case7 pre ps p ts hpb h9 hpi ih =>
    intro hlen h
    obtain ⟨ext', ds', hb, hext, hds, hl, rfl, hpt⟩ := ih (by simp; omega) h
    obtain ⟨rfl, _⟩ := paramIndex_eq_some.mp hpi
    -- the tokens pushed after `#n` are the delimiter of the new parameter
    rw [pushAll_last, List.nil_append, List.append_assoc, List.singleton_append] at hpt
    rw [List.length_append, List.length_singleton] at hl
    exact ⟨[], ext' :: ds', hb, nofun, List.forall_mem_cons.mpr ⟨hext, hds⟩,
      by rw [List.length_cons]; omega, by simp [renderParams], hpt⟩
  -- any other token
  case case9 pre ps t ts hbg heg hp1 hp2 pre' ps' hx ih =>
    intro hlen h
    have hlen' : ps'.length = ps.length := by
      have := pushTok_length pre ps t; rw [hx] at this; exact this
    have htp : t ≠ .param := by
      intro ht
      cases ts with
      | nil => exact hp1 ht rfl
      | cons p ts' => exact hp2 p ts' ht rfl
    obtain ⟨ext', ds', hb, hext, hds, hl, rfl, hpt⟩ := ih (hlen' ▸ hlen) h
    rw [hlen'] at hl
    refine ⟨t :: ext', ds', hb, List.forall_mem_cons.mpr ⟨⟨hbg, heg, htp⟩, hext⟩, hds, hl, by rw [hlen']; rfl, ?_⟩
    rw [pushAll, hx]
    exact hpt

theorem ppLoop_no_panic (pre : List Tok) (ps : List (List Tok)) (inp : List Tok) :
    ppLoop pre ps inp ≠ .panic := by
  fun_induction ppLoop pre ps inp <;> simp_all

theorem replLoop_no_panic (e : Option Tok) (n : Nat) (d : Int) (rs : List Repl) (inp : List Tok) :
    replLoop e n d rs inp ≠ .panic := by
  fun_induction replLoop e n d rs inp <;> simp_all

theorem defParse_inv {inp rest : List Tok} {m : Macro} (h : defParse inp = .ok (m, rest)) :
    ∃ s, SMValid s ∧ inp = renderDef s ++ rest ∧ m = compiled s := by
  unfold defParse at h
  simp only [mkParams_eq] at h
  split at h
  · next pt inp1 h1 =>
    obtain ⟨ext, ds, hb, hext, hds, hl, hinp, hpt⟩ := ppLoop_inv [] [] inp (Nat.zero_le _) h1
    rw [pushAll_nil] at hpt
    split at h
    · next rs rest' h2 =>
      cases h
      obtain ⟨body, hinp1, hdp, hok, hrs⟩ := replLoop_inv pt.endTok _ 0 [] inp1 0 rfl h2
      -- the description read off the text; the parser's result is its effective form
      let s : SpecMacro := ⟨ext, ds, hb, body⟩
      cases hpt.trans (ptFinish_eff s)
      obtain ⟨hargs, hlits⟩ := itemOK_iff.mp hok
      refine ⟨s, ⟨hext, hds, by simpa using hl, compiled_length s ▸ hargs, hlits, hdp⟩, ?_, ?_⟩
      · rw [hinp, hinp1]; simp [renderDef, s]
      · simp only [compiled, hrs, compileRepl]
        cases hb <;> rfl
    · cases h
    · cases h
  · cases h
  · cases h

theorem removePrefix_no_panic (p inp : List Tok) : removePrefix p inp ≠ .panic := by
  fun_induction removePrefix p inp with
  | case1 | case2 | case4 => nofun
  | case3 ps t ts ih => exact ih

theorem delimLoop_no_panic (m : Matcher) (hok : MatcherOK m) (c : Int) (n : Nat) :
    ∀ (inp seen : List Tok) (q : Nat) (d : Int), m.run 0 seen = some q →
      delimLoop m c n q d inp ≠ .panic := by
  intro inp
  induction inp with
  | nil => intro seen q d _; nofun
  | cons t ts ih =>
    intro seen q d hrun
    obtain ⟨q', b, hnext, hrun', _⟩ := hok.step hrun t
    have := ih (seen ++ [t]) q' (depthStep d t) hrun'
    simp only [delimLoop, hnext]
    split
    · nofun
    · split
      · nofun
      · nofun
      · next h => exact absurd h this

theorem finishBalanced_no_panic (d : Int) (inp : List Tok) : finishBalanced d inp ≠ .panic := by
  fun_induction finishBalanced d inp with
  | case1 | case2 | case3 | case4 => nofun
  | case5 d t ts _ hrec ih => exact absurd hrec ih

theorem parseArg_no_panic (trim : List Tok → Bool) (n : Nat) {p : Param} (hp : ParamOK p) (inp : List Tok) :
    parseArg trim n p inp ≠ .panic := by
  cases p with
  | undelim =>
    simp only [parseArg, parseUndelimited]
    split
    · nofun
    · exact finishBalanced_no_panic 0 _
    · nofun
  | delim m =>
    have := delimLoop_no_panic m hp.1 (closingDepth m) n inp [] 0 0 rfl
    simp only [parseArg, parseDelimited]
    split
    · split <;> nofun
    · nofun
    · next h => exact absurd h this

theorem parseArgs_no_panic (trim : List Tok → Bool) : ∀ (ps : List Param) (i : Nat) (inp : List Tok),
    (∀ p ∈ ps, ParamOK p) → parseArgs trim i ps inp ≠ .panic := by
  intro ps
  induction ps with
  | nil => intro i inp _; nofun
  | cons p ps ih =>
    intro i inp hok
    obtain ⟨hp, hps⟩ := List.forall_mem_cons.mp hok
    rw [parseArgs_cons]
    split
    · next a rest _ =>
      split
      · nofun
      · nofun
      · next h => exact absurd h (ih (i + 1) rest hps)
    · nofun
    · next h => exact absurd h (parseArg_no_panic trim (i + 1) hp inp)

/-- One argument per parameter (what `arguments.get(i).unwrap()` relies on). -/
theorem parseArgs_length (trim : List Tok → Bool) : ∀ (ps : List Param) (i : Nat) (inp : List Tok)
    {args : List (List Tok)} {rest : List Tok},
    parseArgs trim i ps inp = .ok (args, rest) → args.length = ps.length := by
  intro ps
  induction ps with
  | nil => intro i inp args rest h; cases h; rfl
  | cons p ps ih =>
    intro i inp args rest h
    rw [parseArgs_cons] at h
    split at h
    · next a rest1 _ =>
      split at h
      · next as rest2 h2 => cases h; exact congrArg (· + 1) (ih (i + 1) rest1 h2)
      · cases h
      · cases h
    · cases h
    · cases h

theorem performReplacement_some (args : List (List Tok)) : ∀ (repl : List Repl),
    (∀ i, Repl.par i ∈ repl → i < args.length) → ∃ stack, performReplacement args repl = some stack := by
  intro repl
  induction repl with
  | nil => intro _; exact ⟨[], rfl⟩
  | cons r rs ih =>
    intro h
    obtain ⟨tail, ht⟩ := ih (fun i hi => h i (by simp [hi]))
    cases r with
    | toks rev => exact ⟨tail ++ rev, by simp [performReplacement, ht]⟩
    | par i =>
      have hi := h i (by simp)
      exact ⟨tail ++ args[i].reverse, by simp [performReplacement, ht, List.getElem?_eq_getElem hi]⟩

theorem specSubst_some (args : List (List Tok)) : ∀ body : List Item,
    (∀ i, Item.arg i ∈ body → i < args.length) → ∃ e, specSubst args body = some e
  | [], _ => ⟨[], rfl⟩
  | it :: is, h => by
    obtain ⟨e, he⟩ := specSubst_some args is fun i hi => h i (List.mem_cons_of_mem _ hi)
    cases it with
    | lit t => exact ⟨t :: e, by rw [specSubst, he]; rfl⟩
    | hash => exact ⟨.param :: e, by rw [specSubst, he]; rfl⟩
    | arg i =>
      have hi := h i List.mem_cons_self
      exact ⟨args[i] ++ e, by rw [specSubst, he, List.getElem?_eq_getElem hi]⟩

theorem callWith_no_panic (trim : List Tok → Bool) {m : Macro} (hps : ∀ p ∈ m.params, ParamOK p)
    (hrepl : ∀ args : List (List Tok), args.length = m.params.length → performReplacement args m.repl ≠ none)
    (inp : List Tok) : callWith trim m inp ≠ .panic := by
  unfold callWith
  split
  · next inp1 _ =>
    split
    · next args rest h2 =>
      split
      · next hn => exact absurd hn (hrepl args (parseArgs_length trim _ _ _ h2))
      · nofun
    · nofun
    · next h2 => exact absurd h2 (parseArgs_no_panic trim _ _ _ hps)
  · nofun
  · next h1 => exact absurd h1 (removePrefix_no_panic _ _)

theorem call_no_panic_of_compile {s : SpecMacro} (h : SMValid s) (inp : List Tok) :
    call (compiled s) inp ≠ .panic := by
  refine callWith_no_panic shouldTrim (compiled_ok h) (fun args hlen => ?_) inp
  -- one argument per parameter, so every `#n` of the body finds its argument
  obtain ⟨e, he⟩ := specSubst_some args s.body (by rw [hlen, compiled_length]; exact h.args)
  rw [performReplacement_compile, he]
  nofun

end C02
