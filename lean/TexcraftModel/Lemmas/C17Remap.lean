import TexcraftModel.Model.C17
/-! What `remap_spec` (C17) needs beside the theorem on `compress`: the other pieces of `remapDim`,
the model of one dimension of `impl From<pl::File> for tfm::File`. -/
namespace C17

theorem tfmLimit_pos (kind : Nat) : 1 ≤ tfmLimit kind := by
  unfold tfmLimit; split <;> omega

theorem lookAll_eq (kind : Nat) (m : List (Int × Nat)) : ∀ (l : List Int),
    (∀ v ∈ l, kind = 0 → ∃ i, lookupIdx m v = some i) →
    lookAll kind m l = some (l.map fun v => (lookupIdx m v).getD 0) := by
  intro l
  induction l with
  | nil => intro _; rfl
  | cons a t ih =>
    intro h
    have hhead : (if kind = 0 then lookupIdx m a else some ((lookupIdx m a).getD 0)) =
        some ((lookupIdx m a).getD 0) := by
      by_cases hk : kind = 0
      · obtain ⟨i, hi⟩ := h a List.mem_cons_self hk
        rw [if_pos hk, hi]; rfl
      · rw [if_neg hk]
    rw [lookAll, hhead, ih (fun v hv => h v (List.mem_cons_of_mem _ hv))]
    rfl

theorem mem_dimVals (kind : Nat) (charVals : List Int) (v : Int) :
    v ∈ (if kind = 0 then charVals else charVals.filter (· != 0)) ↔
      v ∈ charVals ∧ (kind = 0 ∨ v ≠ 0) := by
  by_cases hk : kind = 0
  · rw [if_pos hk]; exact ⟨fun h => ⟨h, .inl hk⟩, fun h => h.1⟩
  · rw [if_neg hk, List.mem_filter]
    simp only [bne_iff_ne, ne_eq, hk, false_or]

end C17
