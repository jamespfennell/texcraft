import TexcraftModel.Model.C17
/-! Lemmas for `to_scaled` (C17): for a non-negative design size the Rust code computes TeX's
`store_scaled` without an overflow; for a negative one down to −128pt it still returns. -/
namespace C17

theorem chk_ok (x : Int) (h0 : -2147483648 ≤ x) (h1 : x ≤ 2147483647) : chk x = some x := by
  simp [chk, inI32, I32_MIN, I32_MAX, h0, h1]

theorem halve_eq_tex (n : Nat) (z a : Int) (hz : 0 ≤ z) : halve n z a = texHalve n z a := by
  induction n generalizing z a with
  | zero => rfl
  | succ n ih =>
    simp only [halve, texHalve, Int.tdiv_eq_ediv_of_nonneg hz]
    split
    · rw [ih _ _ (by omega)]
      congr 1
      omega
    · rfl

theorem texHalve_spec (n : Nat) : ∀ (z a : Int), 0 ≤ z → 0 ≤ a → z < 8388608 * 2 ^ n →
    0 ≤ (texHalve n z a).1 ∧ (texHalve n z a).1 < 8388608 ∧ 0 ≤ (texHalve n z a).2 ∧
      (texHalve n z a).1 * (texHalve n z a).2 ≤ z * a := by
  induction n with
  | zero => intro z a h0 ha hz; exact ⟨h0, by simpa [texHalve] using hz, ha, Int.le_refl _⟩
  | succ n ih =>
    intro z a h0 ha hz
    simp only [texHalve]
    split
    · rw [Int.pow_succ] at hz
      obtain ⟨h1, h2, h3, h4⟩ := ih (z / 2) (a + a) (by omega) (by omega) (by omega)
      refine ⟨h1, h2, h3, Int.le_trans h4 ?_⟩
      have : z / 2 * (a + a) = (2 * (z / 2)) * a := by rw [Int.mul_add, Int.mul_assoc, Int.two_mul]
      rw [this]
      exact Int.mul_le_mul_of_nonneg_right (by omega) ha
    · exact ⟨h0, by omega, ha, Int.le_refl _⟩

/-- TeX's legal range `−16 ≤ v < 16` is exactly "the first byte is 0 or 255", which is what
`to_scaled` asserts and §571 tests. -/
theorem beBytes_spec (v : Int) (h0 : -2147483648 ≤ v) (h1 : v ≤ 2147483647) :
    ∃ a b c d, beBytes v = (a, b, c, d) ∧ ((a = 0 ∨ a = 255) ↔ -16777216 ≤ v ∧ v < 16777216) ∧
      0 ≤ b ∧ b ≤ 255 ∧ 0 ≤ c ∧ c ≤ 255 ∧ 0 ≤ d ∧ d ≤ 255 :=
  ⟨_, _, _, _, rfl, by omega⟩

/-! `to_scaled` is odd in the design size. With `z = s·n`, `s = ±1`, every intermediate value of the
Rust code is `s` times TeX's value for `n`: Rust's `/` truncates (`tdiv_sign`) and the `i32` range
is symmetric up to one value (`chk_sign`). So the bounds are needed on the non-negative side only,
where truncation is flooring. -/

theorem tdiv_sign (s x k : Int) (hs : s = 1 ∨ s = -1) (hx : 0 ≤ x) :
    Int.tdiv (s * x) k = s * (x / k) := by
  rcases hs with rfl | rfl
  · rw [Int.one_mul, Int.one_mul, Int.tdiv_eq_ediv_of_nonneg hx]
  · rw [Int.neg_one_mul, Int.neg_one_mul, Int.neg_tdiv, Int.tdiv_eq_ediv_of_nonneg hx]

theorem chk_sign (s x : Int) (hs : s = 1 ∨ s = -1) (h0 : -2147483647 ≤ x) (h1 : x ≤ 2147483647) :
    chk (s * x) = some (s * x) := by
  rcases hs with rfl | rfl
  · rw [Int.one_mul]; exact chk_ok x (by omega) h1
  · rw [Int.neg_one_mul]; exact chk_ok (-x) (by omega) (by omega)

theorem mul_byte (n d : Int) (hn0 : 0 ≤ n) (hn : n ≤ 8388608) (hd0 : 0 ≤ d) (hd : d ≤ 255) :
    0 ≤ n * d ∧ n * d ≤ 8388608 * 255 := by
  have h1 : n * d ≤ n * 255 := Int.mul_le_mul_of_nonneg_left hd hn0
  exact ⟨Int.mul_nonneg hn0 hd0, by omega⟩

/-- One accumulation step of §571, `p div 256 + q` with `q` a byte product: again a non-negative
`i32` (with nothing to spare: `8388607 + 8388608·255 = 2^31 − 1`). -/
theorem acc_step (p q : Int) (hp0 : 0 ≤ p) (hp : p ≤ 2147483647) (hq0 : 0 ≤ q)
    (hq : q ≤ 8388608 * 255) : 0 ≤ p / 256 + q ∧ p / 256 + q ≤ 2147483647 := by
  omega

theorem scaledWith_signed (s n a0 v : Int) (hs : s = 1 ∨ s = -1) (hn0 : 0 ≤ n) (hn : n ≤ 8388608)
    (ha : 0 ≤ a0) (hna : n * a0 ≤ 2147483647) (h0 : -16777216 ≤ v) (h1 : v < 16777216) :
    ∃ r, texWith n a0 v = some r ∧ scaledWith (s * n) a0 v = some (s * r) := by
  obtain ⟨a, b, c, d, hq, hA, b0, b1, c0, c1, d0, d1⟩ := beBytes_spec v (by omega) (by omega)
  simp only [scaledWith, texWith, hq]
  obtain ⟨hd0, hd1⟩ := mul_byte n d hn0 hn d0 d1
  obtain ⟨hc0, hc1⟩ := mul_byte n c hn0 hn c0 c1
  obtain ⟨hb0, hb1⟩ := mul_byte n b hn0 hn b0 b1
  obtain ⟨s0, s1⟩ := acc_step (n * d) (n * c) hd0 (by omega) hc0 hc1
  obtain ⟨t0, t1⟩ := acc_step (n * d / 256 + n * c) (n * b) s0 s1 hb0 hb1
  have ck : ∀ x, 0 ≤ x → x ≤ 2147483647 → chk (s * x) = some (s * x) :=
    fun x h0 => chk_sign s x hs (Int.le_trans (by decide) h0)
  have td : ∀ x k, 0 ≤ x → Int.tdiv (s * x) k = s * (x / k) := fun x k => tdiv_sign s x k hs
  have hβ : Int.tdiv 256 a0 = 256 / a0 := Int.tdiv_eq_ediv_of_nonneg (by decide)
  -- pull `s` out of every product, quotient and sum, in the order of the Rust code
  simp only [Int.mul_assoc s, ck _ (Int.mul_nonneg hn0 ha) hna, ck _ hd0 (by omega), ck _ hc0 (by omega),
    ck _ hb0 (by omega), td _ _ hd0, ← Int.mul_add, ck _ s0 s1, td _ _ s0, ck _ t0 t1, td _ _ t0, hβ,
    Int.mul_comm d n, Int.mul_comm c n, Int.mul_comm b n, Int.mul_comm a0 n, bind, Option.bind]
  generalize (n * d / 256 + n * c) / 256 + n * b = sw at t0 t1
  rcases hA.2 ⟨h0, h1⟩ with rfl | rfl
  · exact ⟨_, rfl, rfl⟩
  · -- `0 ≤ sw div β ≤ sw` and `0 ≤ n·α₀` are `i32`s; their difference lies in `(−2^31, 2^31)`
    have := Int.ediv_nonneg t0 (Int.ediv_nonneg (by decide : (0 : Int) ≤ 256) ha)
    have := Int.ediv_le_self (256 / a0) t0
    have := Int.mul_nonneg hn0 ha
    rw [if_neg (by decide), if_pos rfl, if_neg (by decide), if_pos rfl, ← Int.mul_sub,
      chk_sign s _ hs (by omega) (by omega)]
    exact ⟨_, rfl, rfl⟩

theorem scaledWith_eq (z a0 v : Int) (hz0 : 0 ≤ z) (hz : z < 8388608) (ha : 0 ≤ a0)
    (hza : z * a0 ≤ 2147483647) (h0 : -16777216 ≤ v) (h1 : v < 16777216) :
    scaledWith z a0 v = texWith z a0 v ∧ (texWith z a0 v).isSome = true := by
  obtain ⟨r, e1, e2⟩ := scaledWith_signed 1 z a0 v (.inl rfl) hz0 (Int.le_of_lt hz) ha hza h0 h1
  rw [Int.one_mul, Int.one_mul] at e2
  rw [e1, e2]
  exact ⟨rfl, rfl⟩

theorem scaledWith_guard (z a0 v : Int) (hi0 : -2147483648 ≤ v) (hi1 : v ≤ 2147483647)
    (hv : v < -16777216 ∨ 16777216 ≤ v) : scaledWith z a0 v = none ∧ texWith z a0 v = none := by
  obtain ⟨a, b, c, d, hq, hA, _⟩ := beBytes_spec v hi0 hi1
  have ha : ¬ (a = 0 ∨ a = 255) := fun h => by have := hA.1 h; omega
  constructor
  · simp only [scaledWith, hq]
    cases chk (z * a0) <;> simp [ha]
  · simp [texWith, hq, not_or.1 ha]

theorem halve_small (n : Nat) (z a : Int) (h : z < 8388608) : halve n z a = (z, a) := by
  cases n with
  | zero => rfl
  | succ n => rw [halve, if_neg (Int.not_le.2 h)]

/-- `−134217728` is −128pt: down to there `z = ds div 16` lies in `[−2^23, 0]` and the loop of §572
does not halve. -/
theorem toScaled_neg (v ds : Int) (hds0 : -134217728 ≤ ds) (hds1 : ds < 0)
    (h0 : -16777216 ≤ v) (h1 : v < 16777216) :
    ∃ r, texWith (-ds / 16) 16 v = some r ∧ toScaled v ds = some (-r) := by
  have hn : 0 ≤ -ds / 16 ∧ -ds / 16 ≤ 8388608 := by omega
  have hz := tdiv_sign (-1) (-ds) 16 (.inr rfl) (by omega)
  rw [Int.neg_one_mul, Int.neg_neg, Int.neg_one_mul] at hz
  obtain ⟨r, e1, e2⟩ := scaledWith_signed (-1) (-ds / 16) 16 v (.inr rfl) hn.1 hn.2 (by decide)
    (by omega) h0 h1
  rw [Int.neg_one_mul, Int.neg_one_mul] at e2
  refine ⟨r, e1, ?_⟩
  rw [toScaled, hz, halve_small 32 _ 16 (by omega)]
  exact e2

end C17
