import TexcraftModel.Lemmas.C04AlgoMono

/-!
C04 — if the conservative bound `demBound x` (end of `Model/C04Algo.lean`) is below `AWFUL_BAD`,
every feasible sequence of lines from the start of the paragraph has total demerits strictly
between `-AWFUL_BAD` and `AWFUL_BAD` (`demBound_range`). A feasible line has
`0 ≤ bad ≤ threshold`, so its demerits (TeX.2021.859) are at most `bnd_perLine x` in absolute
value; it ends at a legal breakpoint beyond the previous one, so a run pays at most that for each
legal breakpoint it passes (`bnd_run_cost`), and `demBound x` allows for all of them.
-/
namespace C04

theorem iabs_le_iff {a r : Int} : iabs a ≤ r ↔ -r ≤ a ∧ a ≤ r := by
  unfold iabs
  omega

theorem iabs_self (a : Int) : -iabs a ≤ a ∧ a ≤ iabs a := iabs_le_iff.mp (Int.le_refl _)

theorem iabs_nonneg (a : Int) : 0 ≤ iabs a := by
  have := iabs_self a
  omega

theorem iabs_add_le (a b : Int) : iabs (a + b) ≤ iabs a + iabs b := by
  have := iabs_self a
  have := iabs_self b
  exact iabs_le_iff.mpr (by omega)

theorem sq_nonneg (a : Int) : 0 ≤ a * a := by
  by_cases ha : 0 ≤ a
  · exact Int.mul_nonneg ha ha
  · exact Int.mul_nonneg_of_nonpos_of_nonpos (by omega) (by omega)

theorem sq_le {a c : Int} (h : iabs a ≤ c) : a * a ≤ c * c := by
  have h := iabs_le_iff.mp h
  by_cases ha : 0 ≤ a
  · exact Int.mul_self_le_mul_self ha h.2
  · rw [← Int.neg_mul_neg a a]
    exact Int.mul_self_le_mul_self (by omega) (by omega)

theorem threshold_le (p : Params) : threshold p ≤ 10000 := by
  unfold threshold
  omega

/-- The last step of TeX.2021.108 on the ratio `r`. -/
theorem badness_cube (r : Int) :
    (0 ≤ r → 0 ≤ (if 1290 < r then 10000 else (r * r * r + 131072) / 262144)) ∧
      (if 1290 < r then 10000 else (r * r * r + 131072) / 262144) ≤ 10000 := by
  by_cases h : 1290 < r
  · rw [if_pos h]
    exact ⟨fun _ => by decide, by decide⟩
  · rw [if_neg h]
    have hr : r ≤ 1290 := Int.not_lt.mp h
    have h2 := sq_nonneg r
    have h3 : (0 ≤ r → 0 ≤ r * r * r) ∧ r * r * r ≤ 1290 * 1290 * 1290 := by
      by_cases h0 : 0 ≤ r
      · exact ⟨fun _ => Int.mul_nonneg h2 h0,
          Int.mul_le_mul (Int.mul_self_le_mul_self h0 hr) hr h0 (by decide)⟩
      · have := Int.mul_nonpos_of_nonneg_of_nonpos h2 (Int.le_of_not_le h0)
        omega
    generalize r * r * r = q at h3
    omega

theorem badness_ratio {t s : Int} (ht : 0 ≤ t) (hs : 0 < s) :
    0 ≤ (if t ≤ 7230584 then t * 297 / s else if 1663497 ≤ s then t / (s / 297) else t) := by
  split
  · exact Int.ediv_nonneg (Int.mul_nonneg ht (by decide)) (Int.le_of_lt hs)
  · split
    · exact Int.ediv_nonneg ht (by omega)
    · exact ht

theorem badness_range (t s : Int) : (0 ≤ t → 0 ≤ badness t s) ∧ badness t s ≤ 10000 := by
  unfold badness
  by_cases h1 : t = 0
  · rw [if_pos h1]
    exact ⟨fun _ => by decide, by decide⟩
  · rw [if_neg h1]
    by_cases h2 : s ≤ 0
    · rw [if_pos h2]
      exact ⟨fun _ => by decide, by decide⟩
    · rw [if_neg h2]
      exact ⟨fun ht => (badness_cube _).1 (badness_ratio ht (Int.not_le.mp h2)),
        (badness_cube _).2⟩

theorem rate_range (t : Totals) (w : Int) :
    0 ≤ (rate t w).1 ∧ ((rate t w).1 ≤ 10000 ∨ (rate t w).1 = 10001) := by
  unfold rate
  by_cases h : 0 < w - t.w
  · simp only [if_pos h]
    by_cases h2 : t.s1 ≠ 0 ∨ t.s2 ≠ 0 ∨ t.s3 ≠ 0
    · rw [if_pos h2]
      exact ⟨by decide, .inl (by decide)⟩
    · rw [if_neg h2]
      have hb := badness_range (w - t.w) t.s0
      exact ⟨hb.1 (Int.le_of_lt h), .inl hb.2⟩
  · simp only [if_neg h]
    by_cases h2 : t.sh < -(w - t.w)
    · rw [if_pos h2]
      exact ⟨by decide, .inr rfl⟩
    · rw [if_neg h2]
      have hb := badness_range (-(w - t.w)) t.sh
      exact ⟨hb.1 (by omega), .inl hb.2⟩

theorem bnd_lineEval_bad {x : Inst} {a : Option Nat} {L b : Nat} {bad : Int} {fit : Fit}
    (h : lineEval x a L b = some (bad, fit)) : 0 ≤ bad ∧ bad ≤ threshold x.p := by
  have hi := lineEval_eq_some.1 h
  have h0 := (rate_range (lineTotals x a b) (lineWidth x.p.widths L)).1
  rw [hi.2.2.2.2.1] at h0
  exact ⟨h0, hi.2.2.2.2.2⟩

/-! `demBound x` in named pieces; `bnd_demBound_eq` (by `rfl`) puts them together. -/

def bnd_capTol (x : Inst) : Int := if x.p.tolerance < 10001 then x.p.tolerance else 10001
def bnd_d0 (x : Inst) : Int := iabs x.p.linePenalty + (if bnd_capTol x < 0 then 0 else bnd_capTol x)
def bnd_dcap (x : Inst) : Int := if 10000 ≤ bnd_d0 x then 10000 else bnd_d0 x
def bnd_maxPenF (x : Inst) (m : Int) (b : Nat) : Int :=
  match breakInfo x b with
  | some (p, _) => if -10000 < p ∧ m < iabs p then iabs p else m
  | none => m
def bnd_maxPen (x : Inst) : Int := (legalBreaks x).foldl (bnd_maxPenF x) 0
def bnd_perLine (x : Inst) : Int :=
  bnd_dcap x * bnd_dcap x + bnd_maxPen x * bnd_maxPen x + iabs x.p.finalHyphenDemerits
    + iabs x.p.doubleHyphenDemerits + iabs x.p.adjDemerits

def bnd_cnt (x : Inst) (k : Nat) : Int :=
  ((List.range k).filter fun b => (breakInfo x b).isSome).length

theorem bnd_demBound_eq (x : Inst) :
    demBound x = bnd_cnt x (x.n + 1) * bnd_perLine x + iabs x.p.adjDemerits := rfl

theorem bnd_perLine_nonneg (x : Inst) : 0 ≤ bnd_perLine x := by
  unfold bnd_perLine
  have h1 := sq_nonneg (bnd_dcap x)
  have h2 := sq_nonneg (bnd_maxPen x)
  have h3 := iabs_nonneg x.p.finalHyphenDemerits
  have h4 := iabs_nonneg x.p.doubleHyphenDemerits
  have h5 := iabs_nonneg x.p.adjDemerits
  omega

theorem bnd_maxPenF_ge (x : Inst) (m : Int) (b : Nat) :
    m ≤ bnd_maxPenF x m b ∧
      ∀ p hy, breakInfo x b = some (p, hy) → -10000 < p → iabs p ≤ bnd_maxPenF x m b := by
  unfold bnd_maxPenF
  cases breakInfo x b with
  | none => exact ⟨Int.le_refl m, fun _ _ h => nomatch h⟩
  | some q =>
    obtain ⟨p0, hy0⟩ := q
    simp only [Option.some.injEq, Prod.mk.injEq]
    split
    · refine ⟨by omega, ?_⟩
      rintro p hy ⟨rfl, _⟩ _
      exact Int.le_refl _
    · refine ⟨Int.le_refl m, ?_⟩
      rintro p hy ⟨rfl, _⟩ hp
      -- `omega` would use the negated conjunction of the `split` through `Classical.choice`
      exact Int.not_lt.mp fun hlt => ‹¬(-10000 < p0 ∧ m < iabs p0)› ⟨hp, hlt⟩

theorem bnd_fold_ge (x : Inst) (l : List Nat) (m : Int) : m ≤ l.foldl (bnd_maxPenF x) m := by
  induction l generalizing m with
  | nil => exact Int.le_refl m
  | cons a t ih => exact Int.le_trans (bnd_maxPenF_ge x m a).1 (ih _)

theorem bnd_fold_mem (x : Inst) (l : List Nat) (m : Int) {b : Nat} {p : Int} {hy : Bool}
    (hb : b ∈ l) (hbi : breakInfo x b = some (p, hy)) (hp : -10000 < p) :
    iabs p ≤ l.foldl (bnd_maxPenF x) m := by
  induction l generalizing m with
  | nil => cases hb
  | cons a t ih =>
    rcases List.mem_cons.mp hb with rfl | hb
    · exact Int.le_trans ((bnd_maxPenF_ge x m b).2 p hy hbi hp) (bnd_fold_ge x t _)
    · exact ih _ hb

theorem bnd_maxPen_nonneg (x : Inst) : 0 ≤ bnd_maxPen x := bnd_fold_ge x _ 0

theorem bnd_pen_range (x : Inst) {b : Nat} {p : Int} {hy : Bool} (hb : b ≤ x.n)
    (hbi : breakInfo x b = some (p, hy)) (hp : -10000 < p) : iabs p ≤ bnd_maxPen x :=
  bnd_fold_mem x _ 0 ((mono_mem_legalBreaks x b).2 ⟨hb, hbi ▸ rfl⟩) hbi hp

theorem bnd_clamp {d D : Int} (h : iabs d ≤ D) :
    iabs (if 10000 ≤ d ∨ d ≤ -10000 then 10000 else d)
      ≤ (if 10000 ≤ D then 10000 else D) := by
  rw [iabs_le_iff] at h ⊢
  split <;> split <;> omega

theorem bnd_d0_ge (x : Inst) {bad : Int} (h0 : 0 ≤ bad) (h1 : bad ≤ threshold x.p) :
    iabs (x.p.linePenalty + bad) ≤ bnd_d0 x := by
  have hl := iabs_self x.p.linePenalty
  unfold threshold at h1
  unfold bnd_d0 bnd_capTol
  rw [iabs_le_iff]
  omega

theorem bnd_pen_term (pen : Int) {d2 B m : Int} (hm : -10000 < pen → iabs pen ≤ m)
    (h0 : 0 ≤ d2) (hd : d2 ≤ B) :
    iabs (if 0 < pen then d2 + pen * pen else if -10000 < pen then d2 - pen * pen else d2)
      ≤ B + m * m := by
  have h1 := sq_nonneg m
  have h2 := sq_nonneg pen
  have h3 : -10000 < pen → pen * pen ≤ m * m := fun h => sq_le (hm h)
  rw [iabs_le_iff]
  omega

theorem bnd_ite_add (c : Prop) [Decidable c] (e : Int) {v B : Int} (hv : iabs v ≤ B) :
    iabs (if c then v + e else v) ≤ B + iabs e := by
  have := iabs_self e
  rw [iabs_le_iff] at hv ⊢
  omega

theorem bnd_ite_add2 (c1 c2 : Prop) [Decidable c1] [Decidable c2] (e1 e2 : Int) {v B : Int}
    (hv : iabs v ≤ B) :
    iabs (if c1 then v + e1 else if c2 then v + e2 else v) ≤ B + iabs e1 + iabs e2 := by
  have := iabs_self e1
  have := iabs_self e2
  rw [iabs_le_iff] at hv ⊢
  omega

theorem bnd_demerits_le {x : Inst} {a : Option Nat} {L b : Nat} {bad : Int} {fit : Fit} (pf : Fit)
    (hl : lineEval x a L b = some (bad, fit)) : iabs (demerits x a pf b bad fit) ≤ bnd_perLine x := by
  obtain ⟨hleg, _, hb, _⟩ := lineEval_eq_some.1 hl
  obtain ⟨h0, h1⟩ := bnd_lineEval_bad hl
  obtain ⟨⟨pen, hy⟩, hbi⟩ := Option.isSome_iff_exists.mp hleg
  have hd : _ ≤ bnd_dcap x := bnd_clamp (bnd_d0_ge x h0 h1)
  -- TeX.2021.859 from the inside out: the clamped square, the penalty term, the two hyphen
  -- terms, the adjacency term; each lemma adds its term's bound to that of the value so far
  have ht := bnd_ite_add (pf.farFrom fit) x.p.adjDemerits
    (bnd_ite_add2 (hyphAt x a ∧ b = x.n) (hyphAt x a ∧ hy = true)
      x.p.finalHyphenDemerits x.p.doubleHyphenDemerits
      (bnd_pen_term pen (bnd_pen_range x hb hbi) (sq_nonneg _) (sq_le hd)))
  unfold demerits
  simp only [hbi]
  exact ht

theorem bnd_cnt_succ (x : Inst) {k : Nat} (h : (breakInfo x k).isSome) :
    bnd_cnt x (k + 1) = bnd_cnt x k + 1 := by
  unfold bnd_cnt
  rw [List.range_succ, List.filter_append, List.length_append, List.filter_cons, if_pos h]
  rfl

theorem bnd_cnt_mono (x : Inst) {j k : Nat} (h : j ≤ k) : bnd_cnt x j ≤ bnd_cnt x k :=
  Int.ofNat_le.mpr ((List.range_sublist.mpr h).filter _).length_le

theorem bnd_cnt_step {x : Inst} {a : Option Nat} {L b : Nat} {r : Int × Fit}
    (hl : lineEval x a L b = some r) :
    bnd_cnt x (posIdx a) * bnd_perLine x + bnd_perLine x
      ≤ bnd_cnt x (posIdx (some b)) * bnd_perLine x := by
  obtain ⟨hleg, hlt, _⟩ := lineEval_eq_some.1 hl
  have h2 := Int.mul_le_mul_of_nonneg_right (bnd_cnt_mono x (posIdx_le_of_lt? hlt))
    (bnd_perLine_nonneg x)
  show _ ≤ bnd_cnt x (b + 1) * _
  rw [bnd_cnt_succ x hleg, Int.add_mul, Int.one_mul]
  omega

theorem bnd_run_cost {x : Inst} {st st' : St} {s : List Nat} {c : Int}
    (h : run x st s = some (c, st')) :
    bnd_cnt x (posIdx st.pos) * bnd_perLine x + iabs c
      ≤ bnd_cnt x (posIdx st'.pos) * bnd_perLine x := by
  induction s generalizing st c with
  | nil =>
    simp only [run, Option.some.injEq, Prod.mk.injEq] at h
    rw [← h.1, ← h.2]
    exact Int.le_of_eq (Int.add_zero _)
  | cons a t ih =>
    obtain ⟨bad, fit, c2, hl, hr, rfl⟩ := run_cons_inv h
    have hd := bnd_demerits_le st.fit hl
    have hs := bnd_cnt_step hl
    have hc := ih hr
    dsimp only at hc
    have := iabs_add_le (demerits x st.pos st.fit a bad fit) c2
    omega

theorem demBound_range (x : Inst) (h : demBound x < awfulBad) {s : List Nat} {c : Int} {st : St}
    (hr : run x {} s = some (c, st)) : -awfulBad < c ∧ c < awfulBad := by
  have h1 := bnd_run_cost hr
  have hp : posIdx st.pos ≤ x.n + 1 := by
    rcases run_pos_legal hr with h | ⟨b, h, hb, _⟩
    · rw [h]; exact Nat.zero_le _
    · rw [h]; exact Nat.succ_le_succ hb
  have h2 := Int.mul_le_mul_of_nonneg_right (bnd_cnt_mono x hp) (bnd_perLine_nonneg x)
  have h3 := iabs_nonneg x.p.adjDemerits
  have h4 := iabs_self c
  have h0 : bnd_cnt x (posIdx ({} : St).pos) * bnd_perLine x = 0 := Int.zero_mul _
  rw [bnd_demBound_eq] at h
  omega

theorem demBound_sound (x : Inst) (h : demBound x < awfulBad) : PrefixBounded x :=
  fun _ _ _ hr => (demBound_range x h hr).2

end C04
