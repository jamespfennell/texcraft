import TexcraftModel.Model.C16

/-! Two invariants of `dvi::Values::update`, each about the current level and every stacked one.
`Values.Fits`: the variables w, x, y, z are `i32`s. `Values.Within B`: `update` adds with `+=` on
`i32` (a panic under overflow checks, a silent wrap without), while the model's `h`, `v` are
unbounded `Int`; this says when that abstraction is exact: if the movements performed so far sum
(in absolute value) to at most `B`, every `h` and `v` the tracker holds is within `[-B, B]`. -/
namespace C16

def StackValues.Fits (s : StackValues) : Prop :=
  fitsI32 s.w ∧ fitsI32 s.x ∧ fitsI32 s.y ∧ fitsI32 s.z

/-- Every w/x/y/z value held (current level and stack) is an `i32`: they only ever come from
`SetVar` payloads or are zero. (`h` and `v` are sums and are *not* bounded by this invariant:
`run_within` and `positions_within_i32` bound them by the total movement of the stream.) -/
def Values.Fits (s : Values) : Prop := s.top.Fits ∧ ∀ t ∈ s.tail, t.Fits

theorem fits_zero : fitsI32 0 := by unfold fitsI32; omega

theorem Values.fits_init : ({} : Values).Fits := by
  refine ⟨⟨fits_zero, fits_zero, fits_zero, fits_zero⟩, ?_⟩
  intro t ht
  cases ht

theorem moveBy_fits (s : StackValues) (v : Var) (d : Int) (h : s.Fits) : (s.moveBy v d).Fits := by
  cases v <;> exact h

theorem setVar_fits (s : StackValues) (v : Var) (i : Int) (h : s.Fits) (hi : fitsI32 i) :
    (s.setVar v i).Fits := by
  obtain ⟨h1, h2, h3, h4⟩ := h
  cases v
  · exact ⟨hi, h2, h3, h4⟩
  · exact ⟨h1, hi, h3, h4⟩
  · exact ⟨h1, h2, hi, h4⟩
  · exact ⟨h1, h2, h3, hi⟩

theorem var_fits (s : StackValues) (v : Var) (h : s.Fits) : fitsI32 (s.var v) := by
  obtain ⟨h1, h2, h3, h4⟩ := h
  cases v <;> assumption

theorem update_pop_all {P : StackValues → Prop} (s : Values) (ht : P s.top)
    (hl : ∀ t ∈ s.tail, P t) : P (s.update .pop).top ∧ ∀ t ∈ (s.update .pop).tail, P t := by
  obtain ⟨f, top, tail⟩ := s
  cases tail with
  | nil => exact ⟨ht, hl⟩
  | cons a rest => exact ⟨hl a List.mem_cons_self, fun t h => hl t (List.mem_cons_of_mem _ h)⟩

theorem update_fits (s : Values) (op : Op) (hs : s.Fits) (hwf : op.WF) : (s.update op).Fits := by
  obtain ⟨ht, hl⟩ := hs
  cases op with
  | typesetChar c m => cases m <;> exact ⟨ht, hl⟩
  | typesetRule hh w m => cases m <;> exact ⟨ht, hl⟩
  | beginPage ps p => exact Values.fits_init
  | push => exact ⟨ht, List.forall_mem_cons.2 ⟨ht, hl⟩⟩
  | pop => exact update_pop_all s ht hl
  | move v => exact ⟨moveBy_fits _ _ _ ht, hl⟩
  | setVar v i => exact ⟨moveBy_fits _ _ _ (setVar_fits _ _ _ ht hwf), hl⟩
  | _ => exact ⟨ht, hl⟩

def StackValues.Within (s : StackValues) (B : Nat) : Prop :=
  s.h.natAbs ≤ B ∧ s.v.natAbs ≤ B

def Values.Within (s : Values) (B : Nat) : Prop :=
  s.top.Within B ∧ ∀ t ∈ s.tail, t.Within B

theorem StackValues.Within.mono {s : StackValues} {B C : Nat} (h : s.Within B) (hBC : B ≤ C) :
    s.Within C := ⟨Nat.le_trans h.1 hBC, Nat.le_trans h.2 hBC⟩

theorem StackValues.Within.fits {s : StackValues} {B : Nat} (h : s.Within B) (hB : B < 2147483648) :
    fitsI32 s.h ∧ fitsI32 s.v := by
  obtain ⟨a, b⟩ := h
  unfold fitsI32
  omega

theorem Values.Within.mono {s : Values} {B C : Nat} (h : s.Within B) (hBC : B ≤ C) :
    s.Within C := ⟨h.1.mono hBC, fun t ht => (h.2 t ht).mono hBC⟩

theorem moveBy_within (s : StackValues) (v : Var) (d : Int) (B : Nat) (h : s.Within B) :
    (s.moveBy v d).Within (B + d.natAbs) := by
  have hd {a : Int} (ha : a.natAbs ≤ B) : (a + d).natAbs ≤ B + d.natAbs :=
    Nat.le_trans (Int.natAbs_add_le a d) (Nat.add_le_add_right ha _)
  have h' := h.mono (Nat.le_add_right B d.natAbs)
  cases v
  · exact ⟨hd h.1, h'.2⟩
  · exact ⟨hd h.1, h'.2⟩
  · exact ⟨h'.1, hd h.2⟩
  · exact ⟨h'.1, hd h.2⟩

theorem setVar_within (s : StackValues) (v : Var) (i : Int) (B : Nat) (h : s.Within B) :
    (s.setVar v i).Within B := by
  cases v <;> exact h

theorem update_within (s : Values) (op : Op) (B : Nat) (h : s.Within B) :
    (s.update op).Within (B + stepMag s op) := by
  obtain ⟨ht, hl⟩ := h
  have hl' : ∀ t ∈ s.tail, t.Within (B + stepMag s op) :=
    fun t hm => (hl t hm).mono (Nat.le_add_right _ _)
  have ht' : s.top.Within (B + stepMag s op) := ht.mono (Nat.le_add_right _ _)
  cases op with
  | typesetChar c m => cases m <;> exact ⟨ht', hl'⟩
  | typesetRule hh w m =>
    cases m
    · exact ⟨ht', hl'⟩
    · -- a moving rule, `right` and `down` change `top` as `moveBy .W` and `moveBy .Y` do, by `rfl`
      exact ⟨moveBy_within _ .W w B ht, hl'⟩
  | beginPage ps p => exact ⟨⟨Nat.zero_le _, Nat.zero_le _⟩, fun t hm => nomatch hm⟩
  | push => exact ⟨ht', List.forall_mem_cons.2 ⟨ht', hl'⟩⟩
  | pop => exact update_pop_all s ht' hl'
  | right d => exact ⟨moveBy_within _ .W d B ht, hl'⟩
  | down d => exact ⟨moveBy_within _ .Y d B ht, hl'⟩
  | move v => exact ⟨moveBy_within _ _ _ _ ht, hl'⟩
  | setVar v i => exact ⟨moveBy_within _ _ _ _ (setVar_within _ _ _ _ ht), hl'⟩
  | _ => exact ⟨ht', hl'⟩

theorem run_within (ops : List Op) (s : Values) (B : Nat) (h : s.Within B) :
    ∀ k, k ≤ ops.length → ((ops.take k).foldl Values.update s).Within (B + runMag s ops) := by
  induction ops generalizing s B with
  | nil => intro k _; simpa [runMag] using h
  | cons op ops ih =>
    intro k hk
    cases k with
    | zero => simpa using h.mono (Nat.le_add_right _ _)
    | succ j =>
      have := ih (s.update op) (B + stepMag s op) (update_within s op B h) j (by simpa using hk)
      simpa [runMag, List.take_succ_cons, List.foldl_cons, Nat.add_assoc] using this

end C16
