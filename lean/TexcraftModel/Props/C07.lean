import TexcraftModel.Lemmas.C07
import TexcraftModel.Lemmas.C07Scan

/-!
# C07 — property theorems

The model describes /repo as it is (fixes C07-a, C09-f, C07-g applied); the witnesses further down
show which statements are false for the formulas as they stood before those fixes. Conditionals
are stated twice: on abstract tokens that carry their scanned operands (`run`, `Model/C07.lean`)
and on the tokens a user writes (`urun`, `Model/C07Scan.lean`); `operands_*` reduce the second to
the first.
-/
namespace C07

/-- **Main theorem.** For every well-nested conditional tree `t` (any depth, any plain tokens —
unbalanced braces included — in any branch, conditionals identified by tag so `\let` aliases
are covered), in every delivering state (any branch stack `st`, any number of open groups,
any output so far) and followed by any `rest`: expanding the flattened tree is the same as
expanding just the tokens TeX selects. The right-hand side contains no conditional token, so
the branch stack is never touched: it is back at `st` when `rest` is reached. -/
theorem cond_selects (t : Text) (st : List BranchKind) (g : Nat) (o rest : List Tok) :
    run ⟨st, .deliver, g, o⟩ (t.flatten ++ rest) = run ⟨st, .deliver, g, o⟩ (t.selectToks ++ rest) := by
  rw [deliver_text, Text.selectToks, run_plain]

/-- The same with the final state spelled out: if the braces of the *selected* text never close
a group that is not open, the selected tokens are appended to the output, the branch stack is
the initial one and expansion continues with `rest`. -/
theorem cond_selects_ok (t : Text) (st : List BranchKind) (g g' : Nat) (o rest : List Tok)
    (hb : bracesOk g t.select = some g') :
    run ⟨st, .deliver, g, o⟩ (t.flatten ++ rest) = run ⟨st, .deliver, g', o ++ t.selectToks⟩ rest := by
  rw [deliver_text, plainRun_braces, hb]
  rfl

/-- … and if they do, the run ends with the main loop's "no group to end" error (nothing else
can go wrong inside a well-nested tree). -/
theorem cond_selects_unbalanced (t : Text) (st : List BranchKind) (g : Nat) (o rest : List Tok)
    (hb : bracesOk g t.select = none) :
    run ⟨st, .deliver, g, o⟩ (t.flatten ++ rest) = .error .noGroupToEnd := by
  rw [deliver_text, plainRun_braces, hb]
  rfl

/-- A whole input that is a well-nested tree: output = selected tokens, branch stack empty. -/
theorem expandAll_tree (t : Text) (g' : Nat) (hb : bracesOk 0 t.select = some g') :
    expandAll t.flatten = .ok ⟨[], .deliver, g', t.selectToks⟩ := by
  have := cond_selects_ok t [] 0 g' [] [] hb
  simpa [expandAll, run_nil, finish] using this

/-- Skipped text contributes nothing: each of the four skipping loops (`false_case`,
`if_case_primitive_fn` with any counter, `or_primitive_fn`, `else_primitive_fn`), at any
depth `d ≥ 0`, passes over any well-nested text — whatever braces, nested conditionals,
`\else`s and `\or`s it contains — and is afterwards in exactly the state it was in. -/
theorem skipped_text_contributes_nothing (mk : Int → Mode) (h : IsSkip mk) (t : Text)
    (st : List BranchKind) (g : Nat) (o : List Tok) (d : Int) (rest : List Tok) (hd : 0 ≤ d) :
    run ⟨st, mk d, g, o⟩ (t.flatten ++ rest) = run ⟨st, mk d, g, o⟩ rest :=
  skip_balanced h st g o t.flatten d rest hd (rawDepth_flatten0 t)

/-- **Main theorem, relational form with raw skipped branches.** `Delivers l p` (Model/C07):
`l` is a well-nested input whose *skipped* branches are arbitrary token lists that are only
required to be if/fi-balanced with no `\else`/`\or` of their own (stray `\else`/`\or` inside
nested conditionals, unbalanced braces, aliases, anything else allowed; after the selected
case of an `\ifcase` only if/fi balance is required), and `p` are the plain tokens of the
selected branches. Then, in every delivering state and before any `rest`, expanding `l` is
the same as expanding just `p`; the branch stack is back at `st` when `rest` is reached. -/
theorem cond_selects_raw {l : List Tok} {p : List Plain} (h : Delivers l p)
    (st : List BranchKind) (g : Nat) (o rest : List Tok) :
    run ⟨st, .deliver, g, o⟩ (l ++ rest) = run ⟨st, .deliver, g, o⟩ (p.map Plain.tok ++ rest) := by
  rw [delivers_run h, run_plain]

/-- The executable tree specification (used by the correspondence) is an instance of the
relational one: every tree's flattening delivers the tree's selection. -/
theorem tree_spec_is_instance (t : Text) : Delivers t.flatten t.select := delivers_flatten t

/-- Raw skipped text contributes nothing: every skipping loop at every depth `d ≥ 0` passes over
any token list that is if/fi-balanced with no `\else`/`\or` at its own level
(`rawDepth 0 l = some 0`) and is afterwards in exactly the same state. -/
theorem skipped_raw_contributes_nothing (mk : Int → Mode) (h : IsSkip mk) (l : List Tok)
    (st : List BranchKind) (g : Nat) (o : List Tok) (d : Int) (rest : List Tok) (hd : 0 ≤ d)
    (hl : rawDepth 0 l = some 0) :
    run ⟨st, mk d, g, o⟩ (l ++ rest) = run ⟨st, mk d, g, o⟩ rest :=
  skip_balanced h st g o l d rest hd hl

/-- `\ifodd` (after C07-a) is true exactly for the numbers not divisible by two, negative
numbers included. -/
theorem ifodd_spec (n : Int) : ifodd n = true ↔ n % 2 ≠ 0 :=
  (ifodd_iff_not_dvd n).trans (not_congr (Int.dvd_iff_emod_eq_zero ..))

/-- The three `\ifnum` relations. -/
theorem ifnum_spec (a b : Int) :
    (ifnum a .lt b = true ↔ a < b) ∧ (ifnum a .eq b = true ↔ a = b) ∧ (ifnum a .gt b = true ↔ a > b) :=
  ifnum_iff a b

/-- Every two-way condition evaluates to TeX's meaning of it. -/
theorem test_spec (c : Test) : evalTest c = true ↔ c.holds := evalTest_holds c

/-- What `\ifcase n` selects, in terms of the list of branches: branch number `n` when
`0 ≤ n < number of branches`, otherwise (negative or out of range) the `\else` branch, or
nothing if there is none. -/
theorem ifcase_spec : ∀ (cs : Cases) (n : Int),
    cs.select n =
      match (if n < 0 then none else cs.branches[n.toNat]?) with
      | some b => b.select
      | none => (match cs.elseBranch with | some e => e.select | none => []) := by
  intro cs n
  by_cases hn : n < 0
  · rw [if_pos hn, select_neg cs n hn, selectElse_eq]
    rfl
  · have h := select_natCast cs n.toNat
    rw [Int.toNat_of_nonneg (by omega), selectElse_eq] at h
    rw [if_neg hn, h]
    rfl

/-- The model's `\ifcase` (counter loop, after C09-f, `fixes/C07-f.patch`) delivers exactly that selection, for
every integer `n` and every body. -/
theorem ifcase_selects (n : Int) (cs : Cases) (st : List BranchKind) (g : Nat) (o rest : List Tok) :
    run ⟨st, .deliver, g, o⟩ (.ifcase n :: (cs.flatten ++ rest)) =
      run ⟨st, .deliver, g, o⟩ ((cs.select n).map Plain.tok ++ rest) := by
  rw [caseDelivers_run (caseDelivers_flatten cs n), run_plain]

/-- On every stream, in every state, for every behaviour `E` of the other expandable
commands and whatever name the optimized `\expandafter` was invoked by: the two
implementations return the same result — same error, or same state and same remaining
stream. -/
theorem xa_equiv {σ : Type} (E : Expander σ) (name : Nat) (s : σ) (l : List XTok) :
    xaSimple E s l = xaOptimized E name s l :=
  (xaOptimized_eq E name s l).symm

/-- Hence `expand_once` and the whole delivered token sequence do not depend on which one is
installed. -/
theorem xa_equiv_expand_once {σ : Type} (E : Expander σ) (s : σ) (l : List XTok) :
    expandOnce E (fun _ => xaSimple E) s l = expandOnce E (xaOptimized E) s l := by
  rw [xaOptimized_funext]

theorem xa_equiv_deliver {σ : Type} (E : Expander σ) (fuel : Nat) (s : σ) (l : List XTok) :
    deliverAll E (fun _ => xaSimple E) fuel s l = deliverAll E (xaOptimized E) fuel s l := by
  rw [xaOptimized_funext]

/-- `\expandafter` acts on one token: with `t2` not itself `\expandafter`/`\noexpand`, the
result is `t1` followed by the one-step expansion of `t2 …` (or `t2 …` unchanged when `t2` is
not expandable). -/
theorem xa_one_token {σ : Type} (E : Expander σ) (s : σ) (t1 : XTok) (k : Nat) (rest : List XTok) :
    xaSimple E s (t1 :: .cs k :: rest) =
      match E s (.cs k) rest with
      | none => .ok (s, t1 :: .cs k :: rest)
      | some (.ok (s', l)) => .ok (s', t1 :: l)
      | some (.error e) => .error e := by
  simp only [xaSimple]
  cases E s (.cs k) rest with
  | none => rfl
  | some r =>
    cases r with
    | error e => rfl
    | ok p => rfl

/-- In `next_expanded`: the token after `\noexpand` is handed over as it is — whatever it is
(a macro, `\expandafter`, another `\noexpand`, …), whatever `E` would have done with it —
and nothing else changes: same state, and the rest of the stream is untouched, so the next
call expands the following token as usual. -/
theorem noexpand_once {σ : Type} (E : Expander σ) (xaFn : Nat → σ → List XTok → XRes σ)
    (fuel : Nat) (s : σ) (t : XTok) (rest : List XTok) :
    nextExpanded E xaFn (fuel + 1) s (.noexp :: t :: rest) = some (.ok (some t, s, rest)) := rfl

/-- In `expand_once` (i.e. under `\expandafter`): `\noexpand` is consumed and the token after
it is put back unexpanded; state and rest unchanged. -/
theorem noexpand_once_under_expand_once {σ : Type} (E : Expander σ)
    (xaFn : Nat → σ → List XTok → XRes σ) (s : σ) (t : XTok) (rest : List XTok) :
    expandOnce E xaFn s (.noexp :: t :: rest) = .ok (s, t :: rest) := rfl

/-- TeX's own rule (reference semantics `texXa`/`texNext`, tex.web §358, §368, §369): when
`\noexpand` is expanded *by `\expandafter`*, the token after it goes back marked, and the
mark makes it be handed over unexpanded the next time it is looked at — exactly one
expansion is suppressed there too. -/
theorem texref_noexpand_once (macros : List Macro) (s : Nat) (t1 t : XTok) (m1 m : Bool)
    (rest : List MTok) (fuel : Nat) (ht : texExpandable macros t = true) :
    texXa macros s ((t1, m1) :: (.noexp, false) :: (t, m) :: rest) = .ok (s, (t1, false) :: (t, true) :: rest)
    ∧ texNext macros (fuel + 1) s ((t, true) :: rest) = some (.ok (some t, s, rest)) := by
  exact ⟨rfl, if_pos ht⟩

/-- The full-strength `\noexpand` statement would be: the model (= the code) delivers what
TeX's rule delivers, on every stream. It is **false** (finding C07-h, status known): the
code has no mark, so a `\noexpand` that is expanded by `\expandafter` suppresses nothing.
Proved for the code: `noexpand_once` (main-loop / `next_expanded` context, where the two
agree) and `noexpand_once_under_expand_once` (what the code does instead). Agreement of the
model with the reference on streams where no `\noexpand` is expanded by `\expandafter` is
checked by the correspondence only (tag `xa:model=TeX-reference`). -/
def C07_noexpand_full_statement : Prop :=
  ∀ (macros : List Macro) (fuel : Nat) (h : Nat) (l : List XTok),
    deliverAll (corrExpander macros) (xaOptimized (corrExpander macros)) fuel h l
      = texDeliverAll macros fuel h (l.map (·, false))

/-- Witness `\def\mA{b}\expandafter a\noexpand\mA`: the code delivers `a b`, TeX delivers `a`
and then `\mA` unexpanded. -/
example : ¬ C07_noexpand_full_statement := by
  intro h
  have h1 := h [⟨0, [.tok (.ch 1)]⟩] 10 0 [.xa 0, .ch 0, .noexp, .cs 0]
  have h2 : deliverAll (corrExpander [⟨0, [.tok (.ch 1)]⟩]) (xaOptimized (corrExpander [⟨0, [.tok (.ch 1)]⟩]))
      10 0 [.xa 0, .ch 0, .noexp, .cs 0] = some (.ok [.ch 0, .ch 1]) := by rfl
  have h3 : texDeliverAll [⟨0, [.tok (.ch 1)]⟩] 10 0 ([XTok.xa 0, .ch 0, .noexp, .cs 0].map (·, false))
      = some (.ok [.ch 0, .cs 0]) := by rfl
  rw [h2, h3] at h1
  cases h1

/-- `\iffalse {\iftrue a\else }\fi \else \ifcase 1 a\or b{\else c\fi }\fi d` (unbalanced
braces in the skipped branch, nested `\else` at depth 1) delivers `b { } d`. -/
example :
    expandAll (Text.flatten
      (.ifElse .ff
        (.plain .bg (.ifElse .tt (.plain (.other 0) .nil) (.plain .eg .nil) .nil))
        (.caseOf 1 (.more (.plain (.other 0) .nil)
                    (.lastElse (.plain (.other 1) (.plain .bg .nil)) (.plain (.other 2) .nil)))
          (.plain .eg .nil))
        (.plain (.other 3) .nil)))
      = .ok ⟨[], .deliver, 0, [.other 1, .bg, .eg, .other 3]⟩ := by rfl

/-- `Delivers` is inhabited by inputs no tree describes: `\iffalse \iftrue \else \else \or { \fi \fi b`
(two `\else`s, an `\or` and an open brace inside the nested conditional of the skipped branch). -/
example : Delivers [.iff .ff, .iff .tt, .els, .els, .orr, .bg, .fi, .fi, .other 1] [.other 1] :=
  Delivers.ifFalseFi (a := [.iff .tt, .els, .els, .orr, .bg, .fi]) (r := [.other 1])
    (by simp [Test.holds]) (by decide) (Delivers.plain (.other 1) Delivers.nil)

/-- hypotheses of `cond_selects_ok` / `cond_selects_unbalanced` are both satisfiable -/
example : bracesOk 0 (Text.select (.ifThen (.odd (-3)) (.plain .bg (.plain .eg .nil)) .nil)) = some 0 := by decide
example : bracesOk 0 (Text.select (.ifThen (.odd (-3)) (.plain .eg .nil) .nil)) = none := by decide

/-- C07-a (fixed): the formula that was in the repository before the fix, `(n % 2) == 1`, violates `ifodd_spec`
at `n = -3` (it answers "even"). -/
example : ¬ (ifoddPreFix (-3) = true ↔ (-3 : Int) % 2 ≠ 0) := by decide
example : ifodd (-3) = true ∧ ifodd (-2147483647) = true ∧ ifodd (-2147483648) = false := by decide

/-- C09-f (fixed): before the fix the case counter was decremented at every `\or` of depth 0; at
`-2^31` that `i32` subtraction overflows (panic) where TeX — and the fixed code — select the
`\else` branch. -/
example : caseCounterPreFix (-2147483648) = none := by decide
example :
    expandAll (Text.flatten (.caseOf (-2147483648)
      (.more (.plain (.other 0) .nil) (.lastElse (.plain (.other 1) .nil) (.plain (.other 2) .nil))) .nil))
      = .ok ⟨[], .deliver, 0, [.other 2]⟩ := by rfl

/-- `\xa\xa\xa a\xa b c` with `c` a macro expanding to `C`: one step of either implementation
gives `\xa a b C`. -/
example :
    xaOptimized (macroExpander [⟨0, [.tok (.ch 2)]⟩]) 0 ()
      [.xa 0, .xa 0, .ch 0, .xa 0, .ch 1, .cs 0] = .ok ((), [.xa 0, .ch 0, .ch 1, .ch 2]) := by rfl

/-! `Model/C07Scan.lean` extends the machine with the number scanner the conditions call on the
expanded stream (`urun false` = the code, `urun true` = the code with TeX's rule TeX.2021.510);
the `num` correspondence stream runs both against the real code on token-level programs. -/

/-- **Operands the user writes, terminated (`_partial` of `C07_operands_full_statement`).**
For every abstract program `l` whose operands are decimal constants (`|n| ≤ 2^31-1`), the
surface machine — scanning signs and digits token by token, ending each number at its space —
on the written-out program does exactly what the abstract machine does on `l`. Holds for the
code and for TeX's rule alike. -/
theorem operands_terminated (tex : Bool) (l : List Tok) (h : ∀ t ∈ l, t.operandsOk) :
    urun tex {} (surfaceAll l) = liftRes (expandAll l) :=
  surface_run tex l {} h

/-- The same with the terminating space dropped wherever the next token is a *stopper*: any
unexpandable non-digit non-space token for the code; additionally `\else`/`\or`/`\fi` under
TeX's rule. -/
theorem operands_loose (tex : Bool) (l : List (Tok × Bool)) (hl : looseOk tex l = true)
    (h : ∀ p ∈ l, p.1.operandsOk) :
    urun tex {} (surfaceL l) = liftRes (expandAll (l.map Prod.fst)) :=
  surfaceL_run tex l {} hl h

/-- `cond_selects` for the tokens the user writes: a well-nested tree with decimal operands,
written out with terminated operands, delivers exactly the selected tokens (branch stack
empty, no condition left under evaluation). -/
theorem cond_selects_surface (tex : Bool) (t : Text) (g' : Nat)
    (ho : ∀ tok ∈ t.flatten, tok.operandsOk) (hb : bracesOk 0 t.select = some g') :
    urun tex {} (surfaceAll t.flatten) = .ok ⟨[], .deliver, g', t.select.map Plain.utok, []⟩ := by
  rw [operands_terminated tex _ ho, expandAll_tree t g' hb]
  exact liftRes_plain ..

/-- The full statement: on *every* token-level program the code does what TeX's rule does. -/
def C07_operands_full_statement : Prop := ∀ l : List UTok, urun false {} l = urun true {} l

/-- It is false (finding C07-i, status known): `\ifodd 3\fi b`. The code executes the `\fi` while
the `3` is still being scanned — nothing is on the branch stack yet — and reports
`unexpected fi`; TeX ends the number there and delivers `b`. -/
example : ¬ C07_operands_full_statement := by
  intro h
  have h1 := h [.iodd, .dig 3, .fi, .other 1]
  have h2 : urun false {} [.iodd, .dig 3, .fi, .other 1] = .error (.cond .unexpectedFi) := by rfl
  have h3 : urun true {} [.iodd, .dig 3, .fi, .other 1] = .ok ⟨[], .deliver, 0, [.other 1], []⟩ := by rfl
  rw [h2, h3] at h1
  cases h1

/-- With an enclosing conditional the code does not even report an error: in
`\iftrue \ifodd 3\else a\fi b\fi` the inner `\else` pops the *outer* branch and skips to the
inner `\fi`; `b` then ends the number, `2` is even, so `b` is skipped up to the last `\fi`:
nothing is delivered and no error is reported. TeX delivers `ab`. -/
example :
    urun false {} [.itrue, .iodd, .dig 2, .els, .other 0, .fi, .other 1, .fi]
      = .ok ⟨[], .deliver, 0, [], []⟩
    ∧ urun true {} [.itrue, .iodd, .dig 2, .els, .other 0, .fi, .other 1, .fi]
      = .ok ⟨[], .deliver, 0, [.other 0, .other 1], []⟩ := by
  constructor <;> rfl

/-- hypotheses of `operands_loose` are satisfiable with an unterminated operand: `\ifodd 3a\fi`
for the code, `\ifodd 3\fi` only under TeX's rule. -/
example : looseOk false [(.iff (.odd 3), false), (.other 0, true), (.fi, true)] = true := by decide
example : looseOk true [(.iff (.odd 3), false), (.fi, true)] = true
    ∧ looseOk false [(.iff (.odd 3), false), (.fi, true)] = false := by decide

/-- **One theorem for the five skipping loops** (depth invariant): from any point inside
if/fi-balanced text — `k` conditionals deep, with `l` the text up to the matching `\fi`
(`rawDepth k l = some 0`: `l` closes exactly those `k` conditionals and whatever it opens
itself, and has no `\else`/`\or` at the loop's own level) — every loop, started at depth `k`,
ends exactly at that `\fi` and hands control back to the main loop with the branch stack, the
groups and the output untouched. -/
theorem skip_ends_at_matching_fi (mk : Int → Mode) (h : IsSkip mk) (l : List Tok) (k : Nat)
    (hl : rawDepth k l = some 0) (st : List BranchKind) (g : Nat) (o rest : List Tok) :
    run ⟨st, mk k, g, o⟩ (l ++ .fi :: rest) = run ⟨st, .deliver, g, o⟩ rest :=
  skip_to_fi h st g o l k rest hl

/-- … and the two loops that look for `\else` (`false_case`, `if_case_primitive_fn`) stop at the
first `\else` of their own level, pushing the `Else` branch. -/
theorem skip_ends_at_matching_else (mk : Int → Mode)
    (h : mk = Mode.skipFalse ∨ ∃ left, mk = Mode.skipCase left) (l : List Tok)
    (hl : rawDepth 0 l = some 0) (st : List BranchKind) (g : Nat) (o rest : List Tok) :
    run ⟨st, mk 0, g, o⟩ (l ++ .els :: rest) = run ⟨.els :: st, .deliver, g, o⟩ rest :=
  skip_to_else h st g o l rest hl

/-- Equivalent mutant 31 (`(n as i16 % 2) != 0`): parity survives truncation to 16 bits. -/
theorem ifodd_truncated (n : Int) : ifodd (wrapI16 n) = ifodd n := by
  have : (wrapI16 n) % 2 ≠ 0 ↔ n % 2 ≠ 0 := by unfold wrapI16; omega
  rw [Bool.eq_iff_iff, ifodd_spec, ifodd_spec, this]

/-- Equivalent mutant 28 (chain links compared as whole `Token`s, so never recognised): the
optimized function whose chain test always fails *is* the simple one. -/
theorem xa_never_chains {σ : Type} (E : Expander σ) (s : σ) (l : List XTok) :
    xaNoChain E s l = xaSimple E s l :=
  match l with
  | [] => rfl
  | [_] => rfl
  | first :: second :: rest => by
    cases second with
    | xa n => simp only [xaNoChain, xaSimple, xa_never_chains E s rest]; rfl
    | noexp | cs k | ch k => rfl

/-- What does hold of the code for `\noexpand` under `\expandafter` (C07-h): it is a no-op there —
`\expandafter t1 \noexpand t …` leaves `t1 t …`, with `t` as expandable as ever; both
implementations agree on that (`xa_equiv`). -/
theorem noexpand_is_noop_under_expandafter {σ : Type} (E : Expander σ) (name : Nat) (s : σ)
    (t1 t : XTok) (rest : List XTok) :
    xaSimple E s (t1 :: .noexp :: t :: rest) = .ok (s, t1 :: t :: rest)
    ∧ xaOptimized E name s (t1 :: .noexp :: t :: rest) = .ok (s, t1 :: t :: rest) :=
  ⟨noexpand_noop' E s t1 t rest, (xaOptimized_eq E name s _).trans (noexpand_noop' E s t1 t rest)⟩

/-- The fuel of the surface machine (`frames.length + 2` per token and at end of input) always
suffices: no run ends in the `fuel` outcome. -/
theorem scan_fuel_suffices (tex : Bool) (s : USt) (l : List UTok) : urun tex s l ≠ .error .fuel :=
  match l with
  | [] => ufinishF_no_fuel _ s (by omega)
  | t :: ts => by
    simp only [urun]
    cases h : ustep tex s t with
    | error e =>
      intro he
      simp only [Except.error.injEq] at he
      exact ustepF_no_fuel tex (s.frames.length + 2) s t (by omega) (he ▸ h)
    | ok s' => exact scan_fuel_suffices tex s' ts

/-- Writing a program as loosely as a rule allows (`loosen`, what the driver's `surf` request
does with `tex = false`) stays inside the domain of `operands_loose` and changes nothing:
for the code, any abstract program with decimal operands may drop every terminating space
that is followed by an unexpandable non-digit non-space token. -/
theorem operands_loosened (tex : Bool) (l : List Tok) (h : ∀ t ∈ l, t.operandsOk) :
    urun tex {} (surfaceL (loosen tex l)) = liftRes (expandAll l) := by
  have := operands_loose tex (loosen tex l) (looseOk_loosen tex l)
    (by rw [← loosen_fst tex l] at h; intro p hp; exact h p.1 (List.mem_map_of_mem hp))
  rwa [loosen_fst] at this

/-- **What TeX's rule achieves (the target of a fix for C07-i):** under TeX.2021.510 a
well-nested tree with decimal operands delivers its selected tokens also when every operand
that is directly followed by `\else`/`\or`/`\fi` (or any other stopper) is written without
its terminating space. For the code (`tex = false`) the same statement is refuted above. -/
theorem cond_selects_surface_tex_loose (t : Text) (g' : Nat)
    (ho : ∀ tok ∈ t.flatten, tok.operandsOk) (hb : bracesOk 0 t.select = some g') :
    urun true {} (surfaceL (loosen true t.flatten)) = .ok ⟨[], .deliver, g', t.select.map Plain.utok, []⟩ := by
  rw [operands_loosened true _ ho, expandAll_tree t g' hb]
  exact liftRes_plain ..

/-- non-vacuity: `\ifodd 3\fi b` *is* `surfaceL (loosen true …)` of the tree `\ifodd 3 \fi b`. -/
example : surfaceL (loosen true (Text.flatten (.ifThen (.odd 3) .nil (.plain (.other 1) .nil))))
    = [.iodd, .dig 3, .fi, .other 1] := by
  have h3 : decDigits 3 = [3] := by rw [decDigits]; simp
  simp [surfaceL, loosen, Text.flatten, surfaceT, surface, numToks, Tok.hasOperand, stopper, Plain.tok, h3]

/-- **The exact boundary of C07-i.** The code and TeX's rule take the same step on every token in
every state, except when `\else`/`\or`/`\fi` arrives while the innermost open conditional is
still scanning its operand (`closesWhileScanning`); hence they agree on every program along
whose run that situation never arises. (The refutation above is the smallest program where
it does.) -/
theorem c07i_exact_boundary (s : USt) (t : UTok) (h : closesWhileScanning s t = false) :
    ustep false s t = ustep true s t :=
  ustepF_boundary _ s t h

theorem c07i_exact_boundary_run (s : USt) (l : List UTok) (h : neverClosesWhileScanning s l = true) :
    urun false s l = urun true s l :=
  match l, h with
  | [], _ => rfl
  | t :: ts, h => by
    simp only [neverClosesWhileScanning, Bool.and_eq_true, Bool.not_eq_true'] at h
    simp only [urun, ← c07i_exact_boundary s t h.1]
    cases hs : ustep false s t with
    | error e => rfl
    | ok s' =>
      rw [hs] at h
      exact c07i_exact_boundary_run s' ts h.2

/-- non-vacuity: `\ifodd 3a\fi` never closes while scanning, `\ifodd 3\fi` does. -/
example : neverClosesWhileScanning {} [.iodd, .dig 3, .other 0, .fi] = true
    ∧ neverClosesWhileScanning {} [.iodd, .dig 3, .fi] = false := by
  constructor <;> rfl

/-- … and the `\ifcase` loop at the first `\or` of its own level: it counts down; the case that
brings the counter to 0 is delivered (as a `Switch` branch), a non-positive counter (negative
`\ifcase` value) is never changed. -/
theorem skip_ends_at_matching_or (left : Int) (l : List Tok) (hl : rawDepth 0 l = some 0)
    (st : List BranchKind) (g : Nat) (o rest : List Tok) :
    run ⟨st, .skipCase left 0, g, o⟩ (l ++ .orr :: rest) =
      if left = 1 then run ⟨.switch :: st, .deliver, g, o⟩ rest
      else if left > 1 then run ⟨st, .skipCase (left - 1) 0, g, o⟩ rest
      else run ⟨st, .skipCase left 0, g, o⟩ rest := by
  by_cases h0 : left = 0
  · -- the test `left > 0` fails and the `\or` is passed over, by computation
    subst h0; exact skip_balanced (isSkip_case 0) st g o l 0 _ (Int.le_refl 0) hl
  · rw [skip_to_or h0 st g o l rest hl]
    by_cases h1 : left = 1
    · subst h1; rfl
    · rw [if_neg h1]
      by_cases h2 : left > 1
      · rw [if_pos h2, if_pos (by omega), run_ifcase_ne (by omega)]
      · rw [if_neg h2, if_neg (by omega), run_ifcase_ne h0]

end C07
