import TexcraftModel.Lemmas.C06
import TexcraftModel.Lemmas.C06Print
import TexcraftModel.Lemmas.C06Scan
import TexcraftModel.Lemmas.C06Glue
import TexcraftModel.Lemmas.C06Text
import TexcraftModel.Lemmas.C06Arith

/-!
# C06 — property theorems

M = `Model/C06.lean`, `Model/C06Text.lean` (the Rust code with fixes/C06-{a,b,c,d,e,g,h,i,j}.patch),
S = `Model/C06Spec.lean` (Knuth's routines over the integers). The facts about one fraction value
`< 2^16` come from the loop invariant in `Lemmas/C06Frac.lean`.
-/
namespace C06

/-- For all `2^31-1` scaled values `|s| ≤ 2^30-1`: `display_no_units` does not panic and
`parse_no_units` reads what it printed back as the identical value. -/
theorem print_scan_roundtrip (s : Int) (h : -maxDimen ≤ s ∧ s ≤ maxDimen) :
    ∃ p, printScaled s = some p ∧ scanNoUnits p = .ok s :=
  ⟨_, printScaled_eq_spec s, scanNoUnits_printed s h⟩

/-- What is printed is exactly what TeX's `print_scaled` (§103) prints: sign, integer part,
and 1 to 5 decimal fraction digits. -/
theorem print_eq_knuth (s : Int) (h : -maxDimen ≤ s ∧ s ≤ maxDimen) :
    printScaled s = some (Spec.printScaled s) ∧
      1 ≤ (Spec.printScaled s).frac.length ∧ (Spec.printScaled s).frac.length ≤ 5 ∧
      ∀ d ∈ (Spec.printScaled s).frac, d < 10 := by
  obtain ⟨h1, h2, h3, _⟩ := printed_frac s
  exact ⟨printScaled_eq_spec s, h1, h2, h3⟩

/-- Knuth's guarantee: the printed fraction is the shortest — any decimal `q` (any integer
part, any number of fraction digits) that scans to `s` has at least as many fraction digits
(at least one digit is always printed). -/
theorem print_shortest (s : Int) (h : -maxDimen ≤ s ∧ s ≤ maxDimen) (q : Printed)
    (hq : ∀ d ∈ q.frac, d < 10) (hs : scanNoUnits q = .ok s) :
    ∃ p, printScaled s = some p ∧ p.frac.length ≤ max 1 q.frac.length :=
  print_shortest_core s h q hq hs

/-- `Scaled::parse_from_string` (with fixes/C06-h.patch) reads `Display`'s output (`…pt`) back
as the identical value too. -/
theorem parse_from_string_roundtrip (s : Int) (h : -maxDimen ≤ s ∧ s ≤ maxDimen) :
    parseFromString (Spec.printScaled s) .pt = .ok s := by
  have := printed_ip_small s h
  rw [parseFromString_pt _ (by omega) (by have := (printed_frac s).2.1; omega)]
  exact scanNoUnits_printed s h

/-- C06-h at its witness: before the fix `-0.5pt` was read as `+0.5pt`. -/
example : parseFromString { neg := true, ip := 0, frac := [5] } .pt = .ok (-32768) := by decide

example : printScaled 6554 = some { neg := false, ip := 0, frac := [1] } := by decide
example : scanNoUnits { neg := false, ip := 0, frac := [1] } = .ok 6554 := by decide
example : scanNoUnits { neg := true, ip := 16383, frac := [9, 9, 9, 9, 8] } = .ok (-maxDimen) := by decide
/-- Beyond the quantifier the value still prints, but does not scan back (overflow). -/
example : (printScaled 1073741824).map scanNoUnits = some .overflow := by decide

/-- `Scaled::xn_over_d` (i64) = §107 `xn_over_d` (15-bit halves) on quotient, remainder and
`arith_error`, for every 32-bit `x` (indeed every integer) and `0 ≤ n ≤ 2^16`, `0 < d ≤ 2^16`.
When `arith_error` is set Knuth's function value is a leftover (`g`) that callers discard. -/
theorem xn_over_d_eq_knuth (x n d : Int) (hn0 : 0 ≤ n) (hn : n ≤ 65536) (hd0 : 0 < d) (hd : d ≤ 65536) :
    (∃ q r, xnOverD x n d = .ok (q, r) ∧ Spec.xnOverD x n d = (q, r, false)) ∨
    (∃ g r, xnOverD x n d = .overflow ∧ Spec.xnOverD x n d = (g, r, true)) := by
  obtain ⟨g, hg⟩ := specXnOverD_eq x n d hn0 hd0
  rw [xnOverD_eq x n d hn hd0 hd, hg]
  by_cases hc : (Int.tdiv (x * n) d).natAbs > 1073741823
  · right; exact ⟨g, _, by rw [if_pos hc], by rw [if_pos hc]⟩
  · left; exact ⟨_, _, by rw [if_neg hc], by rw [if_neg hc]⟩

example : xnOverD 2147483647 65536 65536 = .overflow ∧ (Spec.xnOverD 2147483647 65536 65536).2.2 = true := by decide
example : xnOverD (-101) 7227 100 = .ok (-7299, -27) := by decide

/-- `Scaled::nx_plus_y` (i64, fixes/C06-b.patch) = §105 `nx_plus_y` on value and `arith_error`,
for all integers `x`, `n` and `|y| ≤ 2^30-1` (which is all TeX ever passes). -/
theorem nx_plus_y_eq_knuth (x n y : Int) (hy : -maxDimen ≤ y ∧ y ≤ maxDimen) :
    nxPlusY x n y = (if (Spec.nxPlusY n x y).err then .overflow else .ok (Spec.nxPlusY n x y).val) := by
  rw [nxPlusY_val x n y hy, Spec.nxPlusY, multAndAdd_exact n x y 1073741823 hy, Int.mul_comm x n]
  by_cases hc : -1073741823 ≤ n * x + y ∧ n * x + y ≤ 1073741823
  · rw [if_pos hc]; exact if_pos hc
  · rw [if_neg hc]; exact if_neg hc

example : nxPlusY (-2147483648) (-1) 0 = .overflow := by decide

/-- `parse_constant`/`add_lsd` = §444–§445 for every digit string in radix 8, 10, 16: same
value, same "number too big" verdict (at most one error however long the string). -/
theorem scan_int_eq (radix : Int) (hr : radix = 10 ∨ radix = 8 ∨ radix = 16) (ds : List Nat)
    (hd : ∀ d ∈ ds, (d : Int) < radix) (neg : Bool) :
    Spec.scanInt neg radix ds = .ok (scanInt neg radix ds).1 (scanInt neg radix ds).2 0 := by
  have := scanConst_range radix (by omega) ds hd
  rw [scanInt_eq neg radix (by omega) ds hd, Spec.scanInt, ← scanConst_eq radix hr ds hd]
  generalize scanConst radix ds = c at *
  exact if_pos (by cases neg <;> simp [Spec.fits] <;> omega)

/-- Which characters are digits of a constant, hence where it ends: `parse_constant`'s decoding =
TeX §445 for every character, both categories (letter / other) and each radix. In particular the
lower-case `a`–`f` are never digits, `8` and `9` are not octal digits, and upper-case `A`–`F`
are hexadecimal digits with either category. -/
theorem const_digit_eq (radix : Int) (hr : radix = 10 ∨ radix = 8 ∨ radix = 16) (c : Char) (letter : Bool) :
    constDigit radix c letter = Spec.constDigit radix c letter :=
  constDigit_eq radix c letter

example : constDigit 16 'f' true = none ∧ constDigit 16 'F' true = some 15 ∧ constDigit 16 'F' false = some 15 ∧
    constDigit 8 '8' false = none ∧ constDigit 10 'A' false = none := by decide
/-- C06-i at its witness: `1 .5pt` — the space ends the number, there is no fraction (the unfixed
code, `fracAfterSpace = true`, read 1.5pt). -/
example : (Text.parseDimen constDigit true false false false
      [.ch '1' false, .space, .ch '.' false, .ch '5' false, .ch 'p' true, .ch 't' true]).head = .const 10 [1] none ∧
    (Text.parseDimen constDigit true false false true
      [.ch '1' false, .space, .ch '.' false, .ch '5' false, .ch 'p' true, .ch 't' true]).head = .const 10 [1] (some [5]) := by
  decide

/-- Blanks before keywords (§407): `1true pt` is one point (C06-j: before the fix, `skip = false`,
`pt` was not found after the blank); `1fil l` is `1fill` in TeX (`skipL = true`) but `1fil` followed
by ` l` in the code (`skipL = false`, recorded deviation C06-k). -/
example : (Text.parseDimen constDigit true false false false
      [.ch '1' false, .ch 't' true, .ch 'r' true, .ch 'u' true, .ch 'e' true, .space, .ch 'p' true, .ch 't' true]).unit = .phys .pt ∧
    (Text.parseDimen constDigit false false false false
      [.ch '1' false, .ch 't' true, .ch 'r' true, .ch 'u' true, .ch 'e' true, .space, .ch 'p' true, .ch 't' true]).unit = .bad ∧
    (Text.parseDimen constDigit true true true false
      [.ch '1' false, .ch 'f' true, .ch 'i' true, .ch 'l' true, .space, .ch 'l' true]).unit = .fil 1 ∧
    (Text.parseDimen constDigit true false true false
      [.ch '1' false, .ch 'f' true, .ch 'i' true, .ch 'l' true, .space, .ch 'l' true]).unit = .fil 0 := by decide

/-- `"10bp` is sixteen big points: the `b` ends the constant. -/
example : (Text.parseDimen constDigit true false false true
    [.ch '"' false, .ch '1' false, .ch '0' false, .ch 'b' true, .ch 'p' true]).head = .const 16 [1, 0] none := by decide

/-- After an overflow the value is clamped to `2^31-1` (§445 `cur_val:=infinity`), never wrapped;
without overflow it is in `[0, 2^31-1]`. -/
theorem scan_int_clamp (radix : Int) (hr : 2 ≤ radix ∧ radix ≤ 16) (ds : List Nat)
    (hd : ∀ d ∈ ds, (d : Int) < radix) :
    0 ≤ (scanConst radix ds).1 ∧ (scanConst radix ds).1 ≤ 2147483647 ∧
      ((scanConst radix ds).2 = 1 → ds ≠ [] → (scanConst radix ds).1 = 2147483647) :=
  scanConst_range radix hr ds hd

example : scanInt true 10 [2, 1, 4, 7, 4, 8, 3, 6, 4, 8] = (-2147483647, 1) := by decide
example : scanInt false 16 [7, 15, 15, 15, 15, 15, 15, 15] = (2147483647, 0) := by decide

/-- `Scaled::new` = TeX §458 (`xn_over_d`, the fraction adjustment, `attach_fraction`,
`attach_sign`) for each of the 9 units, any integer part `0 ≤ ip ≤ 2^31-1` and any fraction
`0 ≤ f ≤ 2^16` (that is what `from_decimal_digits` can return): same value; `OverflowError`
exactly when TeX says "Dimension too large"; and never a panic — the two `expect`s in
`Scaled::new` are unreachable. -/
theorem scaled_new_eq_scan_dimen (u : TUnit) (ip f : Int) (hip : 0 ≤ ip ∧ ip ≤ 2147483647)
    (hf : 0 ≤ f ∧ f ≤ 65536) :
    (match scaledNew ip f u with
      | .ok s => Spec.SR.ok s 0 0 | .overflow => Spec.SR.ok maxDimen 1 0 | .panic => Spec.SR.undef)
      = Spec.units ip f false 0 (.phys u) :=
  scaledNew_eq u ip f hip.1 hf.1 hf.2

theorem scaled_new_total (u : TUnit) (ip f : Int) (hip : 0 ≤ ip ∧ ip ≤ 2147483647)
    (hf : 0 ≤ f ∧ f ≤ 65536) : scaledNew ip f u ≠ .panic :=
  scaledNew_no_panic u ip f hip.1 hip.2 hf.1 hf.2

example : scaledNew 226 (fromDecimalDigits [7]) .inch = .ok 1073716184 ∧ scaledNew 227 0 .inch = .overflow := by decide
example : scaledNew 1073741823 65536 .sp = .ok 1073741823 := by decide

/-- `scan_and_apply_units` = TeX §453–§459 + `attach_fraction` + `attach_sign` for every kind of
unit: `fil`/`fill`/`filll` (with the error per surplus `l`), internal integers, dimensions and
glue, `em`/`ex`, the physical units, and a missing unit (error, `pt`). Same value, same error
count, same order. Excluded (decidable hypothesis): the recorded deviation C06-f. -/
theorem apply_units_eq_knuth (ip f : Int) (hip : 0 ≤ ip ∧ ip ≤ 2147483647) (hf : 0 ≤ f ∧ f ≤ 65536)
    (u : UnitSpec) (hex : negUnitOverflow ip f u = false) :
    (applyUnits ip f u).toSR = Spec.units ip f false 0 u :=
  applyUnits_eq ip f hip.1 hf.1 hf.2 u hex

/-- `scan_dimen` = TeX §448–§460 for every sign string parity, head (constant in radix
8/10/16 with or without fraction, `.ddd`, internal integer, internal dimension) and unit: same
value, same number of errors ("number too big", "illegal unit", "dimension too large"), clamped
to `±max_dimen` exactly when TeX clamps. -/
theorem scan_dimen_eq_knuth (neg : Bool) (h : Head) (u : UnitSpec) (wf : h.WF)
    (hex : negUnitOverflow (coeff h).1 (coeff h).2 u = false) :
    (scanDimen neg h u).toSR = Spec.scanDimen neg h u :=
  scanDimen_eq neg h u wf hex

/-- `16383.99998pt` is the largest dimension; one more digit is too large and is clamped. -/
example : scanDimen true (.const 10 [1,6,3,8,3] (some [9,9,9,9,8])) (.phys .pt) = .ok { val := -1073741823, nerr := 0 } := by decide
example : scanDimen false (.const 10 [1,6,3,8,3] (some [9,9,9,9,9,9])) (.phys .pt) = .ok { val := 1073741823, nerr := 1 } := by decide
/-- C06-g at its witness (fixed model): `16383.999999fil` is too large. -/
example : scanDimen false (.const 10 [1,6,3,8,3] (some [9,9,9,9,9,9])) (.fil 0)
    = .ok { val := 1073741823, nerr := 1, order := 1 } := by decide
/-- C06-b/C09-b at its witness (fixed model): the internal integer `-2^31`, every unit. -/
example : ∀ u : TUnit, scanDimen false (.int (-2147483648)) (.phys u) = .ok { val := -1073741823, nerr := 1 } ∧
    Spec.scanDimen false (.int (-2147483648)) (.phys u) = .ok (-1073741823) 1 0 := by
  intro u; cases u <;> decide
/-- C06-c/C09-c at its witness (fixed model). -/
example : scanDimen false (.const 10 [0] (some [9,9,9,9,9,9])) (.internal 2147483647)
    = .ok { val := 1073741823, nerr := 1 } := by decide
/-- C06-e at its witness (fixed model): an internal dimension beyond `max_dimen`. -/
example : scanDimen false (.dimen 1073741824) .bad = .ok { val := 1073741823, nerr := 1 } := by decide
/-- The recorded deviation C06-f at its witness: `\dimen3=-1pt \dimen0=20000\dimen3` — the
code (and so the model) gives `-max_dimen`, TeX `+max_dimen`; the hypothesis of
`scan_dimen_eq_knuth` is false exactly here. -/
example : scanDimen false (.const 10 [2,0,0,0,0] none) (.internal (-65536)) = .ok { val := -1073741823, nerr := 1 } ∧
    Spec.scanDimen false (.const 10 [2,0,0,0,0] none) (.internal (-65536)) = .ok 1073741823 1 0 ∧
    negUnitOverflow 20000 0 (.internal (-65536)) = true := by decide

/-- `\advance` on glue (with fixes/C06-d.patch) = TeX §1239: widths add (wrapping); a zero
stretch/shrink of the summand has order normal; equal orders add, otherwise the higher order
wins unless the register's higher-order component is zero. -/
theorem advance_glue_eq_knuth (a b : Glue) : (advanceGlue a b).toAR = Spec.advanceGlue a b :=
  advanceGlue_eq a b

/-- C06-d at its witness (fixed model): `1pt plus 0fil` advanced by `plus 5pt` keeps the 5pt. -/
example : advanceGlue ⟨65536, 0, 1, 0, 0⟩ ⟨0, 327680, 0, 0, 0⟩ = .set ⟨65536, 327680, 0, 0, 0⟩ := by decide

/-- `\multiply` on glue = §1240: `nx_plus_y` on each of the three components, any failure is
one "arithmetic overflow" and the register is unchanged. -/
theorem multiply_glue_eq (a : Glue) (n : Int) : (multiplyGlue a n).toAR = Spec.multiplyGlue a n :=
  multiplyGlue_eq a n

/-- `\divide` on glue = §1240: `x_over_n` on each component; excluded as for integers:
a component `-2^31` divided by `-1`. -/
theorem divide_glue_eq (a : Glue) (n : Int)
    (hw : -2147483648 ≤ a.width ∧ a.width ≤ 2147483647)
    (hst : -2147483648 ≤ a.stretch ∧ a.stretch ≤ 2147483647)
    (hsh : -2147483648 ≤ a.shrink ∧ a.shrink ≤ 2147483647)
    (hex : ¬ (n = -1 ∧ (a.width = -2147483648 ∨ a.stretch = -2147483648 ∨ a.shrink = -2147483648))) :
    (divideGlue a n).toAR = Spec.divideGlue a n :=
  divideGlue_eq a n hw hst hsh hex

example : divideGlue ⟨-7, 7, 1, -2147483648, 0⟩ 2 = .set ⟨-3, 3, 1, -1073741824, 0⟩ := by decide

/-- The glue round trip: what `\the\skip` prints — width `…pt`, then ` plus …` and ` minus …`
only if non-zero, each with `pt`, `fil`, `fill` or `filll` — is scanned by `Glue::parse_impl` back
to the identical glue, with no error. For every glue whose components are legal dimensions and
whose zero stretch/shrink has order normal (what scanning can produce). The integer parts are
rendered by their decimal digits (`dec5`, = `toString`, see `printed_integer_part_digits`). -/
theorem glue_print_scan_roundtrip (g : Glue)
    (hw : -maxDimen ≤ g.width ∧ g.width ≤ maxDimen) (hst : -maxDimen ≤ g.stretch ∧ g.stretch ≤ maxDimen)
    (hsh : -maxDimen ≤ g.shrink ∧ g.shrink ≤ maxDimen) (ho1 : g.stretchOrder ≤ 3) (ho2 : g.shrinkOrder ≤ 3)
    (hn1 : g.stretch = 0 → g.stretchOrder = 0) (hn2 : g.shrink = 0 → g.shrinkOrder = 0) :
    scanGlue
      (scanGlueWidth (Spec.printScaled g.width).neg
        (.const 10 (dec5 (Spec.printScaled g.width).ip) (some (Spec.printScaled g.width).frac)) (.phys .pt))
      (if g.stretch = 0 then none else some (scanDimen (Spec.printScaled g.stretch).neg
        (.const 10 (dec5 (Spec.printScaled g.stretch).ip) (some (Spec.printScaled g.stretch).frac))
        (unitOfOrder g.stretchOrder)))
      (if g.shrink = 0 then none else some (scanDimen (Spec.printScaled g.shrink).neg
        (.const 10 (dec5 (Spec.printScaled g.shrink).ip) (some (Spec.printScaled g.shrink).frac))
        (unitOfOrder g.shrinkOrder)))
      = some (g, 0) := by
  rw [width_roundtrip g.width hw, component_roundtrip _ hst _ ho1, component_roundtrip _ hsh _ ho2]
  exact scanGlue_printed _ _ _ _ _ hn1 hn2

/-- The integer part of a printed legal dimension (`< 16384`) is rendered by `toString`; its
digits are `dec5`, which `parse_constant` reads back as the same number without error. -/
theorem printed_integer_part_digits (n : Nat) (h : n < 16384) :
    (Nat.toDigits 10 n).map Char.toNat = (dec5 n).map (48 + ·) ∧ scanConst 10 (dec5 n) = ((n : Int), 0) :=
  ⟨toDigits_eq_dec5 n (by omega), scanConst_dec5 n (by omega)⟩

example : scanGlue (scanGlueWidth false (.const 10 [1] (some [0])) (.phys .pt))
    (some (scanDimen true (.const 10 [1, 6, 3, 8, 3] (some [9, 9, 9, 9, 8])) (.fil 2))) none
    = some (⟨65536, -1073741823, 3, 0, 0⟩, 0) := by decide

/-! The text level: the kernel theorems lifted to what the user writes. `Model/C06Text.lean` reads a
list of character tokens (category letter / other, space, a control sequence): signs and blanks,
radix prefixes, digits, decimal point, the optional space, `true`, the units and `fil` + `l`s in
either case, `plus` / `minus`. The driver executes it on the text of every
`tint`/`tdim`/`tglue`/`tidx` case, with `parse_constant`'s digit decoding for M and §445's for S,
and the harness compares value, errors and the text left over with the real scanner. -/

/-- Integers as text: M and S cut every text identically (sign parity, radix, digits, what is
left), and on the digits they cut the value and the error verdict agree (§440–§445). -/
theorem scan_int_text_eq_knuth (t : List Text.Tok) :
    Text.parseInt constDigit t = Text.parseInt Spec.constDigit t ∧
    ∀ r ds, (Text.parseInt constDigit t).const = some (r, ds) →
      Spec.scanInt (Text.parseInt constDigit t).neg r ds
        = .ok (scanInt (Text.parseInt constDigit t).neg r ds).1 (scanInt (Text.parseInt constDigit t).neg r ds).2 0 := by
  refine ⟨parseInt_congr t, fun r ds h => ?_⟩
  obtain ⟨rest, hc⟩ := parseInt_const _ t r ds h
  obtain ⟨hr, hd⟩ := parseConst_digits _ _ _ _ hc
  exact scan_int_eq r hr ds hd _

/-- Dimensions as text, **for every token list and with no exclusion**: M and S cut the text
identically (sign, head, unit, remainder) and `scan_dimen` on the parts = TeX §448–§460: same
value, same number of errors, same order. (A text cannot denote a negative internal unit, so
the recorded deviation C06-f does not arise; `em`/`ex` are positive.) -/
theorem scan_dimen_text_eq_knuth (skip skipL glue fas : Bool) (t : List Text.Tok) :
    Text.parseDimen constDigit skip skipL glue fas t = Text.parseDimen Spec.constDigit skip skipL glue fas t ∧
    (scanDimen (Text.parseDimen constDigit skip skipL glue fas t).neg (Text.parseDimen constDigit skip skipL glue fas t).head
        (Text.parseDimen constDigit skip skipL glue fas t).unit).toSR
      = Spec.scanDimen (Text.parseDimen constDigit skip skipL glue fas t).neg (Text.parseDimen constDigit skip skipL glue fas t).head
        (Text.parseDimen constDigit skip skipL glue fas t).unit :=
  ⟨parseDimen_congr skip skipL glue fas t, scanDimen_text skip skipL glue fas t⟩

/-- Glue as text, for every token list: same cut, and `Glue::parse_impl` on the parts = §461
(width, stretch, shrink, both orders, the sum of the errors). -/
theorem scan_glue_text_eq_knuth (skip skipL fas : Bool) (t : List Text.Tok) :
    Text.parseGlue constDigit skip skipL fas t = Text.parseGlue Spec.constDigit skip skipL fas t ∧
    scanGlue
        (scanGlueWidth (Text.parseGlue constDigit skip skipL fas t).width.neg (Text.parseGlue constDigit skip skipL fas t).width.head
          (Text.parseGlue constDigit skip skipL fas t).width.unit)
        ((Text.parseGlue constDigit skip skipL fas t).plus.map fun d => scanDimen d.neg d.head d.unit)
        ((Text.parseGlue constDigit skip skipL fas t).minus.map fun d => scanDimen d.neg d.head d.unit)
      = Spec.scanGlue
        (Spec.scanGlueWidth (Text.parseGlue constDigit skip skipL fas t).width.neg (Text.parseGlue constDigit skip skipL fas t).width.head
          (Text.parseGlue constDigit skip skipL fas t).width.unit)
        ((Text.parseGlue constDigit skip skipL fas t).plus.map fun d => Spec.scanDimen d.neg d.head d.unit)
        ((Text.parseGlue constDigit skip skipL fas t).minus.map fun d => Spec.scanDimen d.neg d.head d.unit) :=
  ⟨parseGlue_congr skip skipL fas t, scanGlue_text skip skipL fas t⟩

/-- `\the` then scan, at the text level: the tokens `\the` writes for a legal dimension — or for
a glue component with `pt`/`fil`/`fill`/`filll` — are cut by the scanner into exactly the printed
parts with nothing left over, and scan to the identical value, no error, the same order. For all
`2^31-1` values (fraction and decimal-digit facts, lifted through the token printer). -/
theorem the_text_roundtrip (skip skipL : Bool) (s : Int) (h : -maxDimen ≤ s ∧ s ≤ maxDimen) (gl : Bool) (k : Nat) (hk : k ≤ 3)
    (hg : gl = true ∨ k = 0) :
    (Text.parseDimen constDigit skip skipL gl false (Text.renderToks (Spec.printScaled s) ++ Text.unitToks k)).rest = [] ∧
    scanDimen
        (Text.parseDimen constDigit skip skipL gl false (Text.renderToks (Spec.printScaled s) ++ Text.unitToks k)).neg
        (Text.parseDimen constDigit skip skipL gl false (Text.renderToks (Spec.printScaled s) ++ Text.unitToks k)).head
        (Text.parseDimen constDigit skip skipL gl false (Text.renderToks (Spec.printScaled s) ++ Text.unitToks k)).unit
      = .ok { val := s, nerr := 0, order := k } := by
  have e := parseDimen_rendered skip skipL s h gl k hg [] [] (UnitEnd.nil skipL)
  rw [List.append_nil] at e
  rw [e]
  exact ⟨rfl, component_roundtrip s h k hk⟩

/-- `\the\skip` then scan, at the text level: the tokens `Display for Glue` writes (width `pt`,
` plus …`/` minus …` only if non-zero, with `pt`/`fil`/`fill`/`filll`) are cut by
`Glue::parse_impl` into exactly the printed components with nothing left over, and scan to the
identical glue with no error — for every glue whose components are legal dimensions and whose
zero stretch/shrink has order normal. -/
theorem the_glue_text_roundtrip (skip skipL : Bool) (g : Glue)
    (hw : -maxDimen ≤ g.width ∧ g.width ≤ maxDimen) (hst : -maxDimen ≤ g.stretch ∧ g.stretch ≤ maxDimen)
    (hsh : -maxDimen ≤ g.shrink ∧ g.shrink ≤ maxDimen) (ho1 : g.stretchOrder ≤ 3) (ho2 : g.shrinkOrder ≤ 3)
    (hn1 : g.stretch = 0 → g.stretchOrder = 0) (hn2 : g.shrink = 0 → g.shrinkOrder = 0) :
    (Text.parseGlue constDigit skip skipL false (Text.renderGlueToks g)).rest = [] ∧
    scanGlue
        (scanGlueWidth (Text.parseGlue constDigit skip skipL false (Text.renderGlueToks g)).width.neg
          (Text.parseGlue constDigit skip skipL false (Text.renderGlueToks g)).width.head
          (Text.parseGlue constDigit skip skipL false (Text.renderGlueToks g)).width.unit)
        ((Text.parseGlue constDigit skip skipL false (Text.renderGlueToks g)).plus.map fun d => scanDimen d.neg d.head d.unit)
        ((Text.parseGlue constDigit skip skipL false (Text.renderGlueToks g)).minus.map fun d => scanDimen d.neg d.head d.unit)
      = some (g, 0) := by
  obtain ⟨Rw, Rp, Rm, e⟩ := parseGlue_rendered skip skipL g hw hst hsh ho1 ho2
  rw [e]
  refine ⟨rfl, ?_⟩
  simp only [apply_ite (Option.map _), Option.map_none, Option.map_some]
  exact glue_print_scan_roundtrip g hw hst hsh ho1 ho2 hn1 hn2

example : Text.toksString (Text.renderGlueToks ⟨65536, 131072, 2, -3, 0⟩) = "1.0pt plus 2.0fill minus -0.00005pt" := by
  decide

example : Text.toksString (Text.renderToks (Spec.printScaled (-98304)) ++ Text.unitToks 0) = "-1.5pt" := by decide
example : Text.toksString (Text.renderToks (Spec.printScaled 1073741823) ++ Text.unitToks 3) = "16383.99998filll" := by decide

/-- Invariant: whatever sequence of `\advance`, `\multiply`, `\divide` (any operands) is applied
to a `\count` or a `\dimen` register that holds a 32-bit value, it holds a 32-bit value after
every step — never a value out of range, and (the model has no other outcome) never a crash. The
number of errors is at most the number of primitives. -/
theorem arith_program_invariant (ops : List ArithOp) (a : Int) (ha : inRange32 a) :
    inRange32 (runReg stepInt a ops).1 ∧ inRange32 (runReg stepDimen a ops).1 ∧
    (runReg stepInt a ops).2 ≤ ops.length ∧ (runReg stepDimen a ops).2 ≤ ops.length :=
  ⟨runReg_range stepInt stepInt_range ops a ha, runReg_range stepDimen stepDimen_range ops a ha,
   runReg_errors_le stepInt ops a, runReg_errors_le stepDimen ops a⟩

/-- "Error and no change": a primitive that reports an error leaves the register as it was. -/
theorem arith_error_no_change (a : Int) (op : ArithOp) (v : Int) :
    (stepInt a op = (v, true) → v = a) ∧ (stepDimen a op = (v, true) → v = a) :=
  ⟨stepInt_error_unchanged a op v, stepDimen_error_unchanged a op v⟩

/-- A whole program on a `\count` register = TeX (§1236–§1238) step by step — final value and
number of errors — provided no step is TeX's undefined `-2^31 / -1` (`runDefined`, decidable). -/
theorem arith_program_eq_knuth (ops : List ArithOp) (a : Int) (ha : inRange32 a)
    (hd : runDefined a ops = true) :
    Spec.runReg Spec.stepInt a ops = some (runReg stepInt a ops) :=
  runInt_eq_spec ops a ha hd

/-- `\multiply` and `\divide` keep a legal dimension legal (`|d| ≤ 2^30-1`): the only way a
`\dimen` register leaves TeX's range is `\advance`, which wraps silently by design. -/
theorem multiply_divide_keep_legal (a : Int) (ha : -maxDimen ≤ a ∧ a ≤ maxDimen) (op : ArithOp)
    (hop : ∀ b, op ≠ .advance b) :
    -maxDimen ≤ (stepDimen a op).1 ∧ (stepDimen a op).1 ≤ maxDimen :=
  stepDimen_legal a ha op hop

example : runReg stepInt 5 [.multiply 1000000, .multiply 1000000, .advance 7, .divide 0, .divide (-2)] = (-2500003, 2) := by
  decide
example : runDefined 2147483647 [.advance 1, .divide (-1)] = false ∧
    Spec.runReg Spec.stepInt 2147483647 [.advance 1, .divide (-1)] = none := by decide
example : (stepDimen 1073741823 (.advance 1)).1 = 1073741824 := by decide

/-- The variants `delta > ONE` → `delta >= ONE` and `f <= delta` → `f < delta` of
`display_no_units` (mutants/C06/README.md), separately or together, are equivalent on the whole domain. For every
fraction `0 ≤ fr < 2^16` (hence for every scaled value) each of the four variants of the digit loop
prints exactly the digits of the original. -/
theorem print_loop_mutants_equivalent (ge lt : Bool) (fr : Nat) (h : fr < 65536) :
    printFracV ge lt (fr : Int) = printFrac (fr : Int) := by
  rw [printFracV_eq ge lt fr h, printFrac_eq fr h]

example : printFracV true true 1 = some [0, 0, 0, 0, 2] ∧ printFrac 1 = some [0, 0, 0, 0, 2] := by decide

/-- `scan_dimen` answers a value within `±max_dimen` and an error count on every 32-bit input
(including the internal integer `-2^31` and over-large internal units): never `panic`. -/
theorem scan_dimen_total (neg : Bool) (h : Head) (u : UnitSpec) (wf : h.WF32) :
    ∃ sc, scanDimen neg h u = .ok sc ∧ -1073741823 ≤ sc.val ∧ sc.val ≤ 1073741823 :=
  scanDimen_total neg h u wf

/-- An integer constant always yields a 32-bit value. -/
theorem scan_int_total (neg : Bool) (radix : Int) (hr : radix = 10 ∨ radix = 8 ∨ radix = 16)
    (ds : List Nat) (hd : ∀ d ∈ ds, (d : Int) < radix) :
    -2147483647 ≤ (scanInt neg radix ds).1 ∧ (scanInt neg radix ds).1 ≤ 2147483647 := by
  have := scanConst_range radix (by omega) ds hd
  rw [scanInt_eq neg radix (by omega) ds hd]
  cases neg <;> simp <;> omega

/-- `display_no_units` does not panic on any integer at all (not only legal dimensions). -/
theorem print_total (s : Int) : printScaled s ≠ none := by
  rw [printScaled_eq_spec]
  exact Option.some_ne_none _

/-- The arithmetic kernels answer `ok` or `overflow`, never `panic`, on their domains. -/
theorem nx_plus_y_total (x n y : Int) : nxPlusY x n y ≠ .panic := by
  unfold nxPlusY
  split
  · simp
  · simp only []; split <;> simp

theorem xn_over_d_total (x n d : Int) (hn : n ≤ 65536) (hd : 0 < d ∧ d ≤ 65536) : xnOverD x n d ≠ .panic := by
  rw [xnOverD_eq x n d hn hd.1 hd.2]
  split <;> simp

/-- `\advance` wraps silently: the result is the sum reduced into `[-2^31, 2^31)`, and is the
exact sum whenever that fits. Same function as the specification's. -/
theorem advance_wraps (a b : Int) :
    advanceInt a b = .set (wrap32 (a + b)) ∧ Spec.advanceInt a b = .set (wrap32 (a + b)) ∧
      -2147483648 ≤ wrap32 (a + b) ∧ wrap32 (a + b) ≤ 2147483647 ∧
      (wrap32 (a + b) - (a + b)) % 4294967296 = 0 ∧
      (-2147483648 ≤ a + b ∧ a + b ≤ 2147483647 → wrap32 (a + b) = a + b) :=
  ⟨rfl, rfl, (wrap32_range _).1, (wrap32_range _).2, by unfold wrap32; omega, wrap32_id _⟩

/-- `\multiply` on a `\count` (with fixes/C06-a.patch) = TeX's `mult_integers` (§105 with
`max_answer = 2^31-1`), for all integers: the product when `|a·b| ≤ 2^31-1`, otherwise an error
that leaves the register unchanged — in particular `-2^31` is an overflow. -/
theorem multiply_eq_mult_integers (a b : Int) :
    (match multiplyInt a b with | .set v => Spec.AR.set v | .error => Spec.AR.error)
      = Spec.multiplyInt a b :=
  multiplyInt_eq a b

/-- The defect C06-a at its witness: before the fix the code returned `-2^31`
(`i32::checked_mul` succeeds) where TeX reports overflow. -/
example : Spec.multiplyInt (-1073741824) 2 = .error ∧ multiplyInt (-1073741824) 2 = .error := by decide
example : multiplyInt 46341 (-46340) = .set (-2147441940) := by decide

/-- `\multiply` on a `\dimen` = `nx_plus_y(x, n, 0)` of §1240, bound `2^30-1`. -/
theorem multiply_dimen_eq (a n : Int) :
    (match multiplyDimen a n with | .set v => Spec.AR.set v | .error => Spec.AR.error)
      = Spec.multiplyDimen a n := by
  unfold multiplyDimen Spec.multiplyDimen
  rw [scaledCheckedMul_eq]
  simp only []
  cases (Spec.nxPlusY a n 0).err <;> rfl

/-- `\divide` truncates toward zero, exactly as `x_over_n` (§106); division by zero is an
error that leaves the register unchanged. The one excluded pair is `-2^31 / -1`, where TeX
itself has no defined result (it negates `-2^31`); the code reports "division by zero" there. -/
theorem divide_trunc_zero (a b : Int) (ha : -2147483648 ≤ a ∧ a ≤ 2147483647)
    (hx : ¬ (a = -2147483648 ∧ b = -1)) :
    (match divideInt a b with | .set v => Spec.AR.set v | .error => Spec.AR.error) = Spec.divide a b :=
  divideInt_eq a b ha hx

example : divideInt (-7) 2 = .set (-3) ∧ divideInt 7 (-2) = .set (-3) ∧ divideInt (-7) (-2) = .set 3 := by decide
example : divideInt 5 0 = .error ∧ Spec.divide 5 0 = .error := by decide
/-- `-2^31 / -1`, the pair `divide_trunc_zero` excludes: the code reports an error, TeX is undefined. -/
example : divideInt (-2147483648) (-1) = .error ∧ Spec.divide (-2147483648) (-1) = .undef := by decide

end C06
