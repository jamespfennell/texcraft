import TexcraftModel.Lemmas.C03Spec
import TexcraftModel.Lemmas.C03
import TexcraftModel.Lemmas.C03Source
import TexcraftModel.Lemmas.C03Sched
import TexcraftModel.Lemmas.C03Bytes

/-! # C03 — lexing follows TeX's scanner; every token traces to its source position

`lexAll cfg rep src` is the model of calling `Lexer::next(config, _, rep)` on a freshly
registered source until it reports the end of the input (`Model/C03.lean`; the model describes
the code with `fixes/C03-a.patch` and `fixes/C03-b.patch` applied), `trace src key` the model of
`Tracer::trace`, `lexTraced` the two composed (what a user of the public API observes), and
`Spec.specAll cfg rep src` the TeX §343–§356 line scanner: split into lines, right-trim, append
the end-line character, scan from state N with `^^` reduction and control-sequence formation,
every item with the line number, column and line text it started at.

All theorems are for every source text (`List Char`, any characters), every category
function `cfg.cat : Char → CatCode`, every `cfg.endline : Option Char` and both values of
`report_end_of_line`. Nothing is partial. -/
namespace C03

/-- **Lexing follows TeX's scanner and every token traces to its source position** (full
strength): the results of the lexer, with every key run through `Tracer::trace`, are exactly
the items of the specification — same tokens (category, character, control-sequence name),
same invalid-character reports, same end-of-line reports, and every position is the line
number, the column and the text of the source line of the character the item started at (for an
item produced by an expanded code `^^c`/`^^xy`: its last character; for the end-line
character: the first trimmed position). -/
theorem lex_eq_spec (cfg : Cfg) (rep : Bool) (src : List Char) :
    lexTraced cfg rep src = Spec.specAll cfg rep src :=
  (lexAll_run cfg rep src).1

/-- **Lexing never panics** (and the model's recursion budgets always suffice): the run
contains no panic outcome and no out-of-fuel outcome, and it ends with `EndOfInput`. In
particular `KeyRange::next`/`peek` never see an exhausted range ("requested more trace keys
than are in the range") and `advance` never unwraps `None`. -/
theorem lex_total (cfg : Cfg) (rep : Bool) (src : List Char) :
    Res.panic ∉ lexAll cfg rep src ∧ Res.fuel ∉ lexAll cfg rep src ∧
      (lexAll cfg rep src).getLast? = some .endOfInput :=
  (lexAll_run cfg rep src).2.total

/-- **Trace keys stay in the range**: every key attached to a token or to an invalid character
is at most the number of characters of the source, hence below the number of keys that
`Tracer::register_source_code` reserved (`byte length + 1`, or 1 for the empty text). -/
theorem keys_in_range (cfg : Cfg) (rep : Bool) (src : List Char) :
    ∀ r ∈ lexAll cfg rep src, ∀ k, r.pos? = some k → k ≤ src.length ∧ k < keyLimit src := by
  intro r hr k hk
  have h := ((lexAll_run cfg rep src).2.1 r hr).2.2 k hk
  exact ⟨h, by have := length_lt_keyLimit src; omega⟩

/-- **`Tracer::trace` round trip**: in a text that consists of the complete lines `ls`, then the
line `text`, then nothing or a newline and more, the key `offset of the line + col` traces to
line number `ls.length + 1`, column `col` and line content `text` — for every column of the
line including the position of its newline (or one past the end of the text), which is where
an end-line character without a source character is reported. -/
theorem trace_roundtrip (ls : List (List Char)) (text post : List Char) (col : Nat)
    (hls : ∀ l ∈ ls, '\n' ∉ l) (ht : '\n' ∉ text) (hp : post = [] ∨ post.head? = some '\n')
    (hc : col ≤ text.length) :
    trace (joined ls ++ (text ++ post)) ((joined ls).length + col) = ⟨ls.length + 1, col, text⟩ :=
  trace_spec ls text post col hls ht hp hc

/-- The hypotheses of `trace_roundtrip` are met by a real instance: `"ab\ncd\nef"`, the `d`. -/
example : trace "ab\ncd\nef".toList 4 = ⟨2, 1, "cd".toList⟩ :=
  trace_roundtrip ["ab".toList] "cd".toList "\nef".toList 1 (by decide) (by decide) (by decide)
    (by decide)

/-- **The specification is total**: the scan of every line terminates within its budget (the
specification never yields an out-of-fuel or panic item). -/
theorem spec_total (cfg : Cfg) (rep : Bool) (src : List Char) :
    Res.fuel ∉ Spec.specAll cfg rep src ∧ Res.panic ∉ Spec.specAll cfg rep src := by
  rw [← lex_eq_spec]
  have h := lex_total cfg rep src
  unfold lexTraced
  constructor
  · intro hm
    obtain ⟨r, hr, e⟩ := List.mem_map.mp hm
    cases r <;> simp [Res.map] at e
    exact h.2.1 hr
  · intro hm
    obtain ⟨r, hr, e⟩ := List.mem_map.mp hm
    cases r <;> simp [Res.map] at e
    exact h.1 hr

/-- **Byte offsets are sums of whole characters** (`RawLexer` works with byte positions; the
model with characters): the byte length of a text is the sum of `len_utf8` of its characters,
so every position `RawLexer` computes by adding `len_utf8` of consumed characters is a
character boundary; and the in-place write of `maybe_apply_caret_notation` replaces a one-byte
character by a one-byte character. -/
theorem utf8_boundary (a b : List Char) (c : Char) (h : c.toNat < 128) :
    byteLen (a ++ b) = byteLen a + byteLen b ∧ utf8Len c = 1 ∧ utf8Len (caretChar c) = 1 := by
  refine ⟨byteLen_append a b, utf8Len_ascii h, utf8Len_ascii ?_⟩
  have h1 : ∀ n : Nat, n < 128 → (Char.ofNat n).toNat = n := by
    intro n hn
    have : n.isValidChar := by left; omega
    simp [Char.ofNat, this, Char.ofNatAux, Char.toNat]
  unfold caretChar
  split
  · rw [h1 _ (by omega)]; omega
  · rw [h1 _ (by omega)]; omega

/-! ## Non-vacuity: concrete runs (plain-TeX-like categories, `\endlinechar` = CR) -/

def plainCat (c : Char) : CatCode :=
  if c = '\\' then .escape else if c = '{' then .beginGroup else if c = '}' then .endGroup
  else if c = '^' then .superscript else if c = ' ' then .space else if c = '\r' then .endOfLine
  else if c = '%' then .comment else if c = '~' then .active else if c = '\x7f' then .invalid
  else if c = '\x00' then .ignored else if c.isAlpha then .letter else .other

def plain : Cfg := { cat := plainCat, endline := some '\r' }

/-- C03-a repaired: `^^5a` is the single letter `Z`, reported at the column of the `a`; the
end-line character gives a space token at the first trimmed position (column 4). Before
`fixes/C03-a.patch` the code delivers `u` (column 2) and `a` (column 3). -/
example : lexTraced plain true "^^5a".toList =
    [.token (.chr 'Z' .letter) ⟨1, 3, "^^5a".toList⟩, .token (.chr ' ' .space) ⟨1, 4, "^^5a".toList⟩,
     .endOfInput] := by decide +kernel

/-- C03-b repaired: `^^é` stays `^`, `^`, `é`. Before `fixes/C03-b.patch` the code delivers
only `é` (column 2) and the space. -/
example : lexTraced plain true "^^é".toList =
    [.token (.chr '^' .superscript) ⟨1, 0, "^^é".toList⟩,
     .token (.chr '^' .superscript) ⟨1, 1, "^^é".toList⟩,
     .token (.chr 'é' .other) ⟨1, 2, "^^é".toList⟩,
     .token (.chr ' ' .space) ⟨1, 3, "^^é".toList⟩, .endOfInput] := by decide +kernel

/-- Reduction inside a name, states N/M/S, `\par` from an empty line, skipped blanks, the keys
(0, 7, 8, 9, 11, 12 — within `keys_in_range`) and their traces. -/
example : lexAll plain true "\\a^^5a b\n\n x".toList =
    [.token (.cs "aZ".toList) 0, .token (.chr 'b' .letter) 7, .token (.chr ' ' .space) 8,
     .endOfLine, .token (.cs parName) 9, .endOfLine, .token (.chr 'x' .letter) 11,
     .token (.chr ' ' .space) 12, .endOfInput] := by decide +kernel

/-! ## Configuration that changes between calls (just-in-time lexing)

`sched : List (Res Pos) → Cfg` gives the configuration of the next call of `Lexer::next` as a
function of everything delivered so far (commands are executed between calls). The
specification `Spec.specSched` samples exactly where TeX does: `cat_code` of a character in the
call of `get_next` that looks at it (a character that only ends a control word is looked at in
that call and categorised again by the call that consumes it), `end_line_char` in the call that
brings the line in. -/

/-- **Lexing follows TeX's scanner under a changing configuration** (full strength): for every
schedule, the lexer called with `sched (history)` at each call delivers, with traces, exactly
what the TeX scanner delivers when the configuration in force during each `get_next` is
`sched (history)`. -/
theorem lex_eq_spec_sched (sched : List (Res Pos) → Cfg) (rep : Bool) (src : List Char) :
    lexTracedSched sched rep src = Spec.specSched sched rep src :=
  (lexTracedSched_run sched rep src).1

/-- No panic, no exhausted budget, `EndOfInput` reached — whatever the schedule. -/
theorem lex_total_sched (sched : List (Res Pos) → Cfg) (rep : Bool) (src : List Char) :
    Res.panic ∉ lexTracedSched sched rep src ∧ Res.fuel ∉ lexTracedSched sched rep src ∧
      (lexTracedSched sched rep src).getLast? = some .endOfInput :=
  (lexTracedSched_run sched rep src).2.total

/-- The two specifications agree when the configuration never changes. -/
theorem spec_sched_const (cfg : Cfg) (rep : Bool) (src : List Char) :
    Spec.specSched (fun _ => cfg) rep src = Spec.specAll cfg rep src := by
  -- Through the model: both specifications are what the lexer delivers. A proof on the specification
  -- alone would need a measure on `Spec.SState` to show that the fuel of `Spec.runSched` suffices.
  rw [← lex_eq_spec_sched]
  unfold lexTracedSched
  rw [lexAllFSched_const]
  exact (lexAllF_run _ _ _ (Rel.init src rep) (by rw [Lexer.mu_init]; omega)).1

/-- Just in time: `\m@` where delivering `\m` makes `@` a letter (`\makeatletter@`). The `@` that
ended the name `m` was looked at as an other character, and is a letter when it is consumed. -/
example :
    let atLetter : Cfg := { cat := fun c => if c = '@' then .letter else plainCat c, endline := none }
    let sched : List (Res Pos) → Cfg := fun h => if h.length ≥ 1 then atLetter else { plain with endline := none }
    Spec.specSched sched false "\\m@".toList =
      [.token (.cs ['m']) ⟨1, 0, "\\m@".toList⟩, .token (.chr '@' .letter) ⟨1, 2, "\\m@".toList⟩,
       .endOfInput] := by decide +kernel

/-! ## Byte positions

`Model/C03Bytes.lean` transcribes `RawLexer` with the byte offsets the code really has
(`next_line`, `pos`, `start`, `end`, `char_2_start`, `char_3_start`), every `&s[p..]` /
`&s[a..b]` with its panic off a character boundary, `advance`'s `unwrap`, the `unsafe` byte write
and `replace_range` of the `^^` rewrite (`none` = any of these goes wrong), and the `Lexer` on
top of it. -/

/-- **The byte-level lexer never slices off a character boundary** (nor writes into a multi-byte
character, nor unwraps `None` in `advance`), for arbitrary multi-byte text, and it delivers
exactly what the character-level model delivers. (`utf8_boundary` states the two facts about
`len_utf8` that the offset arithmetic rests on.) -/
theorem blex_eq_lex (cfg : Cfg) (rep : Bool) (src : List Char) :
    Bytes.bLexAll cfg rep src = some (lexAll cfg rep src) := by
  unfold Bytes.bLexAll lexAll
  rw [Lexer.mu_init]
  exact Bytes.bLexAllF_eq cfg rep _ ⟨Bytes.Rep.init src, rfl, rfl⟩

/-- Hence the byte-level lexer with the tracer is the TeX scanner with positions. -/
theorem blex_eq_spec (cfg : Cfg) (rep : Bool) (src : List Char) :
    (Bytes.bLexAll cfg rep src).map (List.map (Res.map (trace src))) = some (Spec.specAll cfg rep src) := by
  rw [blex_eq_lex, ← lex_eq_spec]; rfl

/-- **Every reported position lies in the source**: for every token and every invalid character
the lexer delivers, `Tracer::trace` of its key is `(n, col, text)` where `text` is the `n`-th
line of the source (lines ended by LF) and `col` is a column of that line, at most the position
of its newline (where an end-line character is reported). -/
theorem positions_in_source (cfg : Cfg) (rep : Bool) (src : List Char) :
    ∀ r ∈ lexTraced cfg rep src, ∀ p, r.pos? = some p →
      1 ≤ p.line ∧ (Spec.splitLines src)[p.line - 1]? = some p.text ∧ p.col ≤ p.text.length := by
  rw [lex_eq_spec]
  exact lines_positions cfg rep (Spec.splitLines src) 1

/-- **Why mutant 23 of the sweep is equivalent** (`next_line = end + num_spaces.max(1)`): same
state after `start_new_line` except `next_line`, which differs only when the source is used up
(`len` against `len + 1`), where the only reader of `next_line`, the test
`next_line >= source_code.len()`, gives the same answer. -/
theorem equiv_mutant_23 (cfg : Cfg) {b : Bytes.BRaw} {r : Raw} (h : Bytes.Rep b r) :
    ∃ m b' n, b.startNewLine cfg = some (m, b') ∧
      b.startNewLine23 cfg = some (m, { b' with nextLine := n }) ∧
      (n = b'.nextLine ∨ (b'.nextLine = byteLen b.src ∧ n = byteLen b.src + 1)) := by
  have hs := h.slice_cur
  unfold Bytes.BRaw.startNewLine Bytes.BRaw.startNewLine23
  rw [hs]
  simp only []
  cases hrest : r.rest with
  | nil =>
    have : byteLen b.src ≤ b.nextLine := by rw [h.byteLen_src, hrest]; exact Nat.le_refl _
    simp only [this, if_true]
    exact ⟨_, _, _, rfl, rfl, Or.inl rfl⟩
  | cons c t =>
    obtain ⟨content, rest', pre', nsp, -, hne, hloop, hsr, hz, hsrc, hnl⟩ := Bytes.startNewLine_slices h hrest
    simp only [if_neg hne, h.slice_src, hrest, hloop, hsr]
    -- with no blank and no newline skipped the source is used up
    have hend : nsp = 0 → b.nextLine + byteLen content + nsp = byteLen b.src := by
      intro h0
      rw [hnl, hsrc, hz h0, List.append_nil]
    have hn : b.nextLine + byteLen content + max nsp 1 = b.nextLine + byteLen content + nsp ∨
        (b.nextLine + byteLen content + nsp = byteLen b.src ∧
          b.nextLine + byteLen content + max nsp 1 = byteLen b.src + 1) := by
      by_cases h0 : nsp = 0
      · right; exact ⟨hend h0, by rw [← hend h0, h0]; rfl⟩
      · left; omega
    cases cfg.endline with
    | none => exact ⟨_, _, _, rfl, rfl, hn⟩
    | some e => exact ⟨_, _, _, rfl, rfl, hn⟩

/-- **Why mutant 25 of the sweep is equivalent**: the reordered, guarded loop of `Tracer::trace`
computes the same triple from every index at or before the wanted offset (it starts at 0). -/
theorem equiv_mutant_25 (off : Nat) (content : List Char) :
    traceLoop25 off 0 1 0 content content = traceLoop off 0 1 0 content content :=
  traceLoop25_eq off content 0 1 0 content (Nat.zero_le _)

/-- Wide characters around an expanded code, byte level: `é^^M€` (the `^^M` is rewritten in
place between a 2-byte and a 3-byte character). -/
example : Bytes.bLexAll plain true "é^^M€".toList = some (lexAll plain true "é^^M€".toList) :=
  blex_eq_lex _ _ _

example : (Bytes.bLexAll plain true "é^^M€".toList).map List.length = some 3 := by decide +kernel

/-- The panic is really modelled: one byte into `é` is not a boundary (`&"éa"[1..]` panics), two
bytes is; and the `unsafe` write refuses a multi-byte character. -/
example : Bytes.sliceFrom "éa".toList 1 = none ∧ Bytes.sliceFrom "éa".toList 2 = some ['a'] ∧
    Bytes.writeAscii "éa".toList 0 'M' = none ∧ Bytes.writeAscii "éa".toList 2 'M' = some ['é', 'M'] := by
  decide

end C03
