import TexcraftModel.Lemmas.C05
import TexcraftModel.Lemmas.C05Loop
import TexcraftModel.Lemmas.C05Sem
import TexcraftModel.Lemmas.C05Raw
import TexcraftModel.Lemmas.C05Text
import TexcraftModel.Lemmas.C05Typed

/-!
# C05 — property theorems

The compiled run spells the word (`spell`). The compiler leaves a pair unresolved exactly when TeX's
cursor machine never terminates on it (`loop_report_exact`, from `loop_exact_fuel` and `loop_exact`).
The compiled run is the cursor machine's output (`compiled_eq_interp`; with node types
`typed_compiled_eq_interp`), also without the left boundary, under any `RunOptions`, from the raw
lig/kern words of a TFM file and at the call site in boxworks-text.
-/
namespace C05

/-- For every program and every word: the characters recorded on the output of the compiled
program (plain characters plus each ligature's originals) are exactly the input word. -/
theorem spell (p : Program) (w : List Nat) : originals (runM p w) = w :=
  goL_spell p.rb (table_good p) w none

/-- `f i → fi` (one `LIG` rule). -/
def exFi : Program := Program.mk [Instr.mk none 105 (.lig 12 .neither)] none none [(102, 0)] []

example : runM exFi [97, 102, 105, 98] = [.ch 97, .lig 12 [102, 105] false false, .ch 98] := by decide
example : originals (runM exFi [97, 102, 105, 98]) = [97, 102, 105, 98] := by decide

/-- More fuel never changes the value computed for a pair. -/
theorem fuel_mono (p : Program) {n m : Nat} (h : n ≤ m) {l : Option Nat} {r : Nat} {v : Option Repl}
    (hv : pairResult n p l r = some v) : pairResult m p l r = some v :=
  pairResult_mono p h hv

example : pairResult 1 exFi (some 102) 105 = some (some ([], ⟨12, true⟩)) := by decide

/-- Pigeonhole: a chain of dependencies longer than the number of candidate pairs repeats a
pair, so the fixed fuel `bound p` decides: M reports the pair as looping (leaves it out of the
table) iff its evaluation fails with *every* amount of fuel. -/
theorem loop_exact_fuel (p : Program) (l : Option Nat) (r : Nat) :
    loopsM p l r = true ↔ ∀ fuel, pairResult fuel p l r = none := by
  simp only [loopsM, Option.isNone_iff_eq_none]
  constructor
  · intro h fuel
    cases hv : pairResult fuel p l r with
    | none => rfl
    | some v => rw [pairResult_bound p hv] at h; cases h
  · intro h; exact h _

/-- The compiler's evaluation of a pair never finishes exactly when the raw instructions for
that pair never terminate (TeX's cursor machine on the two-element sequence `l r`, `l` possibly
the left boundary). -/
theorem loop_exact (p : Program) (l : Option Nat) (r : Nat) :
    pairLoops p l r ↔ ∀ fuel, pairResult fuel p l r = none := by
  constructor
  · intro hloop fuel
    cases hv : pairResult fuel p l r with
    | none => rfl
    | some v =>
      -- a pair with a value: the machine gets past it and then stands on a single element
      obtain ⟨f, hf⟩ := (sem_pair p fuel hv false (.ch r, false) [] (fun _ => rfl) rfl (.single _)).erase
      cases (hloop f).symm.trans hf
  · intro hnone f
    cases hi : interp p f [elOf l, El.ch r] with
    | none => rfl
    | some out =>
      exfalso
      obtain ⟨v, hp, -⟩ := decomp p f l r [] out hi
      rw [hnone f] at hp
      cases hp

/-- "Compilation reports an infinite loop exactly when the instructions for some character
pair never terminate": M leaves the pair out of the table iff S never terminates on it. -/
theorem loop_report_exact (p : Program) (l : Option Nat) (r : Nat) :
    loopsM p l r = true ↔ pairLoops p l r :=
  (loop_exact_fuel p l r).trans (loop_exact p l r).symm

/-- The documentation example of ligkern/mod.rs: `x y → z y → x y → …` (two `LIG/` rules). -/
def exLoop : Program :=
  Program.mk [Instr.mk none 121 (.lig 122 .rightInserted), Instr.mk none 121 (.lig 120 .rightInserted)]
    none none [(120, 0), (122, 1)] []

example : loopsM exLoop (some 120) 121 = true := by decide

/-- A chain that revisits a *character* but not a pair: `c b → a b → b b` (then no rule);
the pairs visited are distinct, so this is not a loop. -/
def exNoLoop : Program :=
  Program.mk [Instr.mk none 98 (.lig 98 .rightInserted), Instr.mk none 98 (.lig 97 .rightInserted)]
    none none [(97, 0), (99, 1)] []

example : loopsM exNoLoop (some 99) 98 = false := by decide

/-- One table entry is the cursor machine on its pair: with any continuation `tail`, the
machine started on `l r tail` emits the entry's ops and then stands on `last` before the
same `tail`. -/
theorem table_pair (p : Program) (l : Option Nat) (r : Nat) (rep : Repl)
    (h : table p l r = some rep) (tail : List El) (out : List Glyph) (fuel : Nat)
    (hcont : interp p fuel (.ch rep.2.c :: tail) = some out) :
    ∀ fuel' out', interp p fuel' (elOf l :: .ch r :: tail) = some out' → out' = gl rep.1 ++ out := by
  intro fuel' out' h'
  obtain ⟨f2, hf2⟩ := sem_real p (table_some p l r rep h) tail out fuel hcont
  exact interp_det p h' hf2

example : table exFi (some 102) 105 = some ([], ⟨12, true⟩) := by decide
example : interp exFi 5 [.ch 12, .ch 98] = some [.glyph 12, .glyph 98] := by decide
example : interp exFi 5 [.ch 102, .ch 105, .ch 98] = some [.glyph 12, .glyph 98] := by decide

/-- **Compiled programs equal direct interpretation.** For every program all of whose pairs
resolve (`acyclicB`, decidable; the compiler reports no infinite loop) and every non-empty
word, with or without a left-boundary program and a right boundary character: TeX's cursor
machine terminates on `[LB] w [RB?]`, and its output is the glyph/kern sequence of the
compiled run — for every amount of fuel with which it terminates. -/
theorem compiled_eq_interp (p : Program) (w : List Nat) (hac : acyclicB p = true) (hw : w ≠ []) :
    (∃ fuel, interp p fuel (seqOf p w) = some (glyphs (runM p w))) ∧
    (∀ fuel out, interp p fuel (seqOf p w) = some out → out = glyphs (runM p w)) :=
  (runM_runsT p hac w hw).untyped

/-- Non-vacuity: an acyclic program with a ligature of three built in two passes
(`f f → ff`, `ff i → ffi`), a left-boundary kern (`| a`), and a right-boundary rule
(`ffi | → ffi ! ` with the cursor moved past the inserted character, `/LIG>`). -/
def exBoth : Program :=
  Program.mk
    [Instr.mk (some 0) 105 (.lig 12 .neither), Instr.mk none 102 (.lig 11 .neither),
     Instr.mk none 105 (.lig 14 .neither), Instr.mk none 97 (.kern 5),
     Instr.mk none 124 (.lig 33 .leftInserted)]
    (some 3) (some 124) [(102, 0), (11, 2), (14, 4)] []

example : acyclicB exBoth = true := by decide
example : glyphs (runM exBoth [97, 102, 102, 105]) = [.kern 5, .glyph 97, .glyph 14, .glyph 33] := by decide
example : interp exBoth 20 (seqOf exBoth [97, 102, 102, 105]) = some [.kern 5, .glyph 97, .glyph 14, .glyph 33] := by
  decide

/-! ### The same two laws without the left boundary (`RunOptions::disable_left_boundary`) -/

theorem spell_noLB (p : Program) (w : List Nat) : originals (runNoLB p w) = w := by
  cases w with
  | nil => rfl
  | cons c rest => exact goL_spell p.rb (table_good p) rest (some c)

theorem compiled_eq_interp_noLB (p : Program) (w : List Nat) (hac : acyclicB p = true) (hw : w ≠ []) :
    (∃ fuel, interp p fuel (seqNoLB p w) = some (glyphs (runNoLB p w))) ∧
    (∀ fuel out, interp p fuel (seqNoLB p w) = some out → out = glyphs (runNoLB p w)) := by
  cases w with
  | nil => exact absurd rfl hw
  | cons c rest => exact (runNoLB_runsT p hac c rest).untyped

example : glyphs (runNoLB exBoth [97, 102, 102, 105]) = [.glyph 97, .glyph 14, .glyph 33] := by decide

/-! ### Caller-supplied right boundary (`RunOptions::right_boundary_override`) -/

/-- Running with override `ov` (with or without the left boundary) is the cursor machine on
`[LB?] w [RB?]` where the right boundary character is the override if there is one and the
font's own boundary character otherwise. -/
theorem compiled_eq_interp_override (p : Program) (noLB : Bool) (ov : Option Nat) (w : List Nat)
    (hac : acyclicB p = true) (hw : w ≠ []) :
    let p' := withRb p (effRb p ov)
    let s := if noLB then seqNoLB p' w else seqOf p' w
    (∃ fuel, interp p' fuel s = some (glyphs (runOpt p noLB ov w))) ∧
    (∀ fuel out, interp p' fuel s = some out → out = glyphs (runOpt p noLB ov w)) := by
  intro p' s
  have hac' : acyclicB p' = true := by rw [acyclicB_withRb]; exact hac
  cases noLB with
  | false => rw [runOpt_false]; exact compiled_eq_interp p' w hac' hw
  | true => rw [runOpt_true]; exact compiled_eq_interp_noLB p' w hac' hw

theorem spell_override (p : Program) (noLB : Bool) (ov : Option Nat) (w : List Nat) :
    originals (runOpt p noLB ov w) = w := by
  cases noLB with
  | false => rw [runOpt_false]; exact spell _ w
  | true => rw [runOpt_true]; exact spell_noLB _ w

-- the override wins over the font's own boundary character: `exBoth` has boundary `|` (124)
-- with a rule `ffi |`; under override `z` (122, no rules) that rule does not fire
example : glyphs (runOpt exBoth false none [102, 102, 105]) = [.glyph 14, .glyph 33] := by decide
example : glyphs (runOpt exBoth false (some 122) [102, 102, 105]) = [.glyph 14] := by decide
example : glyphs (runOpt exBoth false (some 124) [102, 102, 105]) = [.glyph 14, .glyph 33] := by decide

/-! ### Node types

`interpT` is the cursor machine with node types (a ligature node = a character that an
instruction inserted). `typed_refines`: its glyph sequence is that of `interp`.
`typed_compiled_eq_interp`: the compiled run types its items exactly as the machine does. -/

theorem typed_refines (p : Program) (fuel : Nat) (s : List (El × Bool)) :
    (interpT p fuel s).map (List.map TGlyph.erase) = interp p fuel (s.map Prod.fst) :=
  interpT_erase p fuel s

/-- **Characters, ligature glyphs and kerns.** If no pair loops, then for every non-empty word
the typed cursor machine terminates on `[LB] w [RB?]` and its output — each glyph with the
information whether it is a character node or a ligature node, and the kerns — is exactly the
item sequence of the compiled run (`Item.ch` ↦ character, `Item.lig` ↦ ligature). -/
theorem typed_compiled_eq_interp (p : Program) (w : List Nat) (hac : acyclicB p = true) (hw : w ≠ []) :
    (∃ fuel, interpT p fuel ((seqOf p w).map (fun e => (e, false))) = some ((runM p w).map Item.tglyph)) ∧
    (∀ fuel out, interpT p fuel ((seqOf p w).map (fun e => (e, false))) = some out →
      out = (runM p w).map Item.tglyph) := by
  obtain ⟨f, hf⟩ := runM_runsT p hac w hw
  exact ⟨⟨f, hf⟩, fun fuel out h => interpT_det p h hf⟩

example : interpT exBoth 20 ((seqOf exBoth [97, 102, 102, 105]).map (fun e => (e, false)))
    = some [.kern 5, .glyph 97 false, .glyph 14 true, .glyph 33 true] := by decide
example : (runM exBoth [97, 102, 102, 105]).map Item.tglyph
    = [.kern 5, .glyph 97 false, .glyph 14 true, .glyph 33 true] := by decide

/-! ### From the raw words of a TFM file

`decodeFont` is the crate's reader (`Instruction::deserialize`, `lig_kern_operation_from_bytes`,
`deserialize_lig_kern_program`, `unpack_entrypoint` in `compile_from_tfm_file`); `texRule`,
`texBchar`, `interpRaw` are TeX's own reading of the same words, indexed from `lig_kern_base`
(TeX82 §573, §1034, §1039, §1040). -/

/-- Op bytes: for the eight codes of TeX82 §545 the decoded form does what `op = 4a+2b+c`
says (pass over `a`, keep current iff `b`, keep next iff `c`). -/
theorem op_byte_abc : ∀ op ∈ [0, 1, 2, 3, 5, 6, 7, 11],
    (formM op).abc = (op / 4, op / 2 % 2 == 1, op % 2 == 1) := by decide

/-- For every pair, the program the crate decodes from the raw words has the command that TeX
executes when it walks the words itself: start at `lig_kern_start` / `lig_kern_restart` /
`bchar_label`, compare `next_char`, never execute a word with `skip_byte > stop_flag`, stop at
`skip_byte ≥ stop_flag`, else continue at `k + skip_byte + 1`; kerns by index, op bytes by
§1040. (Characters have one `char_info` word each: distinct keys.) -/
theorem raw_rule (f : RawFont) (hnd : (f.tags.map Prod.fst).Nodup) (l : Option Nat) (r : Nat) :
    specRule (decodeFont f) l r = texRule f l r ∧ (decodeFont f).rb = texBchar f := by
  rw [specRule_eq_rule]
  exact ⟨rule_decode f hnd l r, rfl⟩

/-- **Raw bytes → compiled program → run**, end to end: if the compiler reports no loop for
the decoded program, then for every non-empty word TeX's main loop *on the raw words*
terminates and its output is the glyph/kern sequence of the compiled run. -/
theorem raw_compiled_eq_interp (f : RawFont) (hnd : (f.tags.map Prod.fst).Nodup) (w : List Nat)
    (hac : acyclicB (decodeFont f) = true) (hw : w ≠ []) :
    (∃ fuel, interpRaw f fuel (seqRaw f w) = some (glyphs (runM (decodeFont f) w))) ∧
    (∀ fuel out, interpRaw f fuel (seqRaw f w) = some out → out = glyphs (runM (decodeFont f) w)) := by
  have hr : texRule f = specRule (decodeFont f) := by
    funext l r; exact ((raw_rule f hnd l r).1).symm
  have hi : ∀ fuel s, interpRaw f fuel s = interp (decodeFont f) fuel s := by
    intro fuel s
    simp only [interpRaw, hr]
    exact interpG_spec (decodeFont f) fuel s
  have hs : seqRaw f w = seqOf (decodeFont f) w := rfl
  simp only [hi, hs]
  exact compiled_eq_interp (decodeFont f) w hac hw

/-- A font in raw words: boundary char `|` (first word, skip 255), character `f` starts at a
redirect word (word 1 → word 3), `f f → LIG ff` (op 0), `f i → kern 0`, left-boundary program
at word 5 (`| f → | !` with the cursor past `!`, op 6 = `/LIG>`), read from the last word. -/
def exRaw : RawFont :=
  { words := [⟨255, 124, 0, 0⟩, ⟨254, 0, 0, 3⟩, ⟨128, 0, 0, 0⟩, ⟨0, 102, 0, 11⟩, ⟨128, 105, 128, 0⟩,
              ⟨128, 102, 6, 33⟩, ⟨255, 0, 0, 5⟩],
    kerns := [7], tags := [(102, 1)] }

example : (exRaw.tags.map Prod.fst).Nodup := by decide
example : acyclicB (decodeFont exRaw) = true := by decide
example : texRule exRaw (some 102) 102 = some (.lig 11 .neither) := by decide
example : texRule exRaw none 102 = some (.lig 33 .leftInserted) := by decide
example : glyphs (runM (decodeFont exRaw) [102, 102, 105]) = [.glyph 33, .glyph 102, .kern 7, .glyph 105] := by
  decide
example : interpRaw exRaw 20 (seqRaw exRaw [102, 102, 105]) = some [.glyph 33, .glyph 102, .kern 7, .glyph 105] := by
  decide
example : interpRaw exRaw 20 (seqRaw exRaw [97, 102, 102, 105]) = some [.glyph 97, .glyph 11, .glyph 105] := by
  decide

/-! ### The call site: `add_word` / `add_text` of the text preprocessor

`addWord`, `addText` model `TextPreprocessorImpl::add_word` and `TextPreprocessor::add_text`
(nodes and their order; the amount of glue is C12's). -/

/-- One word: the character/ligature/kern nodes `add_word` appends are, in order, what TeX's
cursor machine produces on `[LB] w [RB?]` with the active font's program; every character and
ligature node carries the active font; there is no glue inside a word. -/
theorem add_word_sem (p : Program) (font : Nat) (w : List Nat) (hac : acyclicB p = true) (hw : w ≠ []) :
    (∃ fuel, interp p fuel (seqOf p w) = some ((addWord p font w).flatMap HNode.glyph)) ∧
    (∀ n ∈ addWord p font w, n.fontOk font = true ∧ n ≠ HNode.glue) := by
  rw [addWord_glyphs]
  exact ⟨(compiled_eq_interp p w hac hw).1, addWord_ok p font w⟩

/-- A text: cutting the list `add_text` produces at its glue nodes gives exactly one segment per
word of `split_ascii_whitespace` (preceded by an empty segment iff the text starts with white
space), each being `add_word` of that word; the words are non-empty, so `add_word_sem` applies
to every segment — word boundaries are where the left and right boundary rules fire. -/
theorem add_text_cut (p : Program) (font : Nat) (t : List Nat) :
    cutAtGlue (addText p font t) =
      (if (match t with | c :: _ => isWs c | [] => true) then [[]] else []) ++ (splitWs t).map (addWord p font)
    ∧ ∀ w ∈ splitWs t, w ≠ [] := by
  refine ⟨?_, splitWs_nonempty t⟩
  cases t with
  | nil => rfl
  | cons c rest =>
    simp only [addText]
    rcases Bool.eq_false_or_eq_true (isWs c) with hc | hc
    · simp only [hc, if_true, cut_addWords_true, List.cons_append, List.nil_append]
    · cases hs : splitWs (c :: rest) with
      | nil => exact absurd hs (splitWs_ne_nil_of_head c rest hc)
      | cons w ws =>
        simp only [hc, Bool.false_eq_true, if_false, cut_addWords_false, List.nil_append]

example : splitWs [32, 97, 32, 32, 98, 99, 32] = [[97], [98, 99]] := by decide
example : addText exBoth 3 [102, 102, 105, 32, 97] =
    [.lig 14 3 [102, 102, 105] false false, .lig 33 3 [] false true, .glue, .kern 5, .ch 97 3] := by decide

/-- The hypothesis of `compiled_eq_interp` cannot be dropped: on a program with a looping
pair the machine does not terminate on a word that reaches it, while the compiled run does
(it treats the unresolved pair as having no rule). -/
example : acyclicB exLoop = false ∧ runM exLoop [120, 121] = [.ch 120, .ch 121] ∧
    interp exLoop 40 (seqOf exLoop [120, 121]) = none :=
  ⟨by decide, by decide, by decide⟩

end C05
