import TexcraftModel.Lemmas.C09
import TexcraftModel.Lemmas.C09Trace
import TexcraftModel.Lemmas.C09Alloc
import TexcraftModel.Props.C06

/-!
# C09 — interpreter totality: what is proved

"No Rust statement in two crates panics" is not a theorem a hand model can carry. Proved here,
for all inputs, are the parts of totality that are protocol and arithmetic (DESIGN 5.10):
the shutdown protocol of `VM::run` under the contract of `ShutdownSignal`; the character and
byte arithmetic behind the location and the source excerpt of a rendered error, and its gutter;
the small numeric kernels (integer → `char`, `Uint<N>`, the `\ifcase` counter) together with
those of C06; the index bound of `\newIntArray` and the depth of the input stack. The `example`s
and the `…_panics` theorems are the witnesses against the code before the patches under
`fixes/`, against mutants and against a seeded change.

The full property is NOT proved:

  def C09_full_statement : Prop :=
    ∀ (input : String) (m : Mode), VM.run (the two crates) on input in mode m
      = Ok ∨ = Err (located, renders)        -- no panic anywhere

Totality of the rest of the interpreter (every primitive, the lexer, macro expansion) is
explored by the generator of `harness/src/bin/c09.rs`, not proved; the primitives'
adherence to the `ShutdownSignal` contract is the *hypothesis* of `protocol_safe`.
-/
namespace C09

/-- If every action respects the contract, `run` ends with `Ok` or `Err(error)`: it reaches
neither `unreachable!()` nor `panic!("shutdown signal ignored")` — whatever the initial
interaction mode, however the mode is switched, however many recoverable errors occur. -/
theorem protocol_safe (m : Mode) (evs : List Ev) (h : ∀ e ∈ evs, e.respects = true) :
    run m evs = .ok ∨ run m evs = .err := by
  rw [run, runLoop_eq_spec m evs h]
  exact specRun_ok_or_err m evs

/-- … and the result is the specified one: an error exactly when a fatal error, or a
recoverable error in errorstop mode, comes before the first shutdown request. -/
theorem protocol_eq_spec (m : Mode) (evs : List Ev) (h : ∀ e ∈ evs, e.respects = true) :
    run m evs = specRun m evs :=
  runLoop_eq_spec m evs h

/-- Scroll, nonstop and batch mode never turn a recoverable error into a fatal one: without
fatal errors and mode switches the run succeeds. -/
theorem protocol_recovering_modes (m : Mode) (hm : m ≠ .errorstop) (evs : List Ev)
    (h : ∀ e ∈ evs, e = .ok ∨ e = .recoverable ∨ e = .shutdown) : run m evs = .ok := by
  rw [protocol_eq_spec m evs (fun e he => by rcases h e he with rfl | rfl | rfl <;> rfl)]
  induction evs with
  | nil => rfl
  | cons e es ih =>
    have ih := ih (fun x hx => h x (List.mem_cons_of_mem _ hx))
    rcases h e List.mem_cons_self with rfl | rfl | rfl
    · exact ih
    · rw [specRun, if_neg hm]
      exact ih
    · rfl

-- the hypotheses are met by non-trivial runs
example : ∀ e ∈ [Ev.recoverable, .setMode .errorstop, .ok, .recoverable, .ok], e.respects = true := by decide
example : run .batch [.recoverable, .setMode .errorstop, .ok, .recoverable, .ok] = .err := by decide
example : run .scroll [.recoverable, .recoverable, .ok] = .ok := by decide
example : run .errorstop [.ok, .shutdown, .fatal] = .ok := by decide
-- the contract is necessary: each way of breaking it reaches a panic
example : run .errorstop [.ignFatal] = .panicIgnored := by decide
example : run .batch [.ignShutdown, .ok] = .panicIgnored := by decide
example : run .errorstop [.ignRecoverable, .recoverable] = .panicIgnored := by decide
example : run .nonstop [.spurious] = .panicUnreachable := by decide
-- … but not always (a dropped signal in a recovering mode is harmless)
example : run .scroll [.ignRecoverable, .ok] = .ok := by decide

/-- The excerpt never slices at a non-boundary nor out of range, for every line, character
index and length (also far beyond the line). -/
theorem excerpt_total (line : List Char) (start len : Nat) : highlight line start len ≠ .panic := by
  rw [highlight_eq]
  split <;> nofun

/-- When the line has `len` characters from character `start` on, exactly those are
highlighted, preceded by the first `start` characters and followed by the rest (trimmed). -/
theorem excerpt_located (line : List Char) (start len : Nat) (h2 : start + len ≤ line.length) :
    highlight line start len
      = .parts (line.take start) ((line.drop start).take len) (trimEnd (line.drop (start + len))) := by
  rw [highlight_eq, if_pos h2]

/-- Otherwise (a token text that is not on the line, e.g. the `\par` of an empty line or an
end-of-input marker) the line is printed as it is. -/
theorem excerpt_whole (line : List Char) (start len : Nat) (h : line.length < start + len) :
    highlight line start len = .whole line := by
  rw [highlight_eq, if_neg (Nat.not_le.mpr h)]

/-- Consequently the printed text is the line itself, up to trailing white space. -/
theorem excerpt_text (line : List Char) (start len : Nat) (h2 : start + len ≤ line.length) :
    (highlight line start len).text = some (line.take (start + len) ++ trimEnd (line.drop (start + len))) := by
  rw [excerpt_located line start len h2, Excerpt.text, List.take_add]

-- non-vacuity: `é\count`, error token `\count` at character 1
example : highlight ['é', '\\', 'c', 'o', 'u', 'n', 't'] 1 6
    = .parts ['é'] ['\\', 'c', 'o', 'u', 'n', 't'] [] := by decide

/-- The code as it was panics on this line ("byte index 1 is not a char boundary"): the
statement `excerpt_total` is false for `highlightOld` (defect C09-e). -/
theorem highlightOld_panics : highlightOld ['é', '\\', 'c', 'o', 'u', 'n', 't'] 1 6 = .panic := by decide

/-- … and it highlights the wrong characters without panicking when the offsets happen to
fall on boundaries (`éé\x`, token `\x` at character 2 = byte 4). -/
example : highlightOld ['é', 'é', '\\', 'x'] 2 2 = .parts ['é'] ['é'] ['\\', 'x'] := by decide

/-- What was right about the old code: on lines of one-byte characters it computes the same
excerpt as the repaired one. -/
theorem excerpt_old_ascii_partial (line : List Char) (hl : ∀ c ∈ line, u8len c = 1) (start len : Nat) :
    highlightOld line start len = highlight line start len := by
  unfold highlightOld
  rw [highlight_eq, byteLen_ascii line hl]
  by_cases h2 : start + len ≤ line.length
  · rw [if_pos h2, if_neg (Nat.not_lt.mpr h2),
      splitAtByte_ascii line hl start (Nat.le_trans (Nat.le_add_right start len) h2)]
    simp only []
    rw [splitAtByte_ascii (line.drop start) (fun c hc => hl c (List.mem_of_mem_drop hc)) len
      (by rw [List.length_drop]; exact Nat.le_sub_of_add_le' h2)]
    simp only [List.drop_drop]
  · rw [if_neg h2, if_pos (Nat.not_le.mp h2)]

example : ∀ c ∈ ['a', '\\', 'x', ' '], u8len c = 1 := by decide

/-- For every content and every character offset (also beyond the end: the key of an appended
end-of-line character), `trace` neither underflows `char_offset - char_line_start` nor slices
the content off a character boundary. -/
theorem trace_total (content : List Char) (off : Nat) : trace content off ≠ .panic := by
  obtain ⟨h1, _, h3⟩ := traceLoop_inv off content [] ⟨1, 0, 0⟩ (Nat.le_refl 0) (Nat.zero_le off) rfl
  simp only [List.length_nil, byteLen, List.nil_append] at h1 h3
  unfold trace
  simp only []
  rw [if_neg (Nat.not_lt.mpr h1), h3, splitAtByte_take]
  nofun

/-- Correctness of the location: a token at character `pos` of the line `lc` that follows the
complete lines `pre` (empty, or ending in a newline) is reported on line `1 + #newlines(pre)`,
at position `pos`, with the line content `lc` — for arbitrary (multi-byte) characters.
`pos = lc.length` is the line's own end (the key of the end-of-line character). -/
theorem trace_locates (pre lc suf : List Char) (pos : Nat)
    (hlc : ∀ c ∈ lc, c ≠ '\n') (hpre : pre = [] ∨ pre.getLast? = some '\n')
    (hsuf : suf = [] ∨ suf.head? = some '\n') (hpos : pos ≤ lc.length) :
    trace (pre ++ lc ++ suf) (pre.length + pos) = .ok (1 + pre.count '\n') pos lc :=
  trace_locates' pre lc suf pos hlc hpre hsuf hpos

/-- Location and excerpt together: the characters highlighted for a token of `len` characters
found at offset `pre.length + pos` are the characters `pos … pos+len` of its line. -/
theorem location_then_excerpt (pre lc suf : List Char) (pos len : Nat)
    (hlc : ∀ c ∈ lc, c ≠ '\n') (hpre : pre = [] ∨ pre.getLast? = some '\n')
    (hsuf : suf = [] ∨ suf.head? = some '\n') (hpos : pos + len ≤ lc.length) :
    ∃ ln, trace (pre ++ lc ++ suf) (pre.length + pos) = .ok ln pos lc ∧
      highlight lc pos len = .parts (lc.take pos) ((lc.drop pos).take len) (trimEnd (lc.drop (pos + len))) :=
  ⟨_, trace_locates pre lc suf pos hlc hpre hsuf (Nat.le_trans (Nat.le_add_right pos len) hpos),
    excerpt_located lc pos len hpos⟩

example : (∀ c ∈ ['é', '\\', 'x'], c ≠ '\n') ∧ (['a', 'é', '\n'].getLast? = some '\n') := by decide
example : trace ['a', 'é', '\n', 'é', '\\', 'x', '\n'] 4 = .ok 2 1 ['é', '\\', 'x'] := by decide
example : trace ['a', '\n'] 7 = .ok 2 5 [] := by decide

/-- `trace_end_of_input` slices the content at a character boundary, for every content. -/
theorem trace_eoi_total (content : List Char) : traceEoi content ≠ .panic := by
  obtain ⟨k, _, h⟩ := eoiLoop_inv content [] (0, 0) (0, 0)
    ⟨0, Nat.le_refl 0, rfl⟩ ⟨0, Nat.le_refl 0, rfl⟩
  simp only [byteLen, List.nil_append] at h
  unfold traceEoi
  simp only []
  rw [h, splitAtByte_take]
  nofun

example : traceEoi ['a', '\n', 'é', '{', ' ', '\n', ' ', '\n'] = .ok 2 2 ['é', '{'] := by decide

/-- Integer → character: `ok` or a recoverable error, never a panic, for every integer. -/
theorem char_from_code_total (i : Int) : charFromCode i ≠ .panic := by
  rcases charFromCode_cases i with h | ⟨c, _, h⟩ <;> rw [h] <;> nofun

/-- The value produced (also the recovered one) is a Unicode scalar value. -/
theorem char_from_code_scalar (i : Int) (c : Nat) (h : charFromCode i = .ok c ∨ charFromCode i = .err c) :
    c ≤ 0x10FFFF ∧ ¬(0xD800 ≤ c ∧ c ≤ 0xDFFF) := by
  rcases charFromCode_cases i with h0 | ⟨u, hu, h1⟩
  · rw [h0] at h
    rcases h with h | h <;> cases h
    decide
  · rw [h1] at h
    rcases h with h | h <;> cases h
    unfold fromU32 at hu
    split at hu
    · cases hu
    · next hn =>
      cases hu
      exact ⟨Nat.le_of_not_lt (fun h => hn (.inr h)), fun h => hn (.inl h)⟩

/-- A surrogate code is a recoverable error now … -/
example : charFromCode 55296 = .err 0 := by decide
example : charFromCode 233 = .ok 233 := by decide
/-- … and was a panic (`char::from_u32(..).unwrap()`): defect C09-a. -/
theorem charFromCodeOld_panics : charFromCodeOld 55296 = .panic := by decide

/-- `Uint<N>`: the value that is used as an index (accepted or recovered) is below `N`. -/
theorem uint_bound_total (N : Nat) (hN : 0 < N) (i : Int) :
    ∃ v, (uintBound N i = .ok v ∨ uintBound N i = .err v) ∧ v < N := by
  unfold uintBound
  split
  · exact ⟨0, .inr rfl, hN⟩
  · exact ⟨i.toNat, .inl rfl, by omega⟩

example : uintBound 32768 32768 = .err 0 := by decide
example : uintBound 32768 32767 = .ok 32767 := by decide

/-- The `\ifcase` counter stays a 32-bit integer and never moves away from zero (in particular
`-2^31` is never decremented). -/
theorem ifcase_counter_total (c : Int) (h : i32 c) :
    i32 (orStep c) ∧ (c < 0 → orStep c = c) ∧ (0 ≤ c → 0 ≤ orStep c) := by
  unfold orStep
  split
  · unfold i32 at *
    omega
  · exact ⟨h, fun _ => rfl, id⟩

theorem ifcaseLoop_spec (k : Nat) : ∀ (c : Int) (j : Nat),
    ifcaseLoop c j k = if 0 < c ∧ c ≤ k then some (j + c.toNat) else none := by
  intro c j
  by_cases h0 : 0 < c
  · obtain ⟨n, rfl⟩ := Int.eq_succ_of_zero_lt h0
    rw [ifcaseLoop_succ, Int.toNat_natCast_add_one]
    simp only [h0, true_and, Int.add_one_le_iff, Int.ofNat_lt]
  · rw [ifcaseLoop_nonpos k c j (Int.not_lt.mp h0), if_neg (fun h => h0 h.1)]

/-- `\ifcase n` with `k` `\or`s selects branch `n` when `0 ≤ n ≤ k` and none otherwise. -/
theorem ifcase_select_spec (n : Int) (k : Nat) :
    ifcaseSelect n k = if 0 ≤ n ∧ n ≤ k then some n.toNat else none := by
  unfold ifcaseSelect
  split
  · next h =>
    rw [h, if_pos ⟨Int.le_refl 0, Int.natCast_nonneg k⟩]
    rfl
  · next h =>
    have hpos : 0 < n ↔ 0 ≤ n := ⟨Int.le_of_lt, fun h' => Int.lt_iff_le_and_ne.mpr ⟨h', Ne.symm h⟩⟩
    simp only [ifcaseLoop_spec, hpos, Nat.zero_add]

/-- Integer constants in radix 8, 10, 16: always a value in `[-(2^31-1), 2^31-1]`. -/
theorem scan_int_total (neg : Bool) (radix : Int) (hr : radix = 10 ∨ radix = 8 ∨ radix = 16)
    (ds : List Nat) (hd : ∀ d ∈ ds, (d : Int) < radix) :
    -2147483647 ≤ (C06.scanInt neg radix ds).1 ∧ (C06.scanInt neg radix ds).1 ≤ 2147483647 :=
  C06.scan_int_total neg radix hr ds hd

/-- `scan_dimen` on every 32-bit head and unit (incl. the internal integer `-2^31`, C09-b, and
a fraction of an over-large internal unit, C09-c): a value within `±max_dimen`, never `panic`. -/
theorem scan_dimen_total (neg : Bool) (h : C06.Head) (u : C06.UnitSpec) (wf : h.WF32) :
    ∃ sc, C06.scanDimen neg h u = .ok sc ∧ -1073741823 ≤ sc.val ∧ sc.val ≤ 1073741823 :=
  C06.scan_dimen_total neg h u wf

theorem xn_over_d_total (x n d : Int) (hn : n ≤ 65536) (hd : 0 < d ∧ d ≤ 65536) :
    C06.xnOverD x n d ≠ .panic :=
  C06.xn_over_d_total x n d hn hd

theorem nx_plus_y_total (x n y : Int) : C06.nxPlusY x n y ≠ .panic :=
  C06.nx_plus_y_total x n y

/-- Register arithmetic: a `\count` or `\dimen` register that holds a 32-bit value holds one after any program of
`\advance`, `\multiply`, `\divide` with any operands (also `-2^31 / -1`, `× 2^31-1`, …); the
model has no crash outcome. Restated from C06. -/
theorem register_arithmetic_total (ops : List C06.ArithOp) (a : Int) (ha : C06.inRange32 a) :
    C06.inRange32 (C06.runReg C06.stepInt a ops).1 ∧ C06.inRange32 (C06.runReg C06.stepDimen a ops).1 :=
  ⟨(C06.arith_program_invariant ops a ha).1, (C06.arith_program_invariant ops a ha).2.1⟩

/-- `\the` of any dimension (every integer, not only legal dimensions) prints. -/
theorem print_scaled_total (s : Int) : C06.printScaled s ≠ none :=
  C06.print_total s

/-- Index-bound totality of `\newIntArray`: after *any* sequence of allocations (any sizes,
names re-allocated, in any order with the accesses) every read and write through `resolve`
indexes inside the flat storage — the run reports values, recoverable errors and fatal errors,
never the panic of `arrays[index]`. -/
theorem array_access_total (ops : List AOp) : AOut.panic ∉ runOps Alloc.empty ops :=
  runOps_no_panic ops Alloc.empty WF_empty

/-- … from any well-formed state (every recorded array inside the storage), and allocation and
writing keep the state well formed. -/
theorem array_access_total_wf (a : Alloc) (h : a.WF) (ops : List AOp) : AOut.panic ∉ runOps a ops :=
  runOps_no_panic ops a h

theorem alloc_preserves_wf (a : Alloc) (h : a.WF) (name len : Nat) : (newIntArray a name len).WF :=
  WF_new a h name len

-- non-vacuity: two arrays, an access at the last element and one past it
example : runOps Alloc.empty [.new 0 2, .new 1 3, .write 1 2 7, .read 1 2, .read 0 (-1), .read 1 3]
    = [.val 7, .recovered, .val 0, .fatal] := by decide
example : runOps Alloc.empty [.new 0 0, .read 0 (-1)] = [.recovered, .fatal] := by decide

/-- mutants/C09/29-intarray-resize-ignores-start.diff (`arrays.resize(len)` without the start
offset) is refuted by the model: the second allocation truncates the storage and an in-range
access panics. -/
theorem newIntArrayBad_panics :
    runOpsWith newIntArrayBad true Alloc.empty [.new 0 2, .new 1 7, .read 1 6] = [.panic] := by decide

/-- mutants/C09/08-intarray-bound-off-by-one.diff (`inner_index > array_len`): the index `len`
itself is accepted. -/
theorem resolveNonStrict_panics :
    runOpsWith newIntArray false Alloc.empty [.new 0 0, .read 0 0] = [.panic] := by decide

/-- The input stack never grows beyond the limit: starting from the one source that
`VM::push_source` leaves on the stack, whatever `\input`s and source ends follow,
`num_current_sources()` stays ≤ 101 (the harness checks ≤ 105 on every run). -/
theorem input_depth_invariant (ops : List IOp) : ∀ d ∈ depths 1 ops, d + 1 ≤ 101 := by
  intro d hd
  exact Nat.succ_le_succ (depths_bounded ops 1 (by decide) d hd)

/-- … and 100 nested `\input`s do end in the fatal error (the limit is effective). -/
example : endsFatal 1 (List.replicate 100 .input) = true ∧ endsFatal 1 (List.replicate 99 .input) = false := by
  rw [endsFatal_replicate_input 100 1 (by decide), endsFatal_replicate_input 99 1 (by decide)]
  decide

/-- Errorstop mode stops at the first recoverable error: whatever follows it is irrelevant. -/
theorem errorstop_first_recoverable (pre rest : List Ev) (hpre : ∀ e ∈ pre, e = .ok) :
    run .errorstop (pre ++ .recoverable :: rest) = .err := by
  rw [run, runLoop_ok_prefix pre _ hpre]
  rfl

/-- In scroll, nonstop and batch mode the recoverable errors of a run do not influence its
result: it is the result of the same run with them removed (no mode switches). -/
theorem recovering_mode_skips_recoverable (m : Mode) (hm : m ≠ .errorstop) (evs : List Ev)
    (h : ∀ e ∈ evs, e.respects = true) (hno : ∀ e ∈ evs, ∀ m', e ≠ .setMode m') :
    run m evs = run m (evs.filter (· ≠ .recoverable)) := by
  rw [protocol_eq_spec m evs h,
    protocol_eq_spec m _ (fun e he => h e (List.mem_filter.mp he).1)]
  exact specRun_filter_recoverable m hm evs hno

example : run .scroll [.ok, .recoverable, .recoverable, .fatal] = run .scroll [.ok, .fatal] := by decide

/-- The mutant `cases_left_to_skip >= 0` for `> 0` (m11 in notes/C09.md) is equivalent to the
code: the two loops compute the same branch for every counter value (a counter of 0 is
decremented to −1 and then never moves, exactly like a counter that is left at 0), and the
decrement still happens only for `c ≥ 0`, so it cannot overflow either. -/
theorem ifcase_ge_mutant_equivalent (c : Int) (j k : Nat) : ifcaseLoopGe c j k = ifcaseLoop c j k :=
  ifcaseLoopGe_eq k c j

/-- With a printer sized from the block's own line number, no line of the block underflows the
padding, for every line number: the header is indented by `digits − 1`, the empty `|` lines by
`digits`, and the source line (margin = the number) by 0 — so the `saturating_sub` of the code
never saturates and the three kinds of line put their separator in the same column. -/
theorem gutter_total (n : Nat) :
    headerPad n = some (digits n - 1) ∧ blankPad n = some (digits n) ∧ sourcePad n = some 0 := by
  have h := digits_pos n
  unfold headerPad blankPad sourcePad printerWidth
  -- every line fits the width; only the header needs `1 ≤ digits n` for that
  rw [gutterPad_eq, gutterPad_eq, gutterPad_eq, if_pos (Nat.add_le_add_right h 1),
    if_pos (Nat.succ_le_succ (Nat.zero_le _)), if_pos (Nat.le_of_eq (Nat.zero_add _))]
  exact ⟨rfl, rfl, congrArg some (Nat.sub_self _)⟩

/-- The saturating computation of the code is the plain one (whenever the plain one is defined). -/
theorem gutter_never_saturates (width adj marginLen p : Nat) (h : gutterPad width adj marginLen = some p) :
    gutterPadSat width adj marginLen = p := by
  rw [gutterPad_eq] at h
  split at h
  · exact Option.some.inj h
  · cases h

/-- A printer shared between blocks is safe exactly when the other block's line number has no
more digits than the one it was sized from … -/
theorem shared_gutter_iff (e c : Nat) : sharedSourcePad e c ≠ none ↔ digits c ≤ digits e := by
  unfold sharedSourcePad printerWidth
  rw [gutterPad_eq, Nat.zero_add]
  split
  · next h => exact ⟨fun _ => Nat.le_of_succ_le_succ h, fun _ => nofun⟩
  · next h => exact ⟨fun hne => absurd rfl hne, fun h' => absurd (Nat.succ_le_succ h') h⟩

/-- … so the shared printer of seeded/C09-r4-3 underflows for an error token on line 1 and a command on
line 10 ("attempt to subtract with overflow"). -/
theorem sharedGutter_underflows : sharedSourcePad 1 10 = none := by
  have h1 : digits 1 = 1 := digits_of_lt 1 (by decide)
  have h10 : digits 10 = 1 + digits 1 := digits_mono_step 10 (by decide)
  apply Decidable.byContradiction
  intro h
  have := (shared_gutter_iff 1 10).mp h
  rw [h10, h1] at this
  exact absurd this (by decide)

example : headerPad 7 = some 0 ∧ blankPad 7 = some 1 ∧ sourcePad 7 = some 0 := by
  have := gutter_total 7
  rw [digits_of_lt 7 (by decide)] at this
  exact this

end C09
