import TexcraftModel.Lemmas.C12
import TexcraftModel.Lemmas.C12Text
import TexcraftModel.Lemmas.C12Set

/-!
C12 — typesetting a paragraph conserves its content and honours the geometry.
Only the property statements and their non-vacuity examples; helper lemmas are in
`Lemmas/C12.lean`, `Lemmas/C12Text.lean` and `Lemmas/C12Set.lean`. All theorems are about the
transcriptions in `Model/C12.lean` (`postLineBreak`, `finishPar`, `sfAdjust`, `interWordGlue`),
for every list, every break sequence and every parameter setting; the model is tied to the Rust
code by `harness/src/bin/c12.rs`.
-/
namespace C12

/-- **Nothing is lost, duplicated or reordered.** For every list `l`, every valid sequence of
break positions `bs` and every parameter setting: reading the line boxes in order — taking away
the skips, joining the two halves of every discretionary break, and putting back the item at
which each line was broken together with exactly the items TeX drops after it (`droppedOf`,
defined from `l` and `bs` alone) — gives back `l`. -/
theorem conservation (p : Params) (l : List Item) (bs : List Nat) (lines : List Line)
    (hv : ValidBreaks l bs) (h : postLineBreak p l bs = .ok lines) :
    reassemble p (lines.map Line.flat) (droppedOf l bs) = some l :=
  go_conserve p l bs.length bs 0 0 none 0 lines hv h

/-- **No panic inside the domain**: with a valid break sequence, at least one line width, no
node that `HBox::pack` answers with `todo!()` and penalties whose sum fits `i32`,
`post_line_break` returns lines (none of its slice, index, `unreachable!`, `expect` or overflow
panics can happen). -/
theorem no_panic_in_domain (p : Params) (l : List Item) (bs : List Nat)
    (hv : ValidBreaks l bs) (hw : p.widths ≠ []) (hf : penFits p)
    (hl : ∀ it ∈ l, it.packTodo = false) :
    ∃ lines, postLineBreak p l bs = .ok lines :=
  go_total p l bs.length hw hf hl bs 0 0 none fun _ => hv

/-- **Shape of every line.** One box per break position; line `i` is `\leftskip` (iff it is
non-zero), the post-break material of the previous discretionary, a slice of the list, what
is visible of the item at the break (§881/§882), `\rightskip` (always); its width is the
`i`-th line width and its indent the `i`-th indent (the last one repeating). -/
theorem line_shape (p : Params) (l : List Item) (bs : List Nat) (lines : List Line)
    (h : postLineBreak p l bs = .ok lines) :
    lines.length = bs.length ∧
    ∀ (i : Nat) (ln : Line) (b : Nat), lines[i]? = some ln → bs[i]? = some b →
      ln.flat = leftPart p ++ (ln.post ++ (ln.body ++ (ln.brk ++ [.glue 0 p.rightSkip]))) ∧
      ln.left = leftPart p ∧
      ln.brk = (match l[b]? with | some it => visible it | none => []) ∧
      lineWidth p.widths i = .ok ln.width ∧
      ln.indent = lineIndent p.indents i := by
  obtain ⟨hlen, hshape⟩ := go_shape p l _ bs 0 0 none lines h
  refine ⟨hlen, fun i ln b hi hb => ?_⟩
  obtain ⟨_, hl, _⟩ := hshape i ln b hi hb
  exact ⟨by rw [Line.flat, hl.left, hl.right], hl.left, hl.brk, hl.width, hl.indent⟩

/-- `\leftskip` is inserted exactly when it is not zero (TeX.2021.887). -/
theorem left_skip_rule (p : Params) :
    leftPart p = if p.leftSkip.w = 0 ∧ p.leftSkip.st = 0 ∧ p.leftSkip.sh = 0 then []
                 else [.glue 0 p.leftSkip] := by
  have hz : p.leftSkip.isZero = true ↔ p.leftSkip.w = 0 ∧ p.leftSkip.st = 0 ∧ p.leftSkip.sh = 0 := by
    simp only [Glue.isZero, Bool.and_eq_true, beq_iff_eq, and_assoc]
  simp only [leftPart, hz]

/-- The `i`-th width is used while there is one, then the last one repeats (TeX.2021.889). -/
theorem width_rule (ws : List Int) (i : Nat) (w : Int) (h : lineWidth ws i = .ok w) :
    (i < ws.length → ws[i]? = some w) ∧ (ws.length ≤ i → ws.getLast? = some w) := by
  unfold lineWidth at h
  constructor
  · intro hi
    rw [List.getElem?_eq_getElem hi] at h ⊢
    simp at h; rw [h]
  · intro hi
    rw [List.getElem?_eq_none hi] at h
    simp only at h
    split at h <;> simp_all

/-- Same for the indents; no indents at all means no indent. -/
theorem indent_rule (xs : List Int) (i : Nat) :
    (i < xs.length → xs[i]? = some (lineIndent xs i)) ∧
    (xs.length ≤ i → xs ≠ [] → xs.getLast? = some (lineIndent xs i)) ∧
    (xs = [] → lineIndent xs i = 0) := by
  unfold lineIndent
  refine ⟨?_, ?_, ?_⟩
  · intro hi; rw [List.getElem?_eq_getElem hi]
  · intro hi hne
    rw [List.getElem?_eq_none hi]
    simp only
    cases h : xs.getLast? with
    | some x => rfl
    | none => exact absurd (List.getLast?_eq_none_iff.mp h) hne
  · intro h; subst h; simp

/-- **The last line** (valid breaks): nothing is left of a break item (there is none) and its
list part is a suffix of the list — so whatever ends the list ends the last line. -/
theorem last_line (p : Params) (l : List Item) (bs : List Nat) (lines : List Line)
    (hv : ValidBreaks l bs) (h : postLineBreak p l bs = .ok lines) :
    ∃ ln, lines.getLast? = some ln ∧ ln.brk = [] ∧ ∃ k, ln.body = l.drop k :=
  go_last p l _ bs 0 0 none 0 lines hv h

/-- **Paragraph end** (TeX.2021.816): `break_line` removes one trailing glue item, if there is
one, and appends `\penalty10000` and `\parfillskip`. -/
theorem finish_par_shape (pf : Glue) (l : List Item) :
    ∃ l', finishPar pf l = l' ++ [.penalty 10000, .glue 0 pf] ∧
      ((∃ k g, l = l' ++ [.glue k g]) ∨
       (l' = l ∧ ∀ k g, l.getLast? ≠ some (.glue k g))) := by
  unfold finishPar
  cases h : l.getLast? with
  | none => exact ⟨l, rfl, Or.inr ⟨rfl, by simp⟩⟩
  | some it =>
    cases it with
    | glue k g =>
      obtain ⟨l', rfl⟩ := List.getLast?_eq_some_iff.mp h
      exact ⟨l', by rw [List.dropLast_concat], Or.inl ⟨k, g, rfl⟩⟩
    | _ => exact ⟨l, rfl, Or.inr ⟨rfl, by simp⟩⟩

/-- The last line of a broken paragraph ends with `\parfillskip` (then `\rightskip`), unless
everything up to the end of the paragraph was pruned after the previous break. -/
theorem last_line_parfill (p : Params) (pf : Glue) (l0 : List Item) (bs : List Nat) (lines : List Line)
    (hv : ValidBreaks (finishPar pf l0) bs) (h : postLineBreak p (finishPar pf l0) bs = .ok lines) :
    ∃ ln, lines.getLast? = some ln ∧ ln.brk = [] ∧
      (ln.body = [] ∨ ∃ pre, ln.body = pre ++ [.glue 0 pf]) := by
  obtain ⟨ln, h1, h2, k, h3⟩ := last_line p _ bs lines hv h
  refine ⟨ln, h1, h2, ?_⟩
  obtain ⟨l', e, _⟩ := finish_par_shape pf l0
  rw [h3, e]
  by_cases hk : k ≤ l'.length + 1
  · right
    refine ⟨(l' ++ [Item.penalty 10000]).drop k, ?_⟩
    have : l' ++ [Item.penalty 10000, Item.glue 0 pf] = (l' ++ [Item.penalty 10000]) ++ [Item.glue 0 pf] := by simp
    rw [this, List.drop_append_of_le_length (by simpa using hk)]
  · left
    apply List.drop_of_length_le
    simp; omega

/-! ## Inter-line penalties (TeX.2021.890) -/

/-- **Penalty rule.** After every line but the last: `\interlinepenalty`, plus `\clubpenalty`
after the first line, plus `\widowpenalty` after the last but one, plus `\brokenpenalty` if the
line was broken at a discretionary; a penalty node is pushed iff the sum is not zero. -/
theorem penalty_rule (p : Params) (l : List Item) (bs : List Nat) (lines : List Line)
    (h : postLineBreak p l bs = .ok lines) :
    ∀ (i : Nat) (ln : Line) (b : Nat), lines[i]? = some ln → bs[i]? = some b →
      ln.pen =
        if i + 1 = bs.length then none
        else if penaltySpec p bs.length i (isDiscAt l b) = 0 then none
        else some (penaltySpec p bs.length i (isDiscAt l b)) := by
  intro i ln b hi hb
  obtain ⟨_, hl, _⟩ := (go_shape p l _ bs 0 0 none lines h).2 i ln b hi hb
  exact linePenalty_ok hl.pen

/-! ## No line begins with discardable material (TeX.2021.879) -/

/-- **Full strength** (of the code since c84c5ea in /repo). Every line after the first either starts with
the post-break material of the discretionary at which the previous line was broken, or has no
material from the list at all (everything up to the next break was pruned), or its first item
from the list is not discardable (not glue, penalty, math or an explicit kern). For every list,
every break sequence (valid or not) and every parameter setting. -/
theorem no_leading_discardable (p : Params) (l : List Item) (bs : List Nat)
    (first : Line) (others : List Line) (h : postLineBreak p l bs = .ok (first :: others)) :
    ∀ ln ∈ others, startsClean ln.post ln.body = true := by
  intro ln hmem
  obtain ⟨j, hj, rfl⟩ := List.getElem_of_mem hmem
  obtain ⟨hlen, hshape⟩ := go_shape p l _ bs 0 0 none _ h
  obtain ⟨_, _, _, hc⟩ := hshape (j + 1) _ (bs[j + 1]'(hlen ▸ Nat.succ_lt_succ hj))
    (List.getElem?_eq_getElem (Nat.succ_lt_succ hj)) (List.getElem?_eq_getElem _)
  exact hc (Nat.succ_pos j)

/-- What `startsClean` says, spelled out. -/
theorem startsClean_iff (post body : List Item) :
    startsClean post body = true ↔
      post ≠ [] ∨ body = [] ∨ ∃ it t, body = it :: t ∧ it.nonDiscardable = true := by
  unfold startsClean
  cases post <;> cases body <;> simp

/-- **The checker is not stricter than the theorems.** `specVerdict` — the executable
conjunction of conservation, line count, geometry, §890 and "no leading discardable" that the
driver evaluates on the REAL line boxes — accepts the model's own lines for every valid break
sequence. (So an `impl-vs-spec` report on lines that equal the model's is impossible, and a
`model-vs-spec` report is impossible while this theorem holds.) -/
theorem spec_accepts_model (p : Params) (l : List Item) (bs : List Nat) (lines : List Line)
    (hv : ValidBreaks l bs) (h : postLineBreak p l bs = .ok lines) :
    specVerdict p l bs (lines.map fun ln => (ln.flat, ln.width, ln.indent, ln.pen)) = [] :=
  specVerdict_model p l bs lines hv h

/-! ## Space factor and inter-word glue (TeX.2021.1034, §1041–§1044) -/

/-- `SpaceFactor::adjust` is TeX.2021.1034 for every code, every current value and every
character (characters without a code count as 1000). -/
theorem space_factor_spec (codes : List Int) (sf : Int) (c : Nat) :
    sfAdjust codes sf c = sfSpec (match codes[c]? with | some v => v | none => 1000) sf := by
  have core : ∀ new : Int,
      (if 0 < new ∧ new ≤ 1000 then new
       else if 1000 < new then (if sf < 1000 then 1000 else new) else sf) = sfSpec new sf := by
    intro new
    unfold sfSpec
    by_cases h1 : new = 1000
    · subst h1; simp
    · by_cases h2 : new < 1000
      · by_cases h3 : 0 < new
        · have : new ≤ 1000 := by omega
          simp [h1, h2, h3, this]
        · have : ¬ (1000 < new) := by omega
          simp [h1, h2, h3, this]
      · have h4 : 1000 < new := by omega
        have h5 : ¬ (new ≤ 1000) := by omega
        simp [h1, h2, h4, h5]
  exact core _

/-- The space factor is never zero or negative (so `add_space` never divides by zero). -/
theorem space_factor_positive (codes : List Int) (w : List Nat) (sf : Int) (h : 0 < sf) :
    0 < sfWord codes sf w := by
  unfold sfWord
  induction w generalizing sf with
  | nil => exact h
  | cons c t ih => exact ih _ (by rw [space_factor_spec]; exact sfSpec_pos _ h)

/-- **Inter-word glue** (the code since 2ef677c). Whenever TeX.2021.1041–§1044 define the glue
for a space (space factor in TeX's range `1..32767`, no dimension overflow), `add_space`
produces exactly it — `\spaceskip`, `\xspaceskip`, the font's glue and `extra_space`, in all
branches. -/
theorem inter_word_glue_spec (tp : TextParams) (f : Font) (sf : Int) (g : Glue)
    (h : glueSpec tp f sf = some g) : interWordGlue tp f sf = .ok g := by
  unfold glueSpec at h
  unfold interWordGlue
  by_cases h1 : sf = 1000
  · simp only [h1, if_true] at h ⊢
    cases hz : tp.spaceSkip.isZero <;> simp_all
  · simp only [h1, if_false] at h ⊢
    by_cases h2 : sf ≥ 2000 ∧ (!tp.xspaceSkip.isZero) = true
    · simp only [h2, and_self, if_true] at h ⊢
      rw [Option.some.inj h]
    · simp only [h2, if_false] at h ⊢
      generalize (if (!tp.spaceSkip.isZero) = true then tp.spaceSkip else f.glue) = mp at h ⊢
      split at h
      · simp at h
      · rename_i hb
        simp only [not_or, Int.not_lt, Int.not_le] at hb
        obtain ⟨b1, b2, b3, b4, b5, b6⟩ := hb
        rw [scaleBySf_of_bounds mp f.extra sf b1 b2 b3 b4 b5 b6, ← Option.some.inj h]

/-! ## Interline glue (TeX.2021.679) -/

/-- **Interline glue.** For every vertical list before the paragraph that is empty or whose last
box has a depth above `ignore_depth`, every sequence of line heights and depths (depths above
`ignore_depth`: packed boxes have depth ≥ 0) and every `\lineskiplimit`: as long as TeX would not
fall back to `\lineskip`, the glue the code pushes before each line box is exactly TeX's
`append_to_vlist` with `\baselineskip=12pt` — nothing before the first box of an empty list,
`baselineskip − prev_depth − height` otherwise, `prev_depth` being the depth of the box before. -/
theorem interline_glue_spec (lsl : Int) (v : List VNode) (lines : List (Int × Int × Bool))
    (hv : v = [] ∨ ∃ d0, firstBox v.reverse = some d0 ∧ d0 > ignoreDepth)
    (hd : ∀ x ∈ lines, x.2.1 > ignoreDepth)
    (hg : ∀ g ∈ texInterlines codeBaselineSkip lsl (texPrevDepth v) lines, g ≠ TexGlue.lineskip) :
    interline v lines = (texInterlines codeBaselineSkip lsl (texPrevDepth v) lines).map TexGlue.toOpt := by
  induction lines generalizing v with
  | nil => rfl
  | cons x t ih =>
    obtain ⟨h, d, pen⟩ := x
    have hfb := firstBox_pushLine v h d pen
    have hprev : texPrevDepth (pushLine v h d pen).2 = d := by rw [texPrevDepth, hfb]
    have hd' := List.forall_mem_cons.mp hd
    rw [texInterlines] at hg ⊢
    have hg' := List.forall_mem_cons.mp hg
    have ih := ih (pushLine v h d pen).2 (Or.inr ⟨d, hfb, hd'.1⟩) hd'.2
      (by rw [hprev]; exact hg'.2)
    rw [interline, List.map_cons, pushLine_tex lsl hv h d pen hg'.1, ih, hprev]

/-- Non-vacuity: two cmr10-sized lines after a box of depth 3pt, `\lineskiplimit=0pt`. -/
example : interline [.box 196608, .other] [(455111, 127431, true), (455111, 0, false)] =
    [some 134713, some 203890] ∧
    (∀ g ∈ texInterlines codeBaselineSkip 0 (texPrevDepth [.box 196608, .other])
        [(455111, 127431, true), (455111, 0, false)], g ≠ TexGlue.lineskip) := by decide

/-- The two boundaries of `interline_glue_spec` are real (both are `TODO`s in the code): after a
vertical list without any box TeX adds no glue (`prev_depth = ignore_depth`), the code adds
`12pt − height`; and a line so tall that `d < \lineskiplimit` gets `\lineskip` in TeX, a negative
`\baselineskip` glue in the code. -/
example : interline [.other] [(455111, 0, false)] = [some 331321] ∧
    texInterlines codeBaselineSkip 0 (texPrevDepth [.other]) [(455111, 0, false)] = [.noGlue] := by decide
example : interline [.box 0] [(900000, 0, false)] = [some (-113568)] ∧
    texInterlines codeBaselineSkip 0 (texPrevDepth [.box 0]) [(900000, 0, false)] = [.lineskip] := by decide

/-! ## The text front end (`add_text`, `add_word`) -/

/-- cmr10's inter-word glue parameters (scaled points). -/
def cmr10x : Font := { space := 218453, stretch := 109226, shrink := 72818, extra := 72818 }

/-- What `split_ascii_whitespace` gives (the words the spelling clause is about): no word is
empty, no word contains a blank, and the words in order are the text without its blanks. -/
theorem words_of_text (t : List Nat) :
    (∀ w ∈ splitWs t, w ≠ []) ∧ (∀ w ∈ splitWs t, ∀ c ∈ w, isWs c = false) ∧
    (splitWs t).flatten = t.filter (fun c => !isWs c) :=
  ⟨fun w hw => (splitWs_word t w hw).1, fun w hw => (splitWs_word t w hw).2, splitWs_flatten t⟩

/-- **The list spells the text.** For every text, every setting of codes and skips, and every
lig/kern program whose runs stand for their word (`runSpell (run w) = w`: the law property C05
proves for compiled programs): reading the list `add_text` produces — characters as
themselves, ligatures as their original characters, kerns and discretionaries as nothing,
glue as a blank — gives exactly the words of the text, in order. -/
theorem add_text_spells (run : List Nat → List RunItem) (codes : List Int) (tp : TextParams)
    (f : Font) (text : List Nat) (hrun : ∀ w, runSpell (run w) = w) :
    spell ((addText run codes tp f text).map TItem.chars) = splitWs text := by
  unfold addText spell
  have hne : ∀ w ∈ splitWs text, (!w.isEmpty) = true := by
    intro w hw
    have := (splitWs_word text w hw).1
    cases w <;> simp_all
  cases hl : leadWs text
  · cases hs : splitWs text with
    | nil => simp [addWords, splitAtGlue]
    | cons w ws =>
      rw [addWords_split_false run codes tp f hrun]
      rw [hs] at hne
      exact List.filter_eq_self.mpr hne
  · rw [addWords_split_true run codes tp f hrun, List.filter_cons_of_neg (by simp)]
    exact List.filter_eq_self.mpr hne

/-- **One glue item per blank run that is followed by a word** — none for trailing blanks, one
for leading blanks (the code's convention for a text chunk), one between consecutive words
however long the run of blanks. No hypothesis on the lig/kern program. -/
theorem add_text_glue_count (run : List Nat → List RunItem) (codes : List Int) (tp : TextParams)
    (f : Font) (text : List Nat) :
    ((addText run codes tp f text).filter TItem.isGlue).length =
      if leadWs text then (splitWs text).length else (splitWs text).length - 1 :=
  addWords_glue_count run codes tp f (splitWs text) 1000 (leadWs text)

/-- The glue items are, in order, `add_space` at the space factor reached after the words
before (starting from 1000): together with `space_factor_spec` and `inter_word_glue_spec` this
is TeX.2021.1034 and §1041–§1044 for the whole text. -/
theorem add_text_glue_values (run : List Nat → List RunItem) (codes : List Int) (tp : TextParams)
    (f : Font) (text : List Nat) :
    glueItems (addText run codes tp f text) =
      (addTextGlues codes tp f 1000 (leadWs text) (splitWs text)).filterMap id :=
  addWords_glueItems run codes tp f (splitWs text) 1000 (leadWs text)

/-- The executable text verdict the driver evaluates on the REAL list accepts the model. -/
theorem text_verdict_accepts_model (run : List Nat → List RunItem) (codes : List Int)
    (tp : TextParams) (f : Font) (text : List Nat) (hrun : ∀ w, runSpell (run w) = w) :
    textVerdict (addText run codes tp f text) text = (true, true) := by
  unfold textVerdict
  simp [add_text_spells run codes tp f text hrun, add_text_glue_count run codes tp f text]

/-- Explicit hyphens (TeX.2021.1039): in the list of a word, an empty discretionary follows
exactly the hyphen characters and the ligatures whose original characters end with one. -/
theorem add_word_hyphens (run : List Nat → List RunItem) (w : List Nat) :
    addWord run w = (run w).flatMap fun r =>
      match r with
      | .char c => if c = 45 then [TItem.char c, .disc] else [.char c]
      | .kern k => [.kern k]
      | .lig c orig lb rb =>
        if orig.getLast? = some 45 then [.lig c orig lb rb, .disc] else [.lig c orig lb rb] := by
  unfold addWord
  congr 1
  funext r
  cases r <;> simp [addItem] <;> split <;> rfl

/-- Non-vacuity: a run function that satisfies the law (every character as itself). -/
example : (∀ w, runSpell ((fun w => w.map RunItem.char) w) = w) := by
  intro w; induction w with
  | nil => rfl
  | cons c t ih => simp [runSpell, ih]

example : addText (fun w => if w = [102, 105] then [.lig 12 [102, 105] false false] else w.map RunItem.char)
      plainSfCodes {} cmr10x [32, 97, 45, 98, 46, 9, 32, 102, 105, 32] =
    [.glue (.ok { w := 218453, st := 109226, sh := 72818 }), .char 97, .char 45, .disc, .char 98, .char 46,
     .glue (.ok { w := 291271, st := 327678, sh := 24272 }), .lig 12 [102, 105] false false] := by decide

/-! ## Line widths: the `--widths` option and the set width (`HBox::pack`) -/

/-- **The width list of the command line.** Writing the widths as `a, b, c` (fields without
commas and without blanks at their ends) and splitting as `Linebreak::run` does
(`split(',')`, `trim`) gives back the fields, in order, one per line width — so by `line_shape`
and `width_rule` line `i` of the paragraph is packed to the `i`-th field (parsed by C06's
`parseFromString`), the last one repeating. -/
theorem widths_option_fields (fs : List (List Nat)) (hne : fs ≠ [])
    (hc : ∀ f ∈ fs, ∀ c ∈ f, c ≠ 44) (ht : ∀ f ∈ fs, trimWs f = f) :
    widthFields (joinComma fs) = fs := by
  rw [widthFields_joinComma fs hne hc, List.map_congr_left (g := id) ht, List.map_id]

example : widthFields (joinComma [[56, 48, 112, 116], [54, 48, 46, 53, 112, 116]]) =
    [[56, 48, 112, 116], [54, 48, 46, 53, 112, 116]] := by decide

/-- **Set width.** `post_line_break` packs every line with `HBox::pack(…, Exact(line width))`; the
model of that call is property C15's `C15.hpack` (mapping: each node of the line becomes the
`C15.Item` C15's harness decodes it to — char/ligature ↦ `char` with the font's dimensions,
box/rule/glue/kern as themselves, penalty and discretionary ↦ `inert`; the totals the C12 harness
sends to `lineSetVerdict` are `C15.loop`'s accumulators `natW`, `st`, `sh`). For every node list
and every line width the box satisfies `lineSetVerdict`: its glue order is the highest order with
a non-zero total and `nat·den + num·total = width·den` exactly — except in exactly the three
excused shapes coded in `lineSetVerdict` (nothing to stretch, nothing to shrink, only finite
shrink and it is exhausted). -/
theorem lines_set_to_width (l : List C15.Item) (w : Int) :
    lineSetVerdict (C15.loop {} l).natW w (totalsList (C15.loop {} l).st)
      (totalsList (C15.loop {} l).sh) (C15.hpack l (.exact w)).order.toNat
      (C15.hpack l (.exact w)).num (C15.hpack l (.exact w)).den = none :=
  lineSet_setGlue (C15.loop {} l).h (C15.loop {} l).d (C15.loop {} l).natW (.exact w) (C15.loop {} l).st
    (C15.loop {} l).sh (C15.hpack l (.exact w)) rfl

/-- The shape of the seeded change /verif/seeded/C12-r5-2: a 100pt box with `minus 1fil` (infinite shrink, numerically smaller than
the 10pt overflow) in a 90pt line is set at order fil with ratio −10 and meets the verdict; the
box that change produces (ratio −1 at order fil) does not. -/
example :
    let l : List C15.Item := [.box 0 6553600 0 0, .glue ⟨0, 0, .normal, 65536, .fil⟩]
    (C15.hpack l (.exact 5898240)).order = .fil ∧ (C15.hpack l (.exact 5898240)).num = -655360 ∧
    (C15.hpack l (.exact 5898240)).den = 65536 ∧
    lineSetVerdict 6553600 5898240 [0, 0, 0, 0] [0, 65536, 0, 0] 1 (-655360) 65536 = none ∧
    lineSetVerdict 6553600 5898240 [0, 0, 0, 0] [0, 65536, 0, 0] 1 (-65536) 65536 =
      some "shrink-set-width" := by decide

/-! ## Non-vacuity, and witnesses against the code before c84c5ea and 2ef677c -/

section Examples

def gl : Glue := { w := 5, st := 3, sh := 2 }
def pfill : Glue := { st := 65536, so := 1 }

/-- `box glue penalty glue box` + paragraph end, broken at the first glue and at the end. -/
def exList : List Item :=
  finishPar pfill [.box 0, .glue 0 gl, .penalty 0, .glue 0 gl, .box 1]

example : exList = [.box 0, .glue 0 gl, .penalty 0, .glue 0 gl, .box 1, .penalty 10000, .glue 0 pfill] := by
  decide

example : ValidBreaks exList [1, 7] := by decide

/-- The model on the witness of C12-a: the penalty and the second glue are pruned. -/
example : (postLineBreak { widths := [12] } exList [1, 7]).toOption = some
    [ { left := [], post := [], body := [.box 0], brk := [], right := .glue 0 {}, width := 12, indent := 0,
        pen := some 300 },
      { left := [], post := [], body := [.box 1, .penalty 10000, .glue 0 pfill], brk := [],
        right := .glue 0 {}, width := 12, indent := 0, pen := none } ] := by
  decide

example : droppedOf exList [1, 7] = [⟨.glue 0 gl, [.penalty 0, .glue 0 gl]⟩] := by decide

/-- Before c84c5ea the second line was `penalty glue box …`: it starts with discardable material
(`no_leading_discardable` was false for the unrepaired code at this witness). -/
example : startsClean [] [.penalty 0, .glue 0 gl, .box 1, .penalty 10000, .glue 0 pfill] = false := by
  decide

/-- A discretionary break with pre-break, post-break and one replaced item, then a kern break. -/
def exList2 : List Item :=
  [.box 0, .disc [.box 7] [.box 8, .kern 0 1] 1, .box 1, .box 2, .kern 1 3, .glue 0 gl, .glue 0 gl, .box 3,
   .penalty 10000, .glue 0 pfill]

example : ValidBreaks exList2 [1, 4, 10] := by decide
example : (∀ it ∈ exList2, it.packTodo = false) ∧ penFits { widths := [12] } :=
  ⟨by decide, by unfold penFits; decide⟩

example : (postLineBreak { widths := [12, 9], indents := [2], leftSkip := { w := 1 } } exList2 [1, 4, 10]).toOption.map
      (fun ls => ls.map fun ln => (ln.flat, ln.width, ln.indent, ln.pen)) = some
    [ ([.glue 0 { w := 1 }, .box 0, .disc [] [] 0, .box 7, .glue 0 {}], 12, 2, some 250),
      ([.glue 0 { w := 1 }, .box 8, .kern 0 1, .box 2, .kern 1 0, .glue 0 {}], 9, 2, some 150),
      ([.glue 0 { w := 1 }, .box 3, .penalty 10000, .glue 0 pfill, .glue 0 {}], 9, 2, none) ] := by
  decide

/-- cmr10's inter-word glue parameters (scaled points). -/
def cmr10 : Font := { space := 218453, stretch := 109226, shrink := 72818, extra := 72818 }
/-- `\spaceskip=3pt plus 1pt minus 1pt`. -/
def tp3 : TextParams := { spaceSkip := { w := 196608, st := 65536, sh := 65536 } }

/-- At space factor 3000 (after a period) TeX and the code since 2ef677c give
`4.11111pt plus 3pt minus 0.33333pt`; the code before it (`interWordGlueOld`) leaves `\spaceskip`
unscaled (finding C12-b). -/
example : glueSpec tp3 cmr10 3000 = some { w := 269426, st := 196608, sh := 21845 } := by decide
example : interWordGlue tp3 cmr10 3000 = .ok { w := 269426, st := 196608, sh := 21845 } := by decide
example : interWordGlueOld tp3 cmr10 3000 = .ok { w := 196608, st := 65536, sh := 65536 } := by decide
example : glueSpec {} cmr10 1250 = some { w := 218453, st := 136532, sh := 58254 } := by decide

end Examples

end C12
