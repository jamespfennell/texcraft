import TexcraftModel.Lemmas.C17Scaled
import TexcraftModel.Lemmas.C17Cover
import TexcraftModel.Lemmas.C17Compress
import TexcraftModel.Lemmas.C17Graph
import TexcraftModel.Lemmas.C17NLLoop
import TexcraftModel.Lemmas.C17NLLayout
import TexcraftModel.Lemmas.C17Reader
import TexcraftModel.Lemmas.C17Remap
import TexcraftModel.Lemmas.C17Unobs
import TexcraftModel.Lemmas.C17LateBreak
/-!
# C17 — font-metric arithmetic: theorems

Statement of the property (properties.jsonl): every fix_word prints in a property list as a
decimal that the PL reader converts back to the identical 32-bit value; scaling a fix_word by
a design size equals TeX's store_scaled bit for bit; the lossy table compression returns at
most the allowed number of classes with the smallest possible tolerance, every input within
half that tolerance of its representative; next-larger chains are finite, follow the links and
are cut only at the largest character of a cycle.
-/
namespace C17

/-- Every 32-bit fix_word except `0x80000000` is printed by `Display`
(TFtoPL §40–43) as a text `R <decimal>` that the PL reader (PLtoTF §62–66) converts back to
the identical value, without a warning. Fully symbolic: no table. -/
theorem fix_print_parse (v : Int) (hlo : -2147483648 < v) (hhi : v ≤ 2147483647) :
    parseFix (plText v) = ⟨v, .none⟩ := by
  have := parse_printed (decide (v < 0)) v.natAbs (by omega)
  simp only [decide_eq_true_eq, ← printFix_eq, natAbs_signed] at this
  exact this

/-- The digit loop of `Display` (an unbounded `loop` in Rust, fuel in
the model) stops by itself within seven iterations for every fraction: any fuel ≥ 7 (the
model uses 12) prints the same digits, at most seven of them. -/
theorem print_fuel_suffices (n : Nat) (f : Int) (h0 : 0 ≤ f) (h1 : f < 1048576) :
    fracDigits (n + 7) (10 * f + 5) 10 = fracDigits 7 (10 * f + 5) 10 ∧
    (fracDigits 7 (10 * f + 5) 10).length ≤ 7 := by
  obtain ⟨t, g0, _, g2, _⟩ := frac_round_trip f h0 h1
  exact ⟨(g0 n).trans (g0 0).symm, (g0 0).symm ▸ g2⟩

/-- Non-vacuity: concrete instances (a value printed with six digits, the largest, a negative). -/
example : parseFix (plText 333333) = ⟨333333, .none⟩ := fix_print_parse _ (by decide) (by decide)
example : printFix 2147483647 = "2047.999999".toList := by decide
example : printFix (-1) = "-0.000001".toList := by decide

/-- **Finding C17-a** (known, Knuth-compatible): the excluded pattern `0x80000000` prints as
`-2048.0`, which the reader rejects (`DecimalNumberIsTooBig`, value replaced by 0). -/
theorem fix_print_parse_fails_at_min :
    printFix (-2147483648) = "-2048.0".toList ∧
    parseFix (plText (-2147483648)) = ⟨0, .tooBig⟩ := by
  decide

/-- For every non-negative `i32` design size and every fix_word
in TeX's legal range `−16 ≤ v < 16` (first byte 0 or 255), the Rust `to_scaled` — with every
`i32` overflow check and the `assert!` modelled as a panic — does not panic and returns
exactly what TeX §568/§571/§572 computes (which does not `abort`). -/
theorem to_scaled_eq_store_scaled (v ds : Int) (hds0 : 0 ≤ ds) (hds1 : ds ≤ 2147483647)
    (hv0 : -16777216 ≤ v) (hv1 : v < 16777216) :
    toScaled v ds = storeScaled v ds ∧ (storeScaled v ds).isSome = true := by
  simp only [toScaled, storeScaled, Int.tdiv_eq_ediv_of_nonneg hds0]
  rw [halve_eq_tex 32 (ds / 16) 16 (by omega)]
  obtain ⟨h1, h2, h3, h4⟩ := texHalve_spec 32 (ds / 16) 16 (by omega) (by decide) (by omega)
  exact scaledWith_eq _ _ v h1 h2 h3 (by omega) hv0 hv1

/-- Outside that range (any other `i32`) the `assert!(a == 0 || a == 255)`
(or an earlier overflow check) fires, exactly where TeX's `store_scaled` aborts. -/
theorem to_scaled_guard (v ds : Int) (hi0 : -2147483648 ≤ v) (hi1 : v ≤ 2147483647)
    (hv : v < -16777216 ∨ 16777216 ≤ v) :
    toScaled v ds = none ∧ storeScaled v ds = none :=
  ⟨(scaledWith_guard _ _ v hi0 hi1 hv).1, (scaledWith_guard _ _ v hi0 hi1 hv).2⟩

/-- Non-vacuity: a 10pt font, the value −1.0 (first byte 255), and the assert outside. -/
example : toScaled (-1048576) 10485760 = some (-655360) := by decide
example : storeScaled 333333 (2147483647) = some 42666618 := by decide
example : toScaled 16777216 10485760 = none := by decide

/-- For every finite functional graph `g` (association list of
`character ↦ next larger`, any size, any labels) and every character `c`:
* *finite*: `get(c)` has at most `g.length` elements and ends by itself at a character that
  has no link in the cut graph (the fuel of the model is never what stops it; any larger fuel
  gives the same chain);
* *follows the links*: every consecutive pair of `c :: get(c)` is a link of the font;
* *cut only at the largest character of a cycle*: a link `a ↦ d` is removed only if `a`
  returns to itself (`p ≥ 1` steps) and no character on the way is larger than `a`; every
  other link is kept. (That every cycle *is* cut is the finiteness clause.) -/
theorem next_larger_spec (g : List (Nat × Nat)) (c : Nat) :
    ((nlGet g c).length ≤ g.length ∧ cutNxt g ((nlGet g c).getLastD c) = none ∧
      ∀ k, chain g (g.length + 1 + k) c = nlGet g c) ∧
    Linked (nxt g) (c :: nlGet g c) ∧
    (∀ a d, nxt g a = some d → cutNxt g a = none →
      ∃ p, 1 ≤ p ∧ it (nxt g) p a = some a ∧ ∀ m y, m < p → it (nxt g) m a = some y → y ≤ a) ∧
    (∀ a d, cutNxt g a = some d → nxt g a = some d) := by
  have hlen := chain_length_le g (g.length + 1) c
  refine ⟨⟨hlen, chain_stops g (g.length + 1) c (by omega),
      fun k => chain_fuel g c (Nat.le_add_right _ k)⟩,
    linked_mono (cutNxt_sub g) (chain_links g (g.length + 1) c), ?_, cutNxt_sub g⟩
  intro a d hn hc
  by_cases hcut : isCut g a = true
  · obtain ⟨p, p1, _, p2⟩ := (isCut_iff g a).1 hcut
    exact ⟨p, p1, p2⟩
  · rw [cutNxt_keep hcut, hn] at hc; cases hc

/-- Non-vacuity: the 3-cycle 1→2→3→1 with a tail 0→1 is cut at 3. -/
example : nlGet [(0, 1), (1, 2), (2, 3), (3, 1)] 0 = [1, 2, 3] ∧
    cutNxt [(0, 1), (1, 2), (2, 3), (3, 1)] 3 = none := by decide

/-- The clause-by-clause transcription of `NextLargerProgram::new` and
`get` (`Model/C17NL.lean`: in-degree counts, the work-list loop with leaf stripping and the cut
at the largest remaining non-leaf, the `next_larger` vector with offsets, `entrypoints`, the
iterator) equals the cut-graph specification, for every functional graph `g` on characters
`< 256` and **every** iteration order `order` of the `HashMap` `node_to_num_smaller`:
no `expect`/`checked_sub`/`try_into` fires, the fuel `2·|nodes| + 2` is never exhausted, the
`InfiniteLoop` warnings are the cuts in ascending order, and `get(c)` is the chain of the cut
graph for every `c` — hence (by `next_larger_spec`) finite, following the font's links, cut
only at the largest character of a cycle. -/
theorem next_larger_algo (g : List (Nat × Nat)) (hF : Functional g)
    (hLab : ∀ e ∈ g, e.1 < 256 ∧ e.2 < 256) (order : List Nat) (hnd : order.Nodup)
    (hmem : ∀ x, x ∈ order ↔ IsNode g x) :
    ∃ prog, nlCompile g order = .ok (prog, nlLoops g 255) ∧ ∀ c, progGet prog c = nlGet g c := by
  obtain ⟨hK0, hC0, hm0⟩ := inv_init g hF order hnd hmem
  obtain ⟨σ, hrun, hK, hC, hl, hn⟩ := wl_run (2 * order.length + 2) (wlInit g order) hK0 hC0 hm0
  have hnodeLab : ∀ x, IsNode g x → x < 256 := by
    rintro x ⟨e, he, h | h⟩
    · rw [← h]; exact (hLab e he).1
    · rw [← h]; exact (hLab e he).2
  have hsorted := final_sorted hK hl hn
  have hE : ∀ y x, nxt σ.g y = some x → y ∈ σ.sorted ∧ x ∈ σ.sorted := fun y x h =>
    have h0 := isNode_of_nxt g y x (hC.sub y x h)
    ⟨hsorted y h0.1, hsorted x h0.2⟩
  obtain ⟨arr, pos, entry, h1, h2, h3, h4⟩ := layout_correct σ.g σ.sorted hK.gfun hK.ndS hK.topo hE
    (fun x hx => hnodeLab x ((hK.node_iff x).2 (Or.inl hx)))
  refine ⟨⟨entry, arr.reverse⟩, ?_, ?_⟩
  · simp only [nlCompile, hrun, h1, h2, h3]
    rw [final_loops hK hC hl hn hnodeLab]
  · intro c
    rw [h4 c, chainL_eq_chain σ.g g (final_graph hK hC hl hn)]
    have hlen : g.length ≤ 256 := by
      have := length_le_256 (g.map Prod.fst) hF (by
        intro x hx
        obtain ⟨e, he, rfl⟩ := List.mem_map.1 hx
        exact (hLab e he).1)
      simpa using this
    exact chain_fuel g c (Nat.succ_le_succ hlen)

/-- The first loop of `new` (existence filter, optional drop) keeps
a sub-list of the edges, so the kept map of a font (one NEXTLARGER per character) is functional:
the hypotheses of `next_larger_algo` hold for what `new` is given by `.pl`/`.tfm` files. -/
theorem next_larger_first_loop (exist : Nat → Bool) (dropNE : Bool) (edges : List (Nat × Nat))
    (hn : (edges.map Prod.fst).Nodup) (hLab : ∀ e ∈ edges, e.1 < 256 ∧ e.2 < 256) :
    Functional (nlEdges exist dropNE edges [] []).1 ∧
    ∀ e ∈ (nlEdges exist dropNE edges [] []).1, e.1 < 256 ∧ e.2 < 256 := by
  rw [nlEdges_eq, List.append_nil]
  refine ⟨?_, fun e he => hLab e (List.mem_filter.1 (List.mem_reverse.1 he)).1⟩
  rw [Functional, List.map_reverse]
  exact (List.reverse_perm _).nodup_iff.2 (hn.sublist (List.filter_sublist.map _))

/-- Non-vacuity: the 3-cycle with a tail, the `HashMap` iterated in the order 3, 1, 0, 2. -/
example : (match nlCompile [(0, 1), (1, 2), (2, 3), (3, 1)] [3, 1, 0, 2] with
    | .ok (p, w) => (progGet p 0, progGet p 3, w)
    | _ => ([], [], [])) = ([1, 2, 3], [], [(3, 1)]) := by decide

/-- Outside the hypothesis (two links for one character) the transcription panics like the
Rust code ("General graph fact…"). -/
example : nlCompile [(1, 3), (1, 2)] [1, 2, 3] = .panic := by decide

/-- Whatever `C` covers the values with intervals of length `δ` has at
least as many intervals as the greedy pass of `compress` opens. -/
theorem greedy_optimal (δ : Int) (vals C : List Int) (h : Covers δ C vals) :
    greedyCount δ vals ≤ C.length :=
  greedyCount_le_cover δ vals C h

/-- The fact the binary search of `compress` rests on: for sorted values
a larger tolerance never needs more classes (so "δ admits ≤ max classes" is monotone in δ). -/
theorem greedy_monotone (δ δ' : Int) (hδ : 0 ≤ δ) (h : δ ≤ δ') (vals : List Int)
    (hs : vals.Pairwise (· ≤ ·)) : greedyCount δ' vals ≤ greedyCount δ vals :=
  greedyCount_mono δ δ' hδ h vals hs

/-- Abstract form: if the greedy pass needs more than `maxSize` classes
at `δ`, then no tolerance `δ' ≤ δ` admits *any* cover with `maxSize` intervals. -/
theorem compress_minimal (δ δ' : Int) (h : δ' ≤ δ) (vals C : List Int) (maxSize : Nat)
    (hg : greedyCount δ vals > maxSize) (hC : C.length ≤ maxSize) : ¬ Covers δ' C vals := by
  intro hc
  have := greedyCount_le_cover δ vals C (covers_mono δ' δ h C vals hc)
  omega

/-- The executable checker that the correspondence runs on the
*real* output of the Rust `compress` is sound for the specification `CompressSpec`
(≤ `maxSize` classes; every value within half the tolerance of its representative; the
tolerance minimal over all covers). -/
theorem compress_check_sound (values : List Int) (maxSize : Nat) (table : List Int)
    (m : List (Int × Nat)) (h : checkCompress values maxSize table m = (true, true, true)) :
    CompressSpec values maxSize table m :=
  checkCompress_sound values maxSize table m h

/-- For every list of 32-bit values (any length, duplicates allowed, the
whole `i32` range: since /repo 3d2d8d9 the search and the midpoints are computed in `i64`) and
every class limit `maxSize ≥ 1`, the model of `compress` — early exit, binary search with the
`delta_lower`/`delta_upper` jumps and the early `break`, 64 iterations of fuel, final loop with
the `try_into().expect(…)` of the midpoint — does not panic and its result satisfies
`CompressSpec`: at most `maxSize` classes, every value within half the tolerance of its
representative (`2|v − rep| ≤ δ + δ mod 2`, see `no_integer_representative_better`), and the tolerance is the smallest for which *any* `maxSize` intervals cover
the values. -/
theorem compress_spec (values : List Int) (maxSize : Nat) (hmax : 1 ≤ maxSize)
    (hr : ∀ v ∈ values, -2147483648 ≤ v ∧ v ≤ 2147483647) :
    ∃ table m, compress values maxSize = .ok (table, m) ∧ CompressSpec values maxSize table m := by
  obtain ⟨table, m, δ, h1, h2, h3, _⟩ := compress_meets_spec_strong values maxSize hmax hr
  exact ⟨table, m, h1, δ, h2, h3⟩

/-- The same, with the tolerance `δ` made explicit and shown to
be *attained*: unless `δ = 0`, two input values exactly `δ` apart are in one class. Together with
`no_integer_representative_better` this is the exact form of "within half the tolerance": the
bound `2|v − rep| ≤ δ + δ mod 2` of `CompressSpecAt` is `2|v − rep| ≤ δ` when `δ` is even, and
when `δ` is odd the class that attains `δ` admits no integer representative with
`2|v − rep| ≤ δ` for both of its ends — `δ + 1` is then the best possible. -/
theorem compress_tolerance_attained (values : List Int) (maxSize : Nat) (hmax : 1 ≤ maxSize)
    (hr : ∀ v ∈ values, -2147483648 ≤ v ∧ v ≤ 2147483647) :
    ∃ table m δ, compress values maxSize = .ok (table, m) ∧ 0 ≤ δ ∧
      CompressSpecAt values maxSize table m δ ∧ Attained values m δ := by
  obtain ⟨table, m, δ, h1, h2, h3, h4, _⟩ := compress_meets_spec_strong values maxSize hmax hr
  exact ⟨table, m, δ, h1, h2, h3, h4⟩

/-- The checker that the correspondence runs on the dimension tables
of the *serialised and re-read* TFM file produced from a property list (stream `tf`) is sound:
if it accepts, the table and the indices the characters carry satisfy `CompressSpec` for the
values that are compressed, with the **true** PLtoTF limit `tfmLimit kind` (255 widths, 15
heights, 15 depths, 63 italic corrections — constants of the specification, from the 8/4/4/6-bit
index fields with entry 0 reserved). -/
theorem tfm_table_check_sound (kind : Nat) (charVals table : List Int) (idx : List (Int × Nat))
    (h : checkTfmTable kind charVals table idx = (true, true, true, true)) :
    CompressSpec (if kind = 0 then charVals else charVals.filter (· != 0)) (tfmLimit kind) table idx := by
  simp only [checkTfmTable, Prod.mk.injEq] at h
  apply checkCompress_sound
  rw [← Prod.eta (checkCompress _ _ _ _), ← Prod.eta (checkCompress _ _ _ _).2]
  simp only [h.1, h.2.1, h.2.2.1]

example : tfmLimit 0 = 2 ^ 8 - 1 ∧ tfmLimit 1 = 2 ^ 4 - 1 ∧ tfmLimit 2 = 2 ^ 4 - 1 ∧ tfmLimit 3 = 2 ^ 6 - 1 := by
  decide

/-- The representative the code chooses for an interval
`first ≤ … ≤ last`, `(last + first) / 2`, is a best integer centre: for every member `v` and
every integer `r`, `|v − rep|` is at most the distance of `r` to one of the two ends. -/
theorem representative_optimal (f l v r : Int) (h1 : f ≤ v) (h2 : v ≤ l) :
    absI (v - Int.tdiv (l + f) 2) ≤ absI (f - r) ∨ absI (v - Int.tdiv (l + f) 2) ≤ absI (l - r) := by
  obtain ⟨m1, m2⟩ := tdiv2_mid (l + f)
  obtain ⟨a1, a2⟩ := le_absI (f - r)
  obtain ⟨b1, b2⟩ := le_absI (l - r)
  rw [absI_le, absI_le]
  -- the end farther from `r` does it; one `omega` on the disjunction of conjunctions goes through
  -- `Classical.choice`
  by_cases hr : 2 * r ≤ l + f
  · exact .inr ⟨by omega, by omega⟩
  · exact .inl ⟨by omega, by omega⟩

/-- Why `CompressSpec` reads `2|v − rep| ≤ δ + δ mod 2`
("within half the tolerance" exactly when `δ` is even, half a unit more when it is odd): two
values an odd `δ` apart have no integer within `δ/2` of both. -/
theorem no_integer_representative_better (f l r : Int) (hodd : (l - f) % 2 = 1) :
    ¬ (2 * absI (f - r) ≤ l - f ∧ 2 * absI (l - r) ≤ l - f) := by
  obtain ⟨a1, a2⟩ := le_absI (f - r)
  obtain ⟨b1, b2⟩ := le_absI (l - r)
  omega

/-- The extremes of the `i32` range (a panic before /repo 3d2d8d9) are handled. -/
example : compress [-2147483648, 2147483647] 1 =
    .ok ([0, 0], [(-2147483648, 1), (2147483647, 1)]) := by decide

/-- Non-vacuity: the documented example `[1, 4, 5]` with one class more than allowed. -/
example : compress [1, 4, 5, 100, 101] 2 = .ok ([0, 3, 100], [(1, 1), (4, 1), (5, 1), (100, 2), (101, 2)]) := by
  decide
example : checkCompress [1, 4, 5, 100, 101] 2 [0, 3, 100] [(1, 1), (4, 1), (5, 1), (100, 2), (101, 2)]
    = (true, true, true) := by decide

/-- On *arbitrary* text the PL decimal reader (characters: spaces, the
`R`/`D` prefix, runs of signs, digits before and after the point, only the first seven fraction
digits used) returns either a value in `(−2^31, 2^31)` without warning, or `DecimalNumberIsTooBig`
with the documented replacement `0` / `1.0`, or `InvalidPrefixForDecimalNumber` with `0`. The
lemmas behind it (`readInt_range`, `fracAcc_bound`, `fracValue_range`) bound every accumulator
far inside `i32`: the `checked_mul/checked_add(..).unwrap()` of the Rust reader cannot fire,
which is why the model has no panic outcome there. -/
theorem parse_total_range (s : List Char) :
    ((parseFix s).warn = .none → -2147483648 < (parseFix s).value ∧ (parseFix s).value < 2147483648) ∧
    ((parseFix s).warn = .tooBig → (parseFix s).value = 0 ∨ (parseFix s).value = 1048576) ∧
    ((parseFix s).warn = .invalidPrefix → (parseFix s).value = 0) := by
  cases h1 : skipSpaces s with
  | nil => simp [parseFix, h1]
  | cons c t =>
    by_cases hc : c = 'D' ∨ c = 'd' ∨ c = 'R' ∨ c = 'r'
    · rw [parseFix_eq h1 hc rfl rfl]
      exact assemble_range _ _ _ (readInt_range _ 0 (Int.le_refl 0) (by decide)) (fracPart_range _)
    · simp [parseFix, h1, hc]

/-- The integer accumulator stays in `[0, 2048]` (so
`acc·10 + d ≤ 20489`), the fraction accumulator in `[0, 10·2^21)`, the rounded fraction in
`[0, 2^20]`, for every text. -/
theorem parse_accumulators_in_i32 (s : List Char) :
    (0 ≤ (readInt s 0).1 ∧ (readInt s 0).1 ≤ 2048) ∧
    (0 ≤ fracAcc (readFracDigits 7 s).1 ∧ fracAcc (readFracDigits 7 s).1 ≤ 20971519) ∧
    (0 ≤ fracValue (readFracDigits 7 s).1 ∧ fracValue (readFracDigits 7 s).1 ≤ 1048576) :=
  ⟨readInt_range s 0 (Int.le_refl 0) (by omega), fracAcc_bound _ (readFracDigits_range 7 s),
    fracValue_range _ (readFracDigits_range 7 s)⟩

example : parseFix "R 2047.9999999".toList = ⟨1048576, .tooBig⟩ ∧
    parseFix "D -.00000049999".toList = ⟨0, .none⟩ ∧ parseFix "X".toList = ⟨0, .invalidPrefix⟩ ∧
    parseFix "R --+ -2047.9999994".toList = ⟨-2147483647, .none⟩ := by decide

/-- The model `remapDim` of one dimension of `impl From<pl::File> for tfm::File`
(compress the characters' values with the true class limit `tfmLimit kind` — all widths, the
non-zero heights / depths / italic corrections —, then give every character the index of its
value, zero heights/depths/italics index 0) never panics for `i32` values and: the table starts
with `0` and has at most `tfmLimit kind + 1` entries; every character's index is at most
`tfmLimit kind` (fits the 8/4/4/6-bit field, no wrap) and points at an entry within half the
tolerance of the character's value (`2|v − rep| ≤ δ + δ mod 2`; exactly `0` for a zero
height/depth/italic); the tolerance is minimal over all covers by `tfmLimit kind` intervals. The
`tf` stream compares the real table and every character's index, read back from the serialised
file, with `remapDim`. -/
theorem remap_spec (kind : Nat) (charVals : List Int)
    (hr : ∀ v ∈ charVals, -2147483648 ≤ v ∧ v ≤ 2147483647) :
    ∃ table idx δ, remapDim kind charVals = .ok (table, idx) ∧ idx.length = charVals.length ∧
      table.head? = some 0 ∧ table.length ≤ tfmLimit kind + 1 ∧ 0 ≤ δ ∧
      (∀ (j : Nat) (v : Int) (i : Nat), charVals[j]? = some v → idx[j]? = some i →
        i ≤ tfmLimit kind ∧ (v = 0 → kind ≠ 0 → i = 0) ∧
        ∃ rep, table[i]? = some rep ∧ 2 * absI (v - rep) ≤ δ + δ % 2) ∧
      (∀ δ' C, 0 ≤ δ' → δ' < δ → C.length ≤ tfmLimit kind →
        ¬ Covers δ' C (if kind = 0 then charVals else charVals.filter (· != 0))) := by
  have hin := mem_dimVals kind charVals
  obtain ⟨table, m, δ, hc, hδ, ⟨⟨hhead, hlen⟩, hnear, hmin⟩, _, hkeys⟩ :=
    compress_meets_spec_strong _ (tfmLimit kind) (tfmLimit_pos kind)
      (fun v hv => hr v ((hin v).1 hv).1)
  have hidx := lookAll_eq kind m charVals (fun v hv hk => by
    obtain ⟨i, _, hi, _⟩ := hnear v ((hin v).2 ⟨hv, .inl hk⟩)
    exact ⟨i, hi⟩)
  simp only [remapDim, hc, hidx]
  refine ⟨table, _, δ, rfl, List.length_map _, hhead, Nat.le_add_of_sub_le hlen, hδ, ?_, hmin⟩
  intro j v i hj hi
  rw [List.getElem?_map, hj, Option.map_some] at hi
  cases hi
  by_cases hcomp : kind = 0 ∨ v ≠ 0
  · obtain ⟨i', rep, h1, _, h3, h4⟩ := hnear v ((hin v).2 ⟨List.mem_of_getElem? hj, hcomp⟩)
    rw [h1]
    exact ⟨Nat.le_trans (Nat.le_sub_one_of_lt (List.getElem?_eq_some_iff.1 h3).1) hlen,
      fun hv0 hk => (hcomp.elim (absurd · hk) (absurd hv0 ·)), rep, h3, h4⟩
  · -- a zero height / depth / italic correction: index 0, entry 0 is zero
    have hv0 : v = 0 := Classical.byContradiction fun h => hcomp (.inr h)
    rw [hkeys v (fun h => hcomp ((hin v).1 h).2), hv0]
    refine ⟨Nat.zero_le _, fun _ _ => rfl, 0, ?_,
      Int.le_trans (by decide) (Int.add_nonneg hδ (Int.emod_nonneg δ (by decide)))⟩
    cases table with
    | nil => cases hhead
    | cons a t => exact hhead

example : remapDim 1 [0, 100, 200, 0, 300] = .ok ([0, 100, 200, 300], [0, 1, 2, 0, 3]) := by decide

/-- The exact guard of `to_scaled` for non-negative design sizes:
on `i32` words it returns a value (no assert, no overflow) if and only if `−16 ≤ v < 16`. -/
theorem to_scaled_defined_iff (v ds : Int) (hds0 : 0 ≤ ds) (hds1 : ds ≤ 2147483647)
    (hi0 : -2147483648 ≤ v) (hi1 : v ≤ 2147483647) :
    (toScaled v ds).isSome = true ↔ (-16777216 ≤ v ∧ v < 16777216) := by
  constructor
  · intro h
    apply Classical.byContradiction
    intro hn
    have := (to_scaled_guard v ds hi0 hi1 (by omega)).1
    rw [this] at h
    simp at h
  · intro ⟨h0, h1⟩
    obtain ⟨e, hs⟩ := to_scaled_eq_store_scaled v ds hds0 hds1 h0 h1
    rw [e]; exact hs

/-- Negative design sizes are outside TeX (§568 aborts below
1pt) and outside the property; the exact behaviour of the Rust code there: for
`−128pt ≤ design size < 0` (`z ∈ [−2^23, 0]`) and a legal word no overflow check fires (the
value is the same formula with truncating divisions); below that it can overflow (witness). -/
theorem to_scaled_negative_design_size (v ds : Int) (hds0 : -134217728 ≤ ds) (hds1 : ds < 0)
    (h0 : -16777216 ≤ v) (h1 : v < 16777216) : (toScaled v ds).isSome = true := by
  obtain ⟨r, _, e⟩ := toScaled_neg v ds hds0 hds1 h0 h1
  rw [e]; rfl

example : toScaled 1048576 (-1048576) = some (-65536) ∧ toScaled 16777215 (-2147483648) = none := by
  decide

/-- Sweep mutant 08 (`negative = true`): on every printed
fix_word the mutated sign loop of the reader decides exactly like the real one, so the property
(print, then read) cannot observe it; the `ps` stream (arbitrary text) does. -/
theorem sign_mutant_unobservable (v : Int) (hlo : -2147483648 ≤ v) (hhi : v ≤ 2147483647) :
    readSignsT (printFix v) false = readSigns (printFix v) false :=
  sign_mutant_all v

/-- Sweep mutant 02 (zero printed as `-0.0`): the reader returns the same word. -/
example : parseFix "R -0.0".toList = ⟨0, .none⟩ ∧ parseFix (plText 0) = ⟨0, .none⟩ := by decide

/-- Sweep mutant 23 (`buffer.len() > max_size + 1`): a candidate pass
of `compress` whose early `break` comes `extra` intervals later returns the same solution (and
`delta_lower`) whenever the real pass finds one, and says "not a solution" exactly when the
real pass does, with a `delta_upper` not above the real one. So the binary search is asked the
same question at every step; the mutant only does more work. -/
theorem late_break_equivalent (extra : Nat) (delta : Int) (maxSize : Nat) (l : List Int)
    (start dlo dhi : Int) (cur : List Int) (done : List (List Int)) :
    (∀ cls d, passLoop delta maxSize l start dlo dhi cur done = .sol cls d →
      passLoopL extra delta maxSize l start dlo dhi cur done = .sol cls d) ∧
    (∀ d, passLoop delta maxSize l start dlo dhi cur done = .fail d →
      ∃ d', passLoopL extra delta maxSize l start dlo dhi cur done = .fail d' ∧ d' ≤ d) := by
  have h := passLoopL_mono (Nat.zero_le extra) delta maxSize l start dlo dhi cur done
  rw [passLoopL_zero] at h
  exact ⟨fun cls d e => by rw [e] at h; exact h, fun d e => by rw [e] at h; exact h⟩

end C17
