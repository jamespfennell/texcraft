import TexcraftModel.Lemmas.C16Seq

/-! C16: about the model of `crates/dvi` (`Model/C16.lean`). `de` inverts `ser` on well-formed
operations and sequences; on arbitrary bytes `de` returns values of the Rust types in no more bytes
than it read; `varRemove` keeps the position and font of every character and rule, against a tracker
written from the DVI standard (`Values.toTrack` and `SamePos`, defined here, tie `Values` to it);
the whole `normalize` pipeline reads back; the model's unbounded positions are `i32` while the
total movement is. -/
namespace C16

theorem de_ser (op : Op) (rest : List Nat) (hwf : op.WF) (hok : okBefore op rest) :
    de (ser op ++ rest) = .ok (some (op, rest)) := by
  obtain ⟨opc, bs, heq, hlt, hde⟩ := ser_decodes op rest hwf hok
  rw [heq, List.cons_append, de]
  simp only [if_neg (Nat.not_le.2 hlt), hde]

/-- Every serialised operation occupies at least one byte. -/
theorem ser_ne_nil (op : Op) (hwf : op.WF) : ser op ≠ [] := by
  obtain ⟨opc, bs, heq, -⟩ := ser_decodes op [] hwf (okBefore_nil op)
  rw [heq]
  exact List.cons_ne_nil _ _

/-- Sequences: the `Deserializer` iterator returns exactly the operations that were serialised,
reports no error, and (since it stops only at the end of the data) consumes every byte. -/
theorem de_ser_seq (ops : List Op) (h : SeqWF ops) :
    deserialize (serAll ops) = (ops, none) :=
  deAll_serAll ops h _ (Nat.lt_succ_self _)

theorem rdU_length {n : Nat} {b : List Nat} {u : Nat} {t : List Nat}
    (h : rdU n b = some (u, t)) : t.length ≤ b.length := by
  unfold rdU at h
  split at h
  case h_5 => cases h
  all_goals
    cases h
    simp only [List.length_cons]
    omega

/-- The model's reader returns a value in every case — an operation with the unread tail, end of
data, or one of the two documented errors (there is no other constructor and no partiality:
`de` is a total function; every slice access of the Rust code is a `split_at_checked` here) —
and a successful read consumes at least the op code. This is what makes the iterator finite. -/
theorem de_progress (b : List Nat) (op : Op) (rest : List Nat)
    (h : de b = .ok (some (op, rest))) : ∃ opc t, b = opc :: t ∧ opc < 250 := by
  cases b with
  | nil => simp [de] at h
  | cons opc t =>
    refine ⟨opc, t, rfl, ?_⟩
    unfold de at h
    simp only at h
    split at h
    · cases h
    · omega

/-- Errors are exactly the documented ones and carry the offending op code. -/
theorem de_error (b : List Nat) (e : Err) (h : de b = .error e) :
    ∃ opc t, b = opc :: t ∧ ((250 ≤ opc ∧ e = .invalidOpCode opc) ∨ (opc < 250 ∧ e = .truncated opc)) := by
  cases b with
  | nil => simp [de] at h
  | cons opc t =>
    refine ⟨opc, t, rfl, ?_⟩
    unfold de at h
    simp only at h
    split at h
    · left; refine ⟨by assumption, ?_⟩; cases h; rfl
    · right
      refine ⟨by omega, ?_⟩
      split at h
      · cases h
      · cases h; rfl

/-- The tracker state that `Values` represents. -/
def Values.toTrack (s : Values) : Track :=
  let conv (t : StackValues) : Pos × Int × Int × Int × Int := ({ h := t.h, hc := t.hChars, v := t.v }, t.w, t.x, t.y, t.z)
  { pos := (conv s.top).1, w := s.top.w, x := s.top.x, y := s.top.y, z := s.top.z, f := s.f,
    stack := s.tail.map conv }

/-- Two tracker states that agree on everything a variable-free stream can observe. -/
def SamePos (a b : Track) : Prop :=
  a.pos = b.pos ∧ a.f = b.f ∧ a.stack.map (·.1) = b.stack.map (·.1)

/-- `Values::update` is the DVI tracker (so what `VarRemover` reads out of it is the real
value of the variable at that point). -/
theorem update_toTrack (s : Values) (op : Op) :
    (s.update op).toTrack = (s.toTrack.step op).1 := by
  cases op with
  | typesetChar c m => cases m <;> rfl
  | typesetRule h w m => cases m <;> rfl
  | pop => obtain ⟨f, top, tail⟩ := s; cases tail <;> rfl
  | move v => cases v <;> rfl
  | setVar v i => cases v <;> rfl
  | _ => rfl

/-- One step of the remover against one step of the original, from related states. -/
theorem removeStep_sim (s : Values) (t : Track) (op : Op) (hrel : SamePos s.toTrack t) :
    let r := removeStep s op
    (s.toTrack.step op).2 = (t.step r.2).2 ∧ SamePos r.1.toTrack (t.step r.2).1 := by
  show _ = (t.step (removeStep s op).2).2 ∧ SamePos (removeStep s op).1.toTrack _
  rw [removeStep_fst, update_toTrack]
  -- With the shared components of `t` replaced by those of `s.toTrack`, both trackers compute
  -- the same mark and the same position, font and stacked positions in every case.
  obtain ⟨pt, wt, xt, yt, zt, ft, st⟩ := t
  obtain ⟨rfl, rfl, hst⟩ : s.toTrack.pos = pt ∧ s.toTrack.f = ft ∧ _ := hrel
  cases op with
  | typesetChar c m => cases m <;> exact ⟨rfl, rfl, rfl, hst⟩
  | typesetRule h w m => cases m <;> exact ⟨rfl, rfl, rfl, hst⟩
  | beginPage ps p => exact ⟨rfl, rfl, rfl, rfl⟩
  | push => exact ⟨rfl, rfl, rfl, congrArg (_ :: ·) hst⟩
  | pop =>
    obtain ⟨f, top, tail⟩ := s
    cases tail with
    | nil =>
      cases st with
      | nil => exact ⟨rfl, rfl, rfl, rfl⟩
      | cons b st => cases hst
    | cons a tail =>
      cases st with
      | nil => cases hst
      | cons b st =>
        obtain ⟨pb, wb, xb, yb, zb⟩ := b
        obtain ⟨rfl, hst'⟩ := List.cons.inj hst
        exact ⟨rfl, rfl, rfl, hst'⟩
  | move v => cases v <;> exact ⟨rfl, rfl, rfl, hst⟩
  | setVar v i => cases v <;> exact ⟨rfl, rfl, rfl, hst⟩
  | _ => exact ⟨rfl, rfl, rfl, hst⟩

theorem varRemoveFrom_marks (ops : List Op) (s : Values) (t : Track) (hrel : SamePos s.toTrack t) :
    marksFrom t (varRemoveFrom s ops) = marksFrom s.toTrack ops := by
  induction ops generalizing s t with
  | nil => rfl
  | cons op ops ih =>
    obtain ⟨h1, h2⟩ := removeStep_sim s t op hrel
    rw [removeStep_fst] at h2
    rw [varRemoveFrom_cons, marksFrom, marksFrom, ← h1, ih _ _ h2, update_toTrack]

/-- **Positions are preserved**: the page position (integer part and the (char, font) list whose
widths are added to `h`), the vertical position and the font of every typeset character and
rule are the same before and after the rewrite — for every operation sequence, balanced or
not, across pages. -/
theorem var_remove_positions (ops : List Op) : positions (varRemove ops) = positions ops :=
  varRemoveFrom_marks ops {} {} ⟨rfl, rfl, rfl⟩

theorem varRemoveFrom_length (ops : List Op) (s : Values) :
    (varRemoveFrom s ops).length = ops.length := by
  induction ops generalizing s with
  | nil => rfl
  | cons op ops ih => rw [varRemoveFrom_cons, List.length_cons, List.length_cons, ih]

/-- **No variables remain.** -/
theorem var_remove_no_vars (ops : List Op) : ∀ op ∈ varRemove ops, op.isVar = false :=
  varRemoveFrom_no_vars ops {}

/-- **Every other operation is unchanged, in place**: the output has the same length and
differs from the input only at the indices that held a `Move`/`SetVar`. -/
theorem var_remove_others (ops : List Op) :
    (varRemove ops).length = ops.length ∧
    ∀ i (h : i < ops.length), ops[i].isVar = false → (varRemove ops)[i]? = some ops[i] := by
  refine ⟨varRemoveFrom_length ops {}, fun i h hv => ?_⟩
  rw [varRemove, varRemoveFrom_getElem?, List.getElem?_eq_getElem h, Option.map_some,
    removeStep_snd_of_isVar_false hv]

/-- Whatever `de` returns from a byte string is a value of the Rust field types (so it is in the
domain of `de_ser`), the unread tail is again a byte string, and an `EndPostamble` has absorbed
every 223 byte after it. -/
theorem de_returns_values (b : List Nat) (hb : bytesOK b) (op : Op) (rest : List Nat)
    (h : de b = .ok (some (op, rest))) : op.WF ∧ bytesOK rest ∧ okBefore op rest :=
  have g := de_good hb h
  ⟨g.wf, g.bytes, g.ok⟩

/-- **Minimal-width encodings**: for every encoding of an operation that the reader accepts
(1-, 2-, 3- or 4-byte operand forms, long forms of small characters and fonts), the writer's
encoding of that operation is at most as long. -/
theorem ser_minimal_width (b : List Nat) (hb : bytesOK b) (op : Op) (rest : List Nat)
    (h : de b = .ok (some (op, rest))) : (ser op).length + rest.length ≤ b.length :=
  (de_good hb h).len

/-- **`dvitools normalize`, end to end.** Take any byte string; let `ops` be what the
`Deserializer` iterator reads from it (up to the first error, if any). If no `EndPostamble` in
`ops` is directly followed by `EnableFont 52` (finding C16-a: that pair cannot be written back),
then the bytes written by `serialize(VarRemover(ops))` deserialise — completely and without
error — to exactly `VarRemover(ops)`, which contains no w/x/y/z operation and places every
character and rule where `ops` placed it, in the same font. -/
theorem normalize_bytes (b : List Nat) (hb : bytesOK b) (ops : List Op) (e : Option Err)
    (hd : deserialize b = (ops, e)) (h52 : Post52Free ops) :
    deserialize (serAll (varRemove ops)) = (varRemove ops, none)
      ∧ positions (varRemove ops) = positions ops
      ∧ (∀ op ∈ varRemove ops, op.isVar = false) := by
  have hwf : AllWF (deserialize b).1 := deAll_allWF _ b hb
  rw [hd] at hwf
  have hwf' : AllWF (varRemove ops) := varRemoveFrom_allWF ops {} Values.fits_init hwf
  have hp' : Post52Free (varRemove ops) := varRemoveFrom_post52Free ops {} h52
  exact ⟨de_ser_seq _ (seqWF_of _ hwf' hp'), var_remove_positions ops, var_remove_no_vars ops⟩

/-- Normalising twice is normalising once (operation level and, under the hypothesis of
`normalize_bytes`, byte level). -/
theorem normalize_idempotent (ops : List Op) : varRemove (varRemove ops) = varRemove ops :=
  varRemoveFrom_eq_self _ _ (var_remove_no_vars ops)

/-- `dvi::Values` adds on `i32`. If the movements of a stream sum, in absolute value, to less than
2^31 (`runMag`, evaluated by the driver per case), then after every prefix of the stream every
`h` and `v` held by the tracker — current level and every stacked level — is an `i32`: no `+=`
of the Rust code overflows, so the model's `Int` positions *are* the code's. (Beyond that bound
a checked build panics and an unchecked one wraps; such streams are outside the quantifier.) -/
theorem positions_within_i32 (ops : List Op) (h : runMag {} ops < 2147483648) :
    ∀ k, k ≤ ops.length →
      let s := (ops.take k).foldl Values.update {}
      (fitsI32 s.top.h ∧ fitsI32 s.top.v) ∧ ∀ t ∈ s.tail, fitsI32 t.h ∧ fitsI32 t.v := by
  intro k hk
  obtain ⟨a, c⟩ := run_within ops {} 0 ⟨⟨Nat.le_refl 0, Nat.le_refl 0⟩, fun _ ht => nomatch ht⟩ k hk
  rw [Nat.zero_add] at a c
  exact ⟨a.fits h, fun t ht => (c t ht).fits h⟩

/-! ## Non-vacuity: the hypotheses are met by concrete, non-trivial instances -/

example : SeqWF [.preamble 2 25400000 473628672 1000 [84, 101, 88], .beginPage [1,0,0,0,0,0,0,0,0,0] (-1),
    .push, .right (-8388609), .setVar .W 32768, .typesetChar 200 true, .move .W, .pop,
    .typesetRule 26214 (-65536) false, .endPage, .endPostamble 2 100 4] := by
  simp [SeqWF, Op.WF, okBefore, fitsI32, fitsU32, bytesOK, serAll]

/-- The boundary that the `okBefore`/`SeqWF` hypothesis excludes is real: an `EndPostamble`
followed by `EnableFont 52` does not round-trip (the 223 byte is absorbed). -/
example : deserialize (serAll [.endPostamble 2 0 0, .enableFont 52]) = ([.endPostamble 2 0 1], none) := by
  decide

example : positions (varRemove [.setVar .W 5, .push, .setVar .Y 3, .typesetChar 65 true, .pop, .move .W,
    .typesetChar 66 false]) = positions [.setVar .W 5, .push, .setVar .Y 3, .typesetChar 65 true, .pop, .move .W,
    .typesetChar 66 false] := by decide

def exampleBytes : List Nat :=
  [247, 2, 0, 0, 0, 1, 0, 0, 0, 1, 0, 0, 3, 232, 0,
   139, 0,0,0,1, 0,0,0,0, 0,0,0,0, 0,0,0,0, 0,0,0,0, 0,0,0,0, 0,0,0,0, 0,0,0,0, 0,0,0,0, 0,0,0,0, 255,255,255,255,
   141, 149, 0, 5, 128, 65, 147, 235, 52, 137, 0,0,0,1, 0,0,0,2,
   139, 0,0,0,2, 0,0,0,0, 0,0,0,0, 0,0,0,0, 0,0,0,0, 0,0,0,0, 0,0,0,0, 0,0,0,0, 0,0,0,0, 0,0,0,0, 0,0,0,15,
   142, 152, 66, 140, 249, 2, 0,0,0,0, 223, 223, 223, 223]

/-- `normalize_bytes` on a concrete stream with non-minimal encodings, variables, an unbalanced
push across a page start and trailing padding: the hypotheses hold, and the output differs from
the input bytes. -/
example : bytesOK exampleBytes ∧ (deserialize exampleBytes).2 = none ∧
    Post52Free (deserialize exampleBytes).1 ∧
    serAll (varRemove (deserialize exampleBytes).1) ≠ exampleBytes := by
  decide +kernel

/-- `runMag` adds absolute movements, also those a `pop` undoes: this stream never leaves `i32`
and is still outside the hypothesis of `positions_within_i32`. -/
example : runMag {} [.right 2147483647, .push, .setVar .W (-2147483647), .move .W, .pop, .down (-5)] = 6442450946 := by
  decide +kernel
/-- The hypothesis is met at a total movement of `2^31 - 1`… -/
example : runMag {} [.right 1073741823, .down (-1073741824)] < 2147483648 := by decide +kernel
/-- …and the bound is sharp: one more unit and a position leaves `i32`. -/
example : ¬ fitsI32 (([.right 2147483647, .right 1] : List Op).foldl Values.update {}).top.h := by
  decide +kernel

end C16
