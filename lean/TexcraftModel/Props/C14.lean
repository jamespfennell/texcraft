import TexcraftModel.Lemmas.C14
import TexcraftModel.Lemmas.C14Words
import TexcraftModel.Lemmas.C14Recon
import TexcraftModel.Lemmas.C14Total
import TexcraftModel.Lemmas.C14List

/-!
Three layers. Word discovery and the hyphen minimums are proved against declarative specifications.
Conservation of the text follows from two decidable invariants P1, P2 that the driver evaluates on every
real output. For the ligature reconstitution (TeX §903–§918 as coded) there is an executable model over an
abstract lig/kern engine (`Model/C14Recon.lean`), about which P1, P2, conservation, the exact positions
and totality are proved, for one word and for the whole pass (`C14_model_statement`); the real output is
compared with the model's per run (`notes/C14.md`). `C14_full_statement` (a `def`) is NOT proved.
-/
namespace C14

/-- **Word discovery is complete and exact.** For every horizontal list, the words the fixed
code tries (`findWords`: the `while` loop of `hyphenate_impl` with its index juggling — start at
a glue, step over non-letters / font kerns / whatsits, accumulate a same-font run of at most 63
letters, test the terminating node, resume after the word or after the failed search) are, in
order, exactly the words `specAt` describes for each glue node on its own: the first letter
after the glue and any skippable nodes, the longest run of word nodes of that font with at most
63 letters, rejected only if a box, rule, discretionary or math node follows the run's trailing
characters. The fuel given by `findWords` suffices (`scan_eq_specFrom` holds for any larger fuel). -/
theorem discovery_complete (l : List Item) : findWords l = specWords l := by
  rw [specWords_eq]
  exact scan_eq_specFrom (l.length + 1) 0 l (Nat.lt_succ_self _)

/-- Corollary (this is what C14-a violates): every glue node of the list — also one that ends
the unsuccessful search started at an earlier glue, as after the letterless token `3.0` — gets
its own search, and the word found for it is tried. -/
theorem every_glue_gets_its_word (l : List Item) (g : Nat) (w : Word) (hg : g < l.length)
    (hw : specAt g (l.drop g) = some w) : w ∈ findWords l := by
  rw [discovery_complete]
  simp only [specWords, List.mem_filterMap, List.mem_range]
  exact ⟨g, hg, hw⟩

/-- `x 3.0 Contents` (cmr10: `x glue 3 . 0 glue C o n kern t e n kern t s`). -/
private def exContents : List Item :=
  [.char 120 0, .other .glue [1], .char 51 0, .char 46 0, .char 48 0, .other .glue [1],
   .char 67 0, .char 111 0, .char 110 0, .kern 0 (-18205), .char 116 0, .char 101 0, .char 110 0,
   .kern 0 (-18205), .char 116 0, .char 115 0]

/-- The fixed code tries `Contents` … -/
example : findWords exContents = [⟨6, 10, 0, [67, 111, 110, 116, 101, 110, 116, 115]⟩] := by decide
example : specAt 5 (exContents.drop 5) = some ⟨6, 10, 0, [67, 111, 110, 116, 101, 110, 116, 115]⟩ := by decide
/-- … the code before `fixes/C14-a.patch` (its `Abort` arm consumes the aborting glue) does not:
`discovery_complete` is FALSE for the faithful model of the unpatched code. -/
example : findWordsPrefix exContents = [] := by decide
example : findWordsPrefix exContents ≠ specWords exContents := by decide

/-- Other branches, concretely: a word is not tried before an hbox, a 64-letter run is cut at 63,
a font change ends the word. -/
example : findWords [.other .glue [], .char 97 0, .char 98 0, .other .hbox []] = [] := by decide
example : findWords [.other .glue [], .char 97 0, .char 98 1, .other .penalty [0]]
    = [⟨1, 1, 0, [97]⟩] := by decide
example : (findWords (.other .glue [] :: List.replicate 64 (.char 97 0))).map (fun w => (w.nodes, w.letters.length))
    = [(63, 63)] := by decide

/-- `IndexIter` (as coded: a recursive `next` that skips) with `min = max(1,lhm)` and
`max = len.saturating_sub(max(1,rhm))` yields exactly the raw Liang positions that leave at
least `max 1 lhm` letters before and `max 1 rhm` letters after the break, in order. For every
`lhm`, `rhm` (negative and zero included), every length and every raw list. -/
theorem index_iter_spec (lhm rhm : Int) (len : Nat) (raw : List Nat) :
    wordPositions lhm rhm len raw = specPositions lhm rhm len raw :=
  wordPositions_eq_specPositions lhm rhm len raw

example : wordPositions 2 3 9 [1, 3, 5, 7, 8] = [3, 5] := by decide
example : wordPositions 0 (-4) 4 [0, 1, 2, 3, 4] = [1, 2, 3] := by decide
example : wordPositions 2 3 4 [1, 2, 3] = [] := by decide

/-- **Conservation meta-theorem.** Let `marks` select nodes of the output `out`. If
P1 (the marked nodes are discretionaries and deleting them gives the input `inp` back, node for
node) and P2 (at each marked discretionary the pre-break letters minus the hyphen followed by the
post-break letters are the letters of the `replace_count` original nodes it covers) hold, then
for EVERY choice `taken` of breaks the text rendered from the output carries exactly the letters
of the input, in order. P1 and P2 are the decidable checks the driver runs on every real output. -/
theorem disc_invariants_conserve (marks taken : List Bool) (out inp : List Item)
    (h1 : P1 marks out inp = true) (h2 : P2 marks out = true) (hl : taken.length = out.length) :
    render marks taken out 0 = lettersL inp := by
  obtain ⟨-, rfl⟩ := P1_iff.mp h1
  have := render_invariant out marks taken 0 h2 hl (by omega) (by simp)
  simpa [lettersL_nil] using this

/-- What one validated run establishes: if the driver's alignment of the real output against the
input succeeds and P2 holds for it, then whatever breaks the line breaker takes, the text is the
input's. (`align` succeeding already implies P1: `align_sound`.) -/
theorem validated_run_conserves (out inp : List Item) (marks taken : List Bool)
    (ha : align inp out = some marks) (h2 : P2 marks out = true) (hl : taken.length = out.length) :
    render marks taken out 0 = lettersL inp :=
  disc_invariants_conserve marks taken out inp (align_sound out inp marks ha) h2 hl

/-- The property at full strength, for a function `impl lhm rhm liang inp` standing for
`Hyphenator::hyphenate` (`liang` = the raw Liang positions of a word): some marking of the
output satisfies P1 and P2 and the inserted discretionaries offer exactly the allowed positions
of the words of `specWords`. **Not proved** for the real code: `C14_model_statement` proves its
counterpart for the model of the reconstitution (`Model/C14Recon.lean`). The driver evaluates the body
of this statement on every real output instead (request `chk` of `Driver/C14.lean`), with the exceptions listed as known findings
C14-f, C14-g (P1 near word boundaries) and C14-h (positions skipped while synchronising). -/
def C14_full_statement (impl : Int → Int → (List Nat → List Nat) → List Item → List Item) : Prop :=
  ∀ (lhm rhm : Int) (liang : List Nat → List Nat) (inp : List Item),
    ∃ marks : List Bool,
      P1 marks (impl lhm rhm liang inp) inp = true ∧ P2 marks (impl lhm rhm liang inp) = true ∧
      ((discPositions marks (impl lhm rhm liang inp) 0).map (·.1)).Perm
        (expectedPositions inp (specWords inp)
          ((specWords inp).map (fun w => specPositions lhm rhm w.letters.length (liang w.letters))))

/-- With no break taken nothing at all changed: P1 is literally "delete the inserted
discretionaries and get the input, node for node". -/
theorem p1_unbroken (marks : List Bool) (out inp : List Item) (h1 : P1 marks out inp = true) :
    erase marks out = inp :=
  (P1_iff.mp h1).2

/-- Non-vacuity: "dif-fi-cult" in cmr10 as the real pass leaves it (`di`, disc(`f-`|`fi`|1),
lig `ffi`, disc(`-`||0), `cult`); both breaks, one, or none taken. -/
private def exOut : List Item :=
  [.char 100 0, .char 105 0,
   .disc [.char 102 0, .char 45 0] [.lig 12 0 [102, 105] false false] 1,
   .lig 14 0 [102, 102, 105] false false,
   .disc [.char 45 0] [] 0,
   .char 99 0, .char 117 0, .char 108 0, .char 116 0]
private def exInp : List Item :=
  [.char 100 0, .char 105 0, .lig 14 0 [102, 102, 105] false false,
   .char 99 0, .char 117 0, .char 108 0, .char 116 0]
private def exMarks : List Bool := [false, false, true, false, true, false, false, false, false]

example : align exInp exOut = some exMarks := by decide
example : P1 exMarks exOut exInp = true ∧ P2 exMarks exOut = true := by decide
example : render exMarks [false, false, true, false, true, false, false, false, false] exOut 0
    = [100, 105, 102, 102, 105, 99, 117, 108, 116] := by decide
/-- P2 is not vacuous: a post-break that loses the `i` is rejected. -/
example : P2 [true, false] [.disc [.char 102 0, .char 45 0] [.char 102 0] 1, .lig 14 0 [102, 102, 105] false false] = false := by
  decide

/-! ## The reconstitution model (`Model/C14Recon.lean`)

`rebuildWord eng font s rbo dlb pos` transcribes l.290–553 of `hyphenate_impl` over an abstract
lig/kern engine `eng` (`run` = `run_with_options` with `is_separation_point()` after every item,
`hasRepl` = `has_replacement`). The only law of the engine the theorems need is C05's `spell`
(`EngineOK`); `c05_engine_ok` shows that C05's model of a compiled program has it for every
program, also with `right_boundary_override` and `disable_left_boundary`. `none` = the Rust code
would panic or not terminate; the theorems are about the runs that return. -/

/-- The engine built from C05's model of `CompiledProgram::compile` + `RunIter` satisfies the law,
for every lig/kern program (loops, redirects, boundary rules, anything). -/
theorem c05_engine_ok (p : C05.Program) : EngineOK (engineOfProgram p) :=
  engineOf_ok _ _ (C05.table_good p)

/-- **P1 for the model.** For every engine that spells, every word `s`, every list of positions
(sorted or not, in range or not), every option combination: if the rebuilding returns, then the
marked nodes of its output are discretionaries, and deleting them gives the main run of the word
(`run_with_options(s, {dlb, rbo})`), node for node. -/
theorem reconstitute_P1 (eng : Engine) (he : EngineOK eng) (font : Nat) (s : List Nat) (rbo : Option Nat)
    (dlb : Bool) (pos : List Nat) (out : List (Item × Bool))
    (h : rebuildWord eng font s rbo dlb pos = some out) :
    P1 (out.map (·.2)) (out.map (·.1)) (((eng.run dlb rbo s).map (·.1)).map (toItem font)) = true := by
  have g := (rebuildWord_spec he font s rbo dlb pos out h).1
  exact P1_iff.mpr ⟨g.amd, g.erased⟩

/-- **P2 for the model.** Under the same hypotheses: at every inserted discretionary the pre-break
letters end with the hyphen, and without it, followed by the post-break letters, they are the
letters of the `replace_count` nodes the discretionary covers, which are original nodes inside the
word's output. This is the invariant of the three lock-stepped runs: `start_of_separation_point ≤
hyphen ≤ chars_pushed`, the post-break run has consumed `chars_pushed − hyphen` characters when
the synchronisation loop exits, and every run spells its input. -/
theorem reconstitute_P2 (eng : Engine) (he : EngineOK eng) (font : Nat) (s : List Nat) (rbo : Option Nat)
    (dlb : Bool) (pos : List Nat) (out : List (Item × Bool))
    (h : rebuildWord eng font s rbo dlb pos = some out) :
    P2 (out.map (·.2)) (out.map (·.1)) = true :=
  (rebuildWord_spec he font s rbo dlb pos out h).1.p2

/-- **Conservation for the model**, for every subset of breaks: whatever discretionaries of the
rebuilt word the line breaker takes, the reader sees the letters of the word. -/
theorem reconstitute_conserves (eng : Engine) (he : EngineOK eng) (font : Nat) (s : List Nat) (rbo : Option Nat)
    (dlb : Bool) (pos : List Nat) (out : List (Item × Bool)) (taken : List Bool)
    (h : rebuildWord eng font s rbo dlb pos = some out) (hl : taken.length = out.length) :
    render (out.map (·.2)) taken (out.map (·.1)) 0 = s := by
  have := disc_invariants_conserve _ taken _ _ (reconstitute_P1 eng he font s rbo dlb pos out h)
    (reconstitute_P2 eng he font s rbo dlb pos out h) (by simpa using hl)
  rw [this, lettersL_toItem, he.spell]

/-- **Positions of the model, exactly (this is C14-h).** Let `T` be the triples (break position,
first letter covered, end of the covered span) read off the discretionaries of the rebuilt word.
For every engine that spells, strictly ascending positions `1 ≤ p ≤ |s|` (what `IndexIter` yields
from Liang's ascending list, `wordPositions_sorted_range`): the break positions of the inserted
discretionaries are, in order, exactly the allowed positions that are **not strictly inside the
tail of an earlier discretionary's span** — `p` is skipped iff some discretionary with break
`q < p` had to synchronise beyond `p` (`p < span end`): overlapping ligatures forced the main and
the post-break run past `p` before both sat at a separation point with equal character counts.
A position equal to the span end is not skipped (TeX §914's inner loop). In particular no
discretionary sits at a position that is not allowed, and when no synchronisation runs past an
allowed position every allowed position has its discretionary. -/
theorem positions_exact (eng : Engine) (he : EngineOK eng) (font : Nat) (s : List Nat) (rbo : Option Nat)
    (dlb : Bool) (pos : List Nat) (out : List (Item × Bool))
    (hsorted : pos.Pairwise (· < ·)) (hrange : ∀ p ∈ pos, 1 ≤ p ∧ p ≤ s.length)
    (h : rebuildWord eng font s rbo dlb pos = some out) :
    (discPositions (out.map (·.2)) (out.map (·.1)) 0).map (·.1)
      = pos.filter (fun p => !coveredBy (discPositions (out.map (·.2)) (out.map (·.1)) 0) p) :=
  (List.map_id' pos) ▸ ((rebuildWord_spec he font s rbo dlb pos out h).2 hsorted hrange 0).1.eq

/-- The hypotheses of `positions_exact` hold for what the code feeds the loop: `IndexIter` applied
to a strictly ascending raw list (Liang positions are produced in ascending order). -/
theorem wordPositions_sorted_range (lhm rhm : Int) (len : Nat) (raw : List Nat)
    (hraw : raw.Pairwise (· < ·)) :
    (wordPositions lhm rhm len raw).Pairwise (· < ·) ∧
      ∀ p ∈ wordPositions lhm rhm len raw, 1 ≤ p ∧ p ≤ len := by
  have h := wordPositions_ok lhm rhm len raw hraw
  exact ⟨h.1, fun p hp => ⟨(h.2 p hp).1, Nat.le_of_lt (h.2 p hp).2⟩⟩

/-- C05's engine ends every run at a separation point (nothing pending when the iterator is
exhausted), for every program. -/
theorem c05_engine_sep (p : C05.Program) : EngineSep (engineOfProgram p) :=
  engineOf_sep _ _ (C05.table_good p)

/-- **No panic, no hang.** For every engine that spells and ends its runs at a separation point,
every word and strictly ascending positions `1 ≤ p < |s|`: the rebuilding returns — none of the
slices `s[ssp..hyph]` is out of range, `out.len() - elements_since_separation_point` never
underflows, and the synchronisation loop (which would spin for ever if it asked an exhausted
iterator to advance) terminates. -/
theorem reconstitute_total (eng : Engine) (he : EngineOK eng) (hl : EngineSep eng) (font : Nat) (s : List Nat)
    (rbo : Option Nat) (dlb : Bool) (pos : List Nat)
    (hsorted : pos.Pairwise (· < ·)) (hrange : ∀ p ∈ pos, 1 ≤ p ∧ p < s.length) :
    ∃ out, rebuildWord eng font s rbo dlb pos = some out := by
  simp only [rebuildWord]
  obtain ⟨w', hw'⟩ := wordLoop_total (font := font) (rbo := rbo) he hl ((eng.run dlb rbo s).length + 1)
    { out := [], cp := 0, esp := 0, ssp := 0, pos := pos, main := ⟨eng.run dlb rbo s, true⟩ }
    ⟨by simp [restChars, countChars_eq, he.spell], hl.lastSep dlb rbo s, by simp, by simp, hsorted,
      fun p hp => (hrange p hp).2⟩
    (fun p hp => (hrange p hp).1) (Nat.le_refl _)
  exact ⟨w'.out, by rw [hw']; rfl⟩

/-- The whole pass of the model returns, for every list, every hyphen minimums and every
ascending source of Liang positions. -/
theorem hyphenateM_total (eng : Engine) (he : EngineOK eng) (hl : EngineSep eng) (lhm rhm : Int)
    (liang : List Nat → List Nat) (hliang : ∀ s, (liang s).Pairwise (· < ·)) (l : List Item) :
    ∃ out, hyphenateM eng lhm rhm liang l = some out := by
  -- every word is rebuilt: its positions ascend and leave a letter on either side
  obtain ⟨o, ho⟩ := pass_total (rebuildWord eng) (tried lhm rhm liang)
    (fun f s rbo dlb =>
      have hw := wordPositions_ok lhm rhm s.length (liang s) (hliang s)
      reconstitute_total eng he hl f s rbo dlb _ hw.1 hw.2)
    (pieces (tried lhm rhm liang) (l.length + 1) l)
  exact ⟨o.map (·.1), by rw [hyphenateM, hyphList, hyphListG_eq, ho]; rfl⟩

/-- **P1 and P2 for the whole pass of the model.** `hyphList` returns the list after the pass with
its inserted discretionaries marked. For every engine that spells, every list, minimums and
Liang source: the marked nodes are discretionaries, deleting them gives `unbrokenM` — the input
with every rebuilt word replaced by its main lig/kern run (equal to the input itself unless a
boundary artefact C14-f/g/i occurs; the driver evaluates `unbrokenM = input` per run) — and P2
holds at every inserted discretionary. -/
theorem hyphenateM_invariants (eng : Engine) (he : EngineOK eng) (lhm rhm : Int) (liang : List Nat → List Nat)
    (l : List Item) (out : List (Item × Bool)) (h : hyphList eng lhm rhm liang (l.length + 1) l = some out) :
    ∃ u, unbrokenM eng lhm rhm liang l = some u ∧
      P1 (out.map (·.2)) (out.map (·.1)) u = true ∧ P2 (out.map (·.2)) (out.map (·.1)) = true := by
  rw [hyphList, hyphListG_eq] at h
  obtain ⟨u, hu, g⟩ := pass_lift (rebuildWord eng) (mainRunWord eng)
    (fun f s rbo dlb pos w hw => ⟨_, rfl, (rebuildWord_spec he f s rbo dlb pos w hw).1⟩) _ out h
  refine ⟨u, ?_, P1_iff.mpr ⟨g.amd, g.erased⟩, g.p2⟩
  simp only [unbrokenM, hyphListG_eq, hu, Option.map_some]
  rw [show (unmarkedL u).map (·.1) = u from it_unmarkedL u]

/-- **Conservation for the whole pass of the model, relative to the INPUT.** Whatever subset of the
inserted discretionaries is taken, the text rendered from the model's output carries exactly the
letters of the input list — boundary artefacts included (they add or change ligature/kern nodes
but no letters). Together with the per-run check "real output = model output" (I = M, exact)
this is conservation for the real code on every checked run, as a consequence of the model's theorem
as well as of the evaluation of P1/P2 on that run. -/
theorem hyphenateM_conserves (eng : Engine) (he : EngineOK eng) (lhm rhm : Int) (liang : List Nat → List Nat)
    (l : List Item) (out : List (Item × Bool)) (taken : List Bool)
    (h : hyphList eng lhm rhm liang (l.length + 1) l = some out) (hl : taken.length = out.length) :
    render (out.map (·.2)) taken (out.map (·.1)) 0 = lettersL l := by
  obtain ⟨u, hu, hp1, hp2⟩ := hyphenateM_invariants eng he lhm rhm liang l out h
  rw [disc_invariants_conserve _ taken _ _ hp1 hp2 (by simpa using hl)]
  obtain ⟨o, ho, rfl⟩ := Option.map_eq_some_iff.mp hu
  rw [hyphListG_eq] at ho
  rw [pass_letters he _ o ho, pieces_letters]

/-- The hypothesis "Liang positions ascending" of `positions_exact`/`hyphenateM_total` holds for
C13's model of `hyphenate::Hyphenator::calculate_indices` (every pattern set, exception list,
lower-case map and word): the indices are the odd positions of the score vector, enumerated in
order. (For the real crate it is checked per run.) -/
theorem liang_ascending (h : C13.Hyph) (lc : Char → Option Char) (w : List Char) (l : List Nat)
    (hl : C13.calculateIndices h lc w = some l) : l.Pairwise (· < ·) := by
  simp only [C13.calculateIndices, Option.map_eq_some_iff] at hl
  obtain ⟨s, -, rfl⟩ := hl
  exact (List.pairwise_lt_range' 1).sublist (oddIdx_sublist s 0)

/-- Non-vacuity, the repository's `synchronization_2`: rules `ab→x bc→y cd→z de→w ef→v`, word
`abcdefgh`, allowed positions 1, 4, 6: the discretionary at 1 covers letters 0..6, position 4 is
skipped, position 6 (= the span end) gets its discretionary. -/
private def exSync : C05.Program :=
  { instrs := [⟨none, 98, .lig 120 .neither⟩, ⟨none, 99, .lig 121 .neither⟩, ⟨none, 100, .lig 122 .neither⟩,
               ⟨none, 101, .lig 119 .neither⟩, ⟨none, 102, .lig 118 .neither⟩],
    lbEntry := none, rb := none, entries := [(97, 0), (98, 1), (99, 2), (100, 3), (101, 4)], kerns := [] }

example : (rebuildWord (engineOfProgram exSync) 0 [97, 98, 99, 100, 101, 102, 103, 104] none true [1, 4, 6]).map
    (fun o => discPositions (o.map (·.2)) (o.map (·.1)) 0) = some [(1, 0, 6), (6, 6, 6)] := by decide

/-- Non-vacuity: `dif-fi-cult` with the rules `f f → ff`, `ff i → ffi`, `f i → fi` (as in cmr10). -/
private def exProg : C05.Program :=
  { instrs := [⟨some 0, 102, .lig 11 .neither⟩, ⟨none, 105, .lig 12 .neither⟩, ⟨none, 105, .lig 14 .neither⟩],
    lbEntry := none, rb := none, entries := [(102, 0), (11, 2)], kerns := [] }

example : (rebuildWord (engineOfProgram exProg) 0 [100, 105, 102, 102, 105, 99, 117, 108, 116] none true [3, 5]).map
    (fun o => o.map (·.1)) = some exOut := by decide

/-- Why mutant 25 (`mutants/C14/25-sync-exit-ignores-post-sep.diff`: exit test of the synchronisation loop written without
`post_break_iter.is_separation_point()`) is equivalent: for an engine whose runs end at a
separation point, the loop started by `hyphLoop` (post-break iterator fresh, hence at a separation
point) computes the same result with and without that conjunct, for every fuel. -/
theorem sync_post_sep_redundant (eng : Engine) (hl : EngineSep eng) (rbo : Option Nat) (text : List Nat)
    (fuel : Nat) (st : Sync) (hpost : st.post = ⟨eng.run false rbo text, true⟩) :
    syncNoPostSep fuel st = sync fuel st :=
  syncNoPostSep_eq fuel st (by rw [hpost]; exact hl.lastSep false rbo text) (by rw [hpost])

/-- `expectedM` (the allowed positions of all rebuilt words as absolute letter offsets, defined by
the traversal of the pass) is the list `chk` computes from `findWords` (= `specWords`,
`discovery_complete`) and `wordPositions` (= `specPositions`, `index_iter_spec`). -/
theorem expectedM_spec (lhm rhm : Int) (liang : List Nat → List Nat) (l : List Item) :
    expectedM lhm rhm liang l
      = expectedPositions l (specWords l)
          ((specWords l).map (fun w => specPositions lhm rhm w.letters.length (liang w.letters))) := by
  rw [expectedM_eq_specWords]
  congr 2
  funext w
  exact index_iter_spec _ _ _ _

/-- **Positions of the whole pass, exactly** (`positions_exact` lifted to the list): the break
positions of ALL inserted discretionaries of the model's output, as absolute letter offsets, are
in order exactly the allowed positions of all rebuilt words (`expectedM`) that are not strictly
inside the tail of an earlier discretionary's span. Every engine that spells, every list, every
minimums, every ascending Liang source. -/
theorem positions_exact_list (eng : Engine) (he : EngineOK eng) (lhm rhm : Int) (liang : List Nat → List Nat)
    (hliang : ∀ s, (liang s).Pairwise (· < ·)) (l : List Item) (out : List (Item × Bool))
    (h : hyphList eng lhm rhm liang (l.length + 1) l = some out) :
    (discPositions (out.map (·.2)) (out.map (·.1)) 0).map (·.1)
      = (expectedM lhm rhm liang l).filter
          (fun p => !coveredBy (discPositions (out.map (·.2)) (out.map (·.1)) 0) p) := by
  rw [hyphList, hyphListG_eq] at h
  rw [expectedM, expectedG_eq]
  exact (pass_posOK he (fun s => wordPositions_ok lhm rhm s.length (liang s) (hliang s)) _ out 0 h).eq

/-- P1 against the INPUT, under the decidable hypothesis that no rebuilt word deviates: if the
main lig/kern run of every rebuilt word reproduces its nodes (`unbrokenM = input`; the driver
evaluates this per run, `ub=1`, and names the shape of each deviation otherwise), deleting the
inserted discretionaries gives the input back node for node. -/
theorem hyphenateM_P1_input (eng : Engine) (he : EngineOK eng) (lhm rhm : Int) (liang : List Nat → List Nat)
    (l : List Item) (out : List (Item × Bool)) (h : hyphList eng lhm rhm liang (l.length + 1) l = some out)
    (hub : unbrokenM eng lhm rhm liang l = some l) :
    P1 (out.map (·.2)) (out.map (·.1)) l = true := by
  obtain ⟨u, hu, hp1, -⟩ := hyphenateM_invariants eng he lhm rhm liang l out h
  rw [hub] at hu
  cases hu
  exact hp1

/-- **The property for the model of the algorithm** (the proved counterpart of
`C14_full_statement`, with `impl` := `hyphList` over C05's engine): for every lig/kern program
(C05's quantifier: anything `compile` accepts, loops and redirects included), every hyphen
minimums, every ascending Liang source and every horizontal list, the pass returns a marked
list `out` such that
* P2 holds at every inserted discretionary;
* for EVERY subset of breaks taken the rendered letters are the input's letters;
* the discretionaries sit at exactly the allowed positions not swallowed by an earlier
  discretionary's synchronisation;
* if no rebuilt word's main run deviates from its nodes (`unbrokenM = input`, decidable), P1
  holds against the input. The hypothesis cannot be dropped: `example`s below refute P1 at the
  recorded shapes f, g, i, j. -/
theorem C14_model_statement (p : C05.Program) (lhm rhm : Int) (liang : List Nat → List Nat)
    (hliang : ∀ s, (liang s).Pairwise (· < ·)) (l : List Item) :
    ∃ out : List (Item × Bool),
      hyphList (engineOfProgram p) lhm rhm liang (l.length + 1) l = some out ∧
      P2 (out.map (·.2)) (out.map (·.1)) = true ∧
      (∀ taken : List Bool, taken.length = out.length →
        render (out.map (·.2)) taken (out.map (·.1)) 0 = lettersL l) ∧
      (discPositions (out.map (·.2)) (out.map (·.1)) 0).map (·.1)
        = (expectedM lhm rhm liang l).filter
            (fun q => !coveredBy (discPositions (out.map (·.2)) (out.map (·.1)) 0) q) ∧
      (unbrokenM (engineOfProgram p) lhm rhm liang l = some l →
        P1 (out.map (·.2)) (out.map (·.1)) l = true) := by
  have he := c05_engine_ok p
  obtain ⟨o, ho⟩ := hyphenateM_total (engineOfProgram p) he (c05_engine_sep p) lhm rhm liang hliang l
  simp only [hyphenateM, Option.map_eq_some_iff] at ho
  obtain ⟨out, hout, -⟩ := ho
  refine ⟨out, hout, ?_, ?_, ?_, ?_⟩
  · exact (hyphenateM_invariants _ he lhm rhm liang l out hout).choose_spec.2.2
  · intro taken hl
    exact hyphenateM_conserves _ he lhm rhm liang l out taken hout hl
  · exact positions_exact_list _ he lhm rhm liang hliang l out hout
  · exact hyphenateM_P1_input _ he lhm rhm liang l out hout

/-! ### The hypothesis `unbrokenM = input` cannot be dropped: the four recorded shapes -/

private def glue0 : Item := .other .glue []

/-- f (known finding C14-f, TeX-compatible and pinned by the repository's tests): `y. → y ,` —
`ay.` with the break `a-y`: the word is rebuilt with `.` standing in for the right boundary and a
second `,` ligature appears. -/
private def pF : C05.Program :=
  { instrs := [⟨none, 46, .lig 44 .leftNowhere⟩], lbEntry := none, rb := none, entries := [(121, 0)], kerns := [] }
private def inF : List Item := [glue0, .char 97 0, .char 121 0, .lig 44 0 [46] false false]
example : unbrokenM (engineOfProgram pF) 1 1 (fun _ => [1]) inF ≠ some inF := by decide
example : ∃ out, hyphList (engineOfProgram pF) 1 1 (fun _ => [1]) 5 inF = some out ∧
    P1 (out.map (·.2)) (out.map (·.1)) inF = false := ⟨_, rfl, by decide⟩

/-- g (stated boundary, TeX §903 `found2`): `|c → | - c` then `|- → kern`: the font kern stepped over
by the search is emitted a second time. -/
private def pG : C05.Program :=
  { instrs := [⟨some 0, 45, .kern 7⟩, ⟨none, 99, .lig 45 .bothNowhere⟩], lbEntry := some 0, rb := none,
    entries := [], kerns := [] }
private def inG : List Item :=
  [glue0, .kern 0 7, .lig 45 0 [] true false, .char 99 0, .char 97 0, .char 98 0]
example : unbrokenM (engineOfProgram pG) 1 1 (fun _ => [2]) inG ≠ some inG := by decide

/-- i (known finding C14-i, NOT TeX-compatible): `.a → . b`: the left context `.` of the word is
lost and the first letter comes back plain. -/
private def pI : C05.Program :=
  { instrs := [⟨none, 97, .lig 98 .leftInserted⟩], lbEntry := none, rb := none, entries := [(46, 0)], kerns := [] }
private def inI : List Item := [glue0, .char 46 0, .lig 98 0 [97] false false, .char 97 0]
example : unbrokenM (engineOfProgram pI) 1 1 (fun _ => [1]) inI ≠ some inI := by decide

/-- j (stated boundary, TeX §896/§903 `init_lft = false`): three chained left-boundary rules. -/
private def pJ : C05.Program :=
  { instrs := [⟨some 0, 97, .lig 120 .leftNowhere⟩, ⟨none, 120, .lig 45 .rightInserted⟩,
               ⟨none, 120, .lig 97 .bothInserted⟩],
    lbEntry := some 0, rb := none, entries := [(45, 2)], kerns := [] }
private def inJ : List Item :=
  [glue0, .lig 45 0 [] true false, .lig 97 0 [] false false, .lig 120 0 [97] false false, .char 97 0, .char 98 0]
example : unbrokenM (engineOfProgram pJ) 1 1 (fun _ => [1]) inJ ≠ some inJ := by decide

/-- Non-vacuity of the hypothesis: `dif-fi-cult`. -/
example : unbrokenM (engineOfProgram exProg) 2 3 (fun _ => [3, 5]) (glue0 :: exInp) = some (glue0 :: exInp) := by
  decide

end C14
