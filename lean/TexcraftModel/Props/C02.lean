import TexcraftModel.Lemmas.C02
import TexcraftModel.Lemmas.C02Kmp
import TexcraftModel.Lemmas.C02Def
import TexcraftModel.Lemmas.C02Stream
import TexcraftModel.Lemmas.C02DefInv

/-!
# C02 — macro parameters bind and substitute exactly as in TeX: the property statements

`M` = `Model/C02.lean` (`defParse`, `call`: transcriptions of `def.rs`, `texmacro.rs`,
`substringsearch.rs`, `parse/mod.rs`, with the trimming predicate of `fixes/C02-a.patch`);
`S` = the specification in the same file (`specDelim`, `specUndelim`, `stripSpec`,
`specExpand`: naive searches in the words of TeX §391–§401, independent of KMP, depth
counters and index arithmetic). All statements are for token lists of any length and
nesting depth.
-/
namespace C02

/-- `Matcher::new` never panics on a non-empty delimiter, and afterwards `Search::next`
never panics and returns `true` exactly when the delimiter is a suffix of the tokens fed
so far (any token sequence). -/
theorem matcher_correct (d : List Tok) (h : d ≠ []) :
    ∃ pf, Matcher.new? d = some ⟨d, pf⟩ ∧ MatcherOK ⟨d, pf⟩ :=
  kmp_correct d h

/-- `specDelim` returns the *shortest* brace-balanced run followed by the delimiter. -/
theorem spec_delimited_shortest {d inp a rest : List Tok} (h : specDelim d inp = some (a, rest)) :
    inp = a ++ d ++ rest ∧ Balanced a ∧
      ∀ a' rest', inp = a' ++ d ++ rest' → Balanced a' → a.length ≤ a'.length :=
  specDelim_spec h

/-- …and it finds one whenever there is one. -/
theorem spec_delimited_total {d a rest : List Tok} (hbal : Balanced a) :
    ∃ a' rest', specDelim d (a ++ d ++ rest) = some (a', rest') := by
  have key : ∀ (mid pre : List Tok), Balanced (pre ++ mid) →
      ∃ a' rest', specDelimFrom d pre (mid ++ d ++ rest) = some (a', rest') := by
    intro mid
    induction mid with
    | nil =>
      intro pre hb
      rw [specDelimFrom.eq_def]
      have : (balancedB pre && d.isPrefixOf ([] ++ d ++ rest)) = true := by
        simp only [Bool.and_eq_true, List.isPrefixOf_iff_prefix]
        exact ⟨by simpa [balancedB] using hb, by simp⟩
      simp only [this, if_true]
      exact ⟨_, _, rfl⟩
    | cons t ts ih =>
      intro pre hb
      simp only [List.cons_append]
      rw [specDelimFrom]
      split
      · exact ⟨_, _, rfl⟩
      · exact ih (pre ++ [t]) (by simpa using hb)
  exact key a [] (by simpa using hbal)

/-- Together: `specDelim d inp = some (a, rest)` *iff* `a` is the shortest balanced run
followed by `d` (the declarative reading of TeX §392–§397 for a delimited parameter). -/
theorem spec_delimited_iff {d inp a rest : List Tok} :
    specDelim d inp = some (a, rest) ↔
      (inp = a ++ d ++ rest ∧ Balanced a ∧
        ∀ a' rest', inp = a' ++ d ++ rest' → Balanced a' → a.length ≤ a'.length) := by
  constructor
  · exact spec_delimited_shortest
  · rintro ⟨hinp, hbal, hmin⟩
    obtain ⟨a', rest', h'⟩ := spec_delimited_total (d := d) (rest := rest) hbal
    rw [← hinp] at h'
    obtain ⟨hinp', hbal', hmin'⟩ := spec_delimited_shortest h'
    have hlen : a'.length = a.length := by
      have h1 := hmin a' rest' hinp' hbal'
      have h2 := hmin' a rest hinp hbal
      omega
    have e : a' ++ (d ++ rest') = a ++ (d ++ rest) := by
      rw [← List.append_assoc, ← List.append_assoc, ← hinp, ← hinp']
    obtain ⟨e1, e2⟩ := List.append_inj e hlen
    have e3 := List.append_cancel_left e2
    rw [h', e1, e3]

/-- `specUndelim`: after dropping space tokens, the next token, or the contents of the next
balanced group. -/
theorem spec_undelimited_next {inp a rest : List Tok} (h : specUndelim inp = some (a, rest)) :
    ∃ sps tl, inp = sps ++ tl ∧ (∀ t ∈ sps, t = .sp) ∧
      ((∃ t, t ≠ .sp ∧ t ≠ .bg ∧ t ≠ .eg ∧ tl = t :: rest ∧ a = [t]) ∨
       (tl = .bg :: a ++ .eg :: rest ∧ Balanced a)) := by
  unfold specUndelim at h
  obtain ⟨sps, h1, h2, h3⟩ := dropWhile_sp_spec inp
  refine ⟨sps, inp.dropWhile (· = .sp), h1, h2, ?_⟩
  · cases hd : inp.dropWhile (· = .sp) with
    | nil => simp [hd] at h
    | cons t ts =>
      rw [hd] at h
      have hnsp : t ≠ .sp := h3 t ts hd
      cases t with
      | bg =>
        right
        obtain ⟨g', rfl, hg, hbal⟩ := (specGroupFrom_iff ts rfl).mp h
        cases hg
        exact ⟨rfl, hbal⟩
      | eg => cases h
      | sp => exact absurd rfl hnsp
      | _ => cases h; refine .inl ⟨_, ?_, ?_, ?_, rfl, rfl⟩ <;> nofun

/-- A delimited parameter (delimiter `d`, any `\def`-producible shape including the `#{`
form) is bound to the shortest balanced run before the delimiter, with one pair of outer
braces removed iff the run is a single group; the tokens after the delimiter are untouched.
`m` is the matcher `Matcher::new` builds. -/
theorem delimited_shortest {d : List Tok} {m : Matcher} (hwf : DelimWF d)
    (hm : Matcher.new? d = some m) (n : Nat) {inp a rest : List Tok}
    (h : specDelim d inp = some (a, rest)) :
    parseDelimited shouldTrim m n inp = .ok (stripSpec a, rest) := by
  obtain ⟨pf, hpf, hok⟩ := kmp_correct d hwf.ne
  rw [hpf] at hm
  cases hm
  exact specDelim_parse ⟨d, pf⟩ hok hwf n h

/-- An undelimited parameter is bound to the next token or the contents of the next group,
after skipping space tokens. -/
theorem undelimited_next (n : Nat) {inp a rest : List Tok} (h : specUndelim inp = some (a, rest)) :
    parseUndelimited n inp = .ok (a, rest) :=
  specUndelim_parse n h

/-- The (patched) trimming predicate holds exactly when the whole argument is one group
(TeX's `m = 1`). False for the predicate of the unpatched tree: see the `example` below. -/
theorem strip_iff_single_group (a : List Tok) :
    shouldTrim a = true ↔ ∃ b, a = .bg :: b ++ [.eg] ∧ Balanced b :=
  shouldTrim_iff a

/-- The specification's stripping rule is the same statement. -/
theorem spec_strip_iff_single_group (a : List Tok) :
    isSingleGroup a = true ↔ ∃ b, a = .bg :: b ++ [.eg] ∧ Balanced b :=
  isSingleGroup_iff a

/-- For every parameter text and replacement
text `\def` accepts (`SMValid`: a prefix, up to nine parameters each undelimited or delimited
by arbitrary non-brace tokens, optional `#{`, replacement over literals, `#1..#9`, `##`):
the definition parser, run on the definition as written, consumes exactly the definition and
stores a macro `m` such that for **every** input on which the call matches in TeX's sense
(`specExpand s inp = some out`: arguments of any length and nesting), `Macro::call` delivers
exactly TeX's result: the replacement text with `#n` replaced by the bound arguments and
`##` by `#`, followed by the untouched rest. No panic, no error. -/
theorem call_eq_spec {s : SpecMacro} (h : SMValid s) :
    ∃ m, (∀ tail, defParse (renderDef s ++ tail) = .ok (m, tail)) ∧
      ∀ inp out, specExpand s inp = some out → call m inp = .ok out :=
  ⟨compiled s, defParse_render h, fun _ _ => call_compile h⟩

/-- The definition parser alone: the stored macro is `compile s` (prefix and delimiters
with the `#{` brace appended, KMP tables built, replacement pieces reversed). -/
theorem defParse_call_roundtrip {s : SpecMacro} (h : SMValid s) :
    ∃ m, compile s = some m ∧ (∀ p ∈ m.params, ParamOK p) ∧
      ∀ tail, defParse (renderDef s ++ tail) = .ok (m, tail) :=
  ⟨compiled s, compile_eq s, compiled_ok h, defParse_render h⟩

/-- The binding step alone, for any list of well-formed parameters: the arguments the code
binds are the arguments TeX binds, and the rest is untouched. -/
theorem bind_eq_spec (ps : List Param) (hok : ∀ p ∈ ps, ParamOK p) (i : Nat)
    {inp rest : List Tok} {args : List (List Tok)}
    (h : specBind (ps.map delimOf) inp = some (args, rest)) :
    parseArgs shouldTrim i ps inp = .ok (args, rest) :=
  parseArgs_spec hok i h

/-- Non-vacuity of `call_eq_spec`: `\def\a#1.#2{[#1##,#2]}` is valid, and the call
`\a{x}{y}. {z}w` matches with TeX's result `[{x}{y}#,z]w`. -/
def exMacro : SpecMacro :=
  ⟨[], [[.ch 46], []], false, [.lit (.ch 91), .arg 0, .hash, .lit (.ch 44), .arg 1, .lit (.ch 93)]⟩

theorem exMacro_valid : SMValid exMacro where
  pre := by simp [exMacro]
  delims := by simp [exMacro, Plain]
  nparams := by simp [exMacro]
  args := by simp [exMacro]
  lits := by simp [exMacro]
  body := by decide

example : specExpand exMacro
    [.bg, .ch 120, .eg, .bg, .ch 121, .eg, .ch 46, .sp, .bg, .ch 122, .eg, .ch 119]
    = some [.ch 91, .bg, .ch 120, .eg, .bg, .ch 121, .eg, .param, .ch 44, .ch 122, .ch 93, .ch 119] := by
  decide

/-- C02-a at the level of the call: on the unpatched tree (`callOld`) the same call delivers
the unbalanced `[x}{y#,z]w`. -/
example : ∃ m, compile exMacro = some m ∧
    callOld m [.bg, .ch 120, .eg, .bg, .ch 121, .eg, .ch 46, .sp, .bg, .ch 122, .eg, .ch 119]
      = .ok [.ch 91, .ch 120, .eg, .bg, .ch 121, .param, .ch 44, .ch 122, .ch 93, .ch 119] :=
  ⟨_, rfl, by decide⟩

/-- C02-a, the witness `{x}{y}`: the unpatched predicate strips, the patched one and TeX do
not. -/
example :
    shouldTrimOld [.bg, .ch 120, .eg, .bg, .ch 121, .eg] = true ∧
    shouldTrim [.bg, .ch 120, .eg, .bg, .ch 121, .eg] = false ∧
    isSingleGroup [.bg, .ch 120, .eg, .bg, .ch 121, .eg] = false := by decide

/-- Non-vacuity: `\def\a#1.{..}` on `{x}{y}.z` — the spec binds `{x}{y}`. -/
example : specDelim [.ch 46] [.bg, .ch 120, .eg, .bg, .ch 121, .eg, .ch 46, .ch 122]
    = some ([.bg, .ch 120, .eg, .bg, .ch 121, .eg], [.ch 122]) := by decide

example : DelimWF [.ch 46] := ⟨by simp, [.ch 46], by simp [NoBrace], Or.inl rfl⟩
example : DelimWF [.ch 46, .bg] := ⟨by simp, [.ch 46], by simp [NoBrace], Or.inr rfl⟩

example : specUndelim [.sp, .bg, .ch 120, .bg, .eg, .eg, .ch 121] = some ([.ch 120, .bg, .eg], [.ch 121]) := by
  decide

/-! ## The token stream (`vm/streams.rs`): the list view is a theorem, not an assumption

`Model/C02Stream.lean` models the current source, the stack of enclosing sources, the pending
(expanded / pushed-back) tokens of each — a stack whose last element is the next token — and
its lexer, and transcribes the call again over `next` / `back` / `expansions_mut().extend`.
`st.flat` is the list the stream will deliver. -/

/-- `next_unexpanded` delivers the head of the list view and leaves its tail: pending tokens
before the lexer of the same source, an inner source before the sources that enclose it;
`None` only when nothing at all is left. -/
theorem stream_next_delivers (st : Stream) :
    match st.next with
    | (none, st') => st.flat = [] ∧ st'.flat = []
    | (some t, st') => st.flat = t :: st'.flat :=
  nextFrom_spec st.cur st.outer

/-- `back` puts a token in front; writing a (reversed) expansion onto the pending stack puts
the expansion, in reading order, in front. -/
theorem stream_back_push (st : Stream) (t : Tok) (stack : List Tok) :
    (st.back t).flat = t :: st.flat ∧ (st.pushStack stack).flat = stack.reverse ++ st.flat :=
  ⟨back_flat st t, pushStack_flat st stack⟩

/-- **The call over the stream is the call over the list view**, for every macro and every
arrangement of the upcoming tokens over pending stacks, lexers and enclosing sources: same
result (the stream after the call delivers exactly what `call` returns), same error; the fuel
of the stream-level loops never runs out. -/
theorem stream_call_refines (m : Macro) (st : Stream) :
    (∀ out, call m st.flat = .ok out → ∃ st', callS m st = .ok st' ∧ st'.flat = out) ∧
    (∀ e, call m st.flat = .err e → callS m st = .err e) ∧
    (∀ st', callS m st = .ok st' → call m st.flat = .ok st'.flat) ∧
    (callS m st = .panic → call m st.flat = .panic) := by
  unfold call callS
  rw [← callWithS_flat shouldTrim m st]
  cases callWithS shouldTrim m st <;> simp [Res.map]

/-- **Headline for the stream**: for every valid parameter text and replacement text, the
macro `\def` stores is such that, wherever the tokens of a matching call sit — in the file
that ends with the call, among the pending tokens of an enclosing source, in its lexer, split
over all of them — the call succeeds and what is read afterwards, token by token, is exactly
TeX's result: the replacement with the arguments substituted, then the untouched rest. -/
theorem stream_call_delivers_spec {s : SpecMacro} (h : SMValid s) :
    ∃ m, (∀ tail, defParse (renderDef s ++ tail) = .ok (m, tail)) ∧
      ∀ (st : Stream) (out : List Tok), specExpand s st.flat = some out →
        ∃ st', callS m st = .ok st' ∧ ∀ fuel, out.length ≤ fuel → readAll fuel st' = out := by
  obtain ⟨m, hdef, hcall⟩ := call_eq_spec h
  refine ⟨m, hdef, ?_⟩
  intro st out hs
  obtain ⟨st', h1, h2⟩ := (stream_call_refines m st).1 out (hcall st.flat out hs)
  exact ⟨st', h1, fun fuel hf => by rw [readAll_flat fuel st' (by rw [h2]; exact hf), h2]⟩

/-- Non-vacuity (the shape of the seeded change `seeded/C02-r2-3`): `\def\A#1{[#1]}`, the file ends
right after `\A`; the enclosing source has the pending tokens `{x}y` and `z!` in its lexer.
Reading after the call gives `[x]yz!`. -/
example : ∃ m, compile ⟨[], [[]], false, [.lit (.ch 91), .arg 0, .lit (.ch 93)]⟩ = some m ∧
    (match callS m ⟨⟨[], []⟩, [⟨[.ch 121, .eg, .ch 120, .bg], [.ch 122, .ch 33]⟩]⟩ with
     | .ok st' => readAll 20 st'
     | _ => []) = [.ch 91, .ch 120, .ch 93, .ch 121, .ch 122, .ch 33] :=
  ⟨_, rfl, by decide⟩

/-- **`\def` accepts a text iff it is a valid definition.** `defParse` succeeds on `inp`
leaving `rest` exactly when `inp` is, followed by `rest`, the rendering of some macro
description `s` with: prefix and delimiters free of braces and `#`; the parameters written
`#1`, `#2`, … in this order (that is what `renderDef` writes), at most nine; an optional final
`#{`; a replacement text over non-`#` tokens with balanced braces, `#n` with `n` at most the
number of parameters, and `##`. Everything else — a `}` in the parameter text, `#` followed
by the wrong digit or a non-digit, a tenth parameter, `#n` out of range or `#` followed by
something else in the replacement text, a missing end — is rejected with an error (never a
panic: `defParse_total`). The stored macro is `compile s`. -/
theorem defParse_accepts_iff {inp rest : List Tok} :
    (∃ m, defParse inp = .ok (m, rest)) ↔ ∃ s, SMValid s ∧ inp = renderDef s ++ rest := by
  constructor
  · rintro ⟨m, h⟩
    obtain ⟨s, hs, hinp, _⟩ := defParse_inv h
    exact ⟨s, hs, hinp⟩
  · rintro ⟨s, hs, rfl⟩
    exact ⟨compiled s, defParse_render hs rest⟩

/-- …and the description is the one the call theorem is about: an accepted definition stores
`compile s`, so `call_eq_spec` applies to **every** macro `\def` can produce. -/
theorem defParse_accepted_meets_spec {inp rest : List Tok} {m : Macro} (h : defParse inp = .ok (m, rest)) :
    ∃ s, SMValid s ∧ inp = renderDef s ++ rest ∧
      ∀ (st : Stream) (out : List Tok), specExpand s st.flat = some out →
        ∃ st', callS m st = .ok st' ∧ st'.flat = out := by
  obtain ⟨s, hs, hinp, rfl⟩ := defParse_inv h
  refine ⟨s, hs, hinp, ?_⟩
  intro st out hsp
  exact (stream_call_refines _ st).1 out (call_compile hs hsp)

/-- The definition parser returns a macro or an error, never a panic (`Matcher::new` is
total on the delimiters it is given). -/
theorem defParse_total (inp : List Tok) : defParse inp ≠ .panic := by
  unfold defParse
  cases h1 : ppLoop [] [] inp with
  | ok r =>
    obtain ⟨pt, inp1⟩ := r
    simp only [mkParams_eq]
    cases h2 : replLoop pt.endTok (pt.raw.map paramOf).length 0 [] inp1 with
    | ok r2 => simp
    | err e => simp
    | panic => exact absurd h2 (replLoop_no_panic _ _ _ _ _)
  | err e => simp
  | panic => exact absurd h1 (ppLoop_no_panic _ _ _)

/-- A macro stored by `\def` never makes the call panic — on any input, matching or not, over
the list view and over the stream: no index out of range in the KMP matcher, in the argument
slices or in `arguments.get(i).unwrap()`. -/
theorem call_total {inp rest : List Tok} {m : Macro} (h : defParse inp = .ok (m, rest)) :
    (∀ inp2, call m inp2 ≠ .panic) ∧ (∀ st : Stream, callS m st ≠ .panic) := by
  obtain ⟨s, hs, _, rfl⟩ := defParse_inv h
  have h1 := call_no_panic_of_compile hs
  exact ⟨h1, fun st hp => h1 st.flat ((stream_call_refines _ st).2.2.2 hp)⟩

/-- Non-vacuity and sharpness of `defParse_accepts_iff`: `#1.#2{[#1##,#2]}` is accepted;
`#1#3{}`, a tenth parameter, `#1{#2}` and `}` are rejected with TeX's four errors. -/
example : (∃ m, defParse (renderDef exMacro ++ [.ch 122]) = .ok (m, [.ch 122])) ∧
    defParse [.param, .ch 49, .param, .ch 51, .bg, .eg] = .err .badParamNumber ∧
    defParse ((List.range 9).flatMap (fun i => [Tok.param, .ch (49 + i)]) ++ [.param, .ch 49, .bg, .eg])
      = .err .tooManyParams ∧
    defParse [.param, .ch 49, .bg, .param, .ch 50, .eg] = .err .illegalParamNumber ∧
    defParse [.eg] = .err .unexpectedEndGroup :=
  ⟨defParse_accepts_iff.mpr ⟨exMacro, exMacro_valid, rfl⟩, by decide, by decide, by decide, by decide⟩

/-- `specUndelim` returns `(a, rest)` **iff** the input is space tokens followed by one
non-brace, non-space token `t` (`a = [t]`) or by `{ a }` with `a` balanced. -/
theorem spec_undelimited_iff {inp a rest : List Tok} :
    specUndelim inp = some (a, rest) ↔
      ∃ sps tl, inp = sps ++ tl ∧ (∀ t ∈ sps, t = .sp) ∧
        ((∃ t, t ≠ .sp ∧ t ≠ .bg ∧ t ≠ .eg ∧ tl = t :: rest ∧ a = [t]) ∨
         (tl = .bg :: a ++ .eg :: rest ∧ Balanced a)) := by
  constructor
  · exact spec_undelimited_next
  · rintro ⟨sps, tl, rfl, hsp, ⟨t, h1, h2, h3, rfl, rfl⟩ | ⟨rfl, hbal⟩⟩
    · exact specUndelim_tok sps t rest hsp h1 h2 h3
    · simpa using specUndelim_group sps a rest hsp hbal

/-- **The property's quantifier, declaratively**: the executable `specBind` succeeds with
`(args, rest)` iff `Binds` holds — for every parameter, left to right: undelimited = after
space tokens the next non-brace token or the contents of the next balanced group; delimited
by `d` = the shortest balanced run followed by `d`, with one pair of braces removed iff it is
a single group. So "the call matches" (`specExpand = some _`) in `call_eq_spec` means exactly
that such an argument tuple exists, and then it is unique. -/
theorem spec_bind_iff {ds : List (List Tok)} {inp rest : List Tok} {args : List (List Tok)} :
    specBind ds inp = some (args, rest) ↔ Binds ds inp args rest := by
  constructor
  · intro h
    induction ds generalizing inp args rest with
    | nil => cases h; exact Binds.nil _
    | cons d ds ih =>
      obtain ⟨a, r1, as, h1, h2, rfl⟩ := specBind_cons_some h
      have hrec := ih h2
      by_cases hd : d = []
      · subst hd
        obtain ⟨sps, tl, rfl, hsp, ⟨t, ht1, ht2, ht3, rfl, rfl⟩ | ⟨rfl, hbal⟩⟩ := spec_undelimited_next h1
        · exact Binds.undelimTok sps t r1 ds as rest hsp ht1 ht2 ht3 hrec
        · simpa using Binds.undelimGroup sps a r1 ds as rest hsp hbal hrec
      · rw [specArg, if_neg hd] at h1
        obtain ⟨⟨a0, r0⟩, h0, he⟩ := Option.map_eq_some_iff.mp h1
        cases he
        obtain ⟨rfl, hbal, hmin⟩ := spec_delimited_shortest h0
        exact Binds.delim d a0 r1 ds as rest hd hbal hmin hrec
  · intro h
    induction h with
    | nil inp => simp [specBind]
    | undelimTok sps t inp ds as rest hsp h1 h2 h3 _ ih =>
      simp [specBind, specUndelim_tok sps t inp hsp h1 h2 h3, ih]
    | undelimGroup sps a inp ds as rest hsp hbal _ ih =>
      have := specUndelim_group sps a inp hsp hbal
      simp only [List.append_assoc, List.cons_append] at this ⊢
      simp [specBind, this, ih]
    | delim d a inp ds as rest hd hbal hmin _ ih =>
      have := spec_delimited_iff.mpr ⟨rfl, hbal, hmin⟩
      simp only [List.append_assoc] at this
      simp [specBind, hd, this, ih]

/-- Non-vacuity of `Binds`: `#1.#2` on `{x}{y}. {z}w` binds `{x}{y}` and `z`. -/
example : Binds [[.ch 46], []]
    [.bg, .ch 120, .eg, .bg, .ch 121, .eg, .ch 46, .sp, .bg, .ch 122, .eg, .ch 119]
    [[.bg, .ch 120, .eg, .bg, .ch 121, .eg], [.ch 122]] [.ch 119] :=
  spec_bind_iff.mp (by decide)

end C02
