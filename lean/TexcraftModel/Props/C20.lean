import TexcraftModel.Lemmas.C20GMap
import TexcraftModel.Lemmas.C20Vec
import TexcraftModel.Lemmas.C20Obs
import TexcraftModel.Lemmas.C20Backing
import TexcraftModel.Lemmas.C20Equiv
import TexcraftModel.Lemmas.C20TagsFine
import TexcraftModel.Lemmas.C20Interner
import TexcraftModel.Lemmas.C20Kmp
import TexcraftModel.Lemmas.C20Tags

/-!
# C20 — property theorems (containers and identifiers)

Scoped map (`GroupingContainer`, groupingmap.rs): three renderings of the same Rust code, `GMap` (an
association list for the `HashMap`), `BMap bk` (written once against the trait `BackingContainer`) and
`VGMap` (`GroupingVec`, the `Vec<Option<V>>` instance written out), and one specification, the stack of
snapshots `Snap`. `GMap` refines `Snap` under the invariant `Inv`; `BMap bk` simulates `GMap` for every
lawful `bk`; `VGMap` is `BMap (vecBacking V)` (`VGMap.toB`), so the `vgmap_*` theorems are the `bmap_*`
theorems at `vecBacking`.

Interner, KMP matcher, tags: each model against its own specification; the interner for every hash
function (a constant one included), the tags for every schedule, once with whole calls as steps
(`Model/C20Tags.lean`) and once with instructions as steps and the mutex as a primitive
(`Model/C20TagsFine.lean`).
-/
namespace C20.Thm

section GMap
variable {K V : Type} [DecidableEq K]

/-- The empty map satisfies the invariant (non-vacuity of every `Inv` hypothesis below). -/
theorem gmap_inv_empty : Inv (GMap.empty : GMap K V) := C20.inv_empty

/-- Every operation preserves the invariant. -/
theorem gmap_inv (m : GMap K V) (op : Op K V) (h : Inv m) : Inv (m.step op).1 :=
  C20.gmap_inv m op h

/-- One step: the abstraction of the new map is the specification's new state, and the value
returned (insert's "existed" flag, `end_group`'s error, a read) is the specification's. -/
theorem gmap_refines (m : GMap K V) (op : Op K V) (h : Inv m) :
    (m.step op).1.abs = (m.abs.step op).1 ∧ (m.step op).2 = (m.abs.step op).2 :=
  C20.gmap_refines m op h

/-- Every finite history from the empty map (reads are operations of the history): same
outputs as the stack of snapshots, and the final state abstracts to the final snapshots. -/
theorem gmap_refines_run (ops : List (Op K V)) :
    ((GMap.empty : GMap K V).run ops).2 = (Snap.init.run ops).2 ∧
    ((GMap.empty : GMap K V).run ops).1.abs = (Snap.init.run ops).1 :=
  C20.gmap_refines_run ops

/-- Every map reached by a history satisfies the invariant. -/
theorem gmap_reachable_inv (ops : List (Op K V)) : Inv ((GMap.empty : GMap K V).run ops).1 :=
  (gimpl_empty.run ops).1.1

/-- `iter_all` never hits one of its two `unwrap`s on a map satisfying the invariant. -/
theorem iterAll_total (m : GMap K V) (h : Inv m) : ∃ items, m.iterAll = .ok items :=
  C20.iterAll_total m h

/-- Rebuilding from the full iteration gives the same abstract state: same visible values and
the same saved snapshot for every open group. -/
theorem iterAll_roundtrip (m : GMap K V) (h : Inv m) :
    ∃ items, m.iterAll = .ok items ∧ (GMap.fromIter items).abs = m.abs ∧ Inv (GMap.fromIter items) :=
  C20.iterAll_roundtrip m h

/-- … hence the same behaviour under every further history. -/
theorem iterAll_same_behaviour (m : GMap K V) (h : Inv m) (items : List (Item K V))
    (hi : m.iterAll = .ok items) (ops : List (Op K V)) :
    ((GMap.fromIter items).run ops).2 = (m.run ops).2 :=
  C20.iterAll_same_behaviour m h items hi ops

/-- The whole property for reachable maps, without mentioning `Inv`: after any history `pre`,
`iter_all` succeeds and the rebuilt map answers any continuation `post` exactly like the original
and like the specification. -/
theorem iterAll_roundtrip_run (pre post : List (Op K V)) :
    ∃ items, ((GMap.empty : GMap K V).run pre).1.iterAll = .ok items ∧
      ((GMap.fromIter items).run post).2 = (((GMap.empty : GMap K V).run pre).1.run post).2 ∧
      ((GMap.fromIter items).run post).2 = ((Snap.init.run pre).1.run post).2 := by
  have h := (gimpl_empty (K := K) (V := V)).run pre
  obtain ⟨items, hi, hf⟩ := h.1.iterAll
  exact ⟨items, hi, (hf.run post).2.trans (h.1.run post).2.symm, (hf.run post).2⟩

/-- The other observers agree with the specification's visible state: `iter()` yields exactly the
visible pairs, each key once; `len()` counts them; `is_empty()` holds iff nothing is visible. -/
theorem gmap_iter_spec (m : GMap K V) (h : Inv m) :
    (∀ k v, (k, v) ∈ m.iter ↔ m.abs.cur k = some v) ∧ (m.iter.map (·.1)).Nodup ∧
    m.len = m.iter.length ∧ (m.isEmpty = true ↔ ∀ k, m.abs.cur k = none) :=
  C20.gmap_iter_spec m h

/-- `extend` is exactly a history of local inserts (so everything above applies to it). -/
theorem gmap_extend_run (m : GMap K V) (l : List (K × V)) :
    m.extend l = (m.run (l.map fun p => Op.insert p.1 p.2 .loc)).1 :=
  C20.gmap_extend_run m l

-- non-vacuity: a concrete nested history, its iteration, and the rebuilt map's reads
example :
    let m := ((GMap.empty : GMap Nat Nat).run
      [.insert 0 1 .loc, .beginGroup, .insert 0 2 .loc, .insert 1 5 .loc, .beginGroup, .insert 0 3 .glob]).1
    m.iterAll = .ok [.value 0 3, .beginGroup, .value 1 5, .beginGroup] ∧
    ((GMap.fromIter [Item.value 0 3, .beginGroup, .value 1 5, .beginGroup]).run
        [.get 0, .endGroup, .endGroup, .get 0, .get 1, .endGroup]).2
      = [.val (some 3), .unit, .unit, .val (some 3), .val none, .errNoGroup] := by decide

end GMap

section VecBacking
variable {V : Type}
open C20.VecBacking

theorem vec_backing_get_insert (l : List (Option V)) (k k' : Nat) (v : V) :
    get (insert l k v) k' = if k' = k then some v else get l k' := get_insert l k k' v

theorem vec_backing_get_remove (l : List (Option V)) (k k' : Nat) :
    get (remove l k) k' = if k' = k then none else get l k' := get_remove l k k'

theorem vec_backing_iter (l : List (Option V)) (k : Nat) (v : V) :
    (k, v) ∈ iter l ↔ get l k = some v := by
  rw [mem_iff_alookup _ (nodupKeys_iter l), alookup_iter]

theorem vec_backing_len (l : List (Option V)) : len l = (iter l).length := len_eq_iter l

end VecBacking

section VGMap
variable {V : Type}

/-- Step-for-step simulation between the two instances (same outputs, states stay related). -/
theorem vgmap_simulates (vm : VGMap V) (m : GMap Nat V) (op : Op Nat V) (h : Sim vm m) :
    Sim (vm.step op).1 (m.step op).1 ∧ (vm.step op).2 = (m.step op).2 := by
  obtain ⟨h1, h2⟩ := bsim_step vecBacking_lawful vm.toB m op ((sim_iff_bsim vm m).1 h)
  obtain ⟨e1, e2⟩ := VGMap.toB_step vm op
  rw [← e1] at h1
  exact ⟨(sim_iff_bsim _ _).2 h1, e2.trans h2⟩

/-- Every history on a `GroupingVec`: same outputs as the stack of snapshots. -/
theorem vgmap_refines_run (ops : List (Op Nat V)) :
    ((VGMap.empty : VGMap V).run ops).2 = (Snap.init.run ops).2 :=
  C20.vgmap_refines_run ops

/-- … and every key reads as the specification's visible value afterwards. -/
theorem vgmap_get_run (ops : List (Op Nat V)) (k : Nat) :
    ((VGMap.empty : VGMap V).run ops).1.get k = (Snap.init.run ops).1.cur k :=
  C20.vgmap_get_run ops k

/-- `iter_all` → `FromIterator` on a `GroupingVec` reached by any history: succeeds, and the rebuilt
map answers every continuation like the original and like the specification. -/
theorem vgmap_iterAll_roundtrip_run (pre post : List (Op Nat V)) :
    ∃ items, ((VGMap.empty : VGMap V).run pre).1.iterAll = .ok items ∧
      ((VGMap.fromIter items).run post).2 = (((VGMap.empty : VGMap V).run pre).1.run post).2 ∧
      ((VGMap.fromIter items).run post).2 = ((Snap.init.run pre).1.run post).2 :=
  C20.vgmap_iterAll_roundtrip_run pre post

example : ((VGMap.empty : VGMap Nat).run
    [.insert 3 1 .loc, .beginGroup, .insert 3 2 .loc, .insert 0 5 .loc, .get 3, .endGroup, .get 3, .get 0]).2
    = [.existed false, .unit, .existed true, .existed false, .val (some 2), .unit, .val (some 1), .val none] := by
  decide

end VGMap

namespace Intern
open C20.Intern

/-- Interning any list of strings never panics, and the keys are those of the specification
(index of first occurrence + 1). -/
theorem intern_total (h : Str → Nat) (hist : List Str) :
    ∃ st, internAll h empty hist = .ok (st, (specInternAll [] hist).2) := by
  obtain ⟨st, h1, _⟩ := internAll_spec (rep_empty h) hist
  exact ⟨st, h1⟩

/-- Equal keys exactly for equal strings. -/
theorem intern_key_eq_iff (h : Str → Nat) (hist : List Str) (st : Interner) (keys : List Nat)
    (hk : internAll h empty hist = .ok (st, keys)) :
    keys.length = hist.length ∧
    ∀ i j (hi : i < hist.length) (hj : j < hist.length), (keys[i]? = keys[j]?) ↔ (hist[i] = hist[j]) :=
  C20.Intern.intern_key_eq_iff h hist st keys hk

private theorem reach_rep (h : Str → Nat) (hist : List Str) (st : Interner) (keys : List Nat)
    (hk : internAll h empty hist = .ok (st, keys)) : Rep h st (specInternAll [] hist).1 :=
  (internAll_ok (rep_empty h) hk).1

/-- In any reachable state, interning `s` (new or not) returns a key that resolves to `s`. -/
theorem resolve_intern (h : Str → Nat) (hist : List Str) (st : Interner) (keys : List Nat)
    (hk : internAll h empty hist = .ok (st, keys)) (s : Str) :
    ∃ st' k, getOrIntern h st s = .ok (st', k) ∧ resolve st' k = .ok (some s) := by
  have r := reach_rep h hist st keys hk
  obtain ⟨st', hg, _⟩ := getOrIntern_spec r s
  exact ⟨st', _, hg, C20.Intern.resolve_intern r hg⟩

/-- Later interning never changes what an earlier key resolves to. -/
theorem resolve_stable (h : Str → Nat) (hist more : List Str) (st st' : Interner) (keys keys' : List Nat)
    (hk : internAll h empty hist = .ok (st, keys)) (hm : internAll h st more = .ok (st', keys'))
    (k : Nat) (t : Str) (hres : resolve st k = .ok (some t)) :
    resolve st' k = .ok (some t) := by
  have r := reach_rep h hist st keys hk
  exact r.resolve_mono (internAll_ok r hm).1 (specInternAll_prefix _ more) hres

/-- Keys of a run, forgetting the state. -/
def keysOf : Res (Interner × List Nat) → Res (List Nat)
  | .ok (_, ks) => .ok ks
  | .panic => .panic
  | .fuel => .fuel

/-- Deserialisation: the rebuilt interner (possibly with a different hash function `h'`) has the
same `get`, the same `resolve`, and hands out the same keys for every further list of strings. -/
theorem rebuild_dedup (h h' : Str → Nat) (hist : List Str) (st : Interner) (keys : List Nat)
    (hk : internAll h empty hist = .ok (st, keys)) :
    ∃ st', rebuild h' st.buffer st.ends = .ok st' ∧
      (∀ s, get h' st' s = get h st s) ∧ (∀ k, resolve st' k = resolve st k) ∧
      ∀ more, keysOf (internAll h' st' more) = keysOf (internAll h st more) := by
  have r := reach_rep h hist st keys hk
  obtain ⟨st', hb, r'⟩ := rebuild_spec r h'
  refine ⟨st', hb, rebuild_get r hb, rebuild_resolve r hb, ?_⟩
  intro more
  obtain ⟨_, h1, _⟩ := internAll_spec r more
  obtain ⟨_, h2, _⟩ := internAll_spec r' more
  rw [h1, h2]; rfl

-- non-vacuity under a constant hash: all strings collide
example :
    keysOf (internAll (fun _ => 12) empty [[104, 105], [119], [104, 105], [], [119]]) = .ok [1, 2, 1, 3, 2] := by
  decide

end Intern

namespace Kmp
open C20.Kmp
variable {α : Type} [DecidableEq α]

/-- `Matcher::new` never panics; entry `i` of the table is the length of the longest proper
border of `pat[0..=i]`. -/
theorem prefixFn_spec (first : α) (tail : List α) :
    ∃ pf, prefixFn first tail = .ok pf ∧ pf.length = tail.length + 1 ∧
      ∀ i (hi : i < pf.length),
        IsBorder ((first :: tail).take (i + 1)) pf[i] ∧
        pf[i] < ((first :: tail).take (i + 1)).length ∧
        ∀ n, n < ((first :: tail).take (i + 1)).length →
          IsBorder ((first :: tail).take (i + 1)) n → n ≤ pf[i] :=
  C20.Kmp.prefixFn_spec first tail

/-- One `Search::next`: no panic (in particular `q < |pat|`, so `substring[self.q]` is in
range), `true` exactly when the pattern ends at the new element, and the state invariant
("`q` = longest prefix of `pat`, shorter than `pat`, that is a suffix of the consumed text")
is kept. -/
theorem search_next_spec (first : α) (tail : List α) (pf : List Nat) (pat consumed : List α)
    (q : Nat) (x : α) (hpf : prefixFn first tail = .ok pf) (hpat : pat = first :: tail)
    (hq : MatchState pat consumed q) :
    ∃ q' b, next pat pf q x = .ok (q', b) ∧ (b = true ↔ pat <:+ consumed ++ [x]) ∧
      MatchState pat (consumed ++ [x]) q' :=
  C20.Kmp.search_next_spec first tail pf pat consumed q x hpf hpat hq

/-- Whole texts: the answers are exactly "the pattern ends here", overlaps included; never a
panic, never out of fuel. -/
theorem search_spec (first : α) (tail text : List α) :
    search first tail text = .ok (spec (first :: tail) text) :=
  C20.Kmp.search_spec first tail text

-- non-vacuity: overlapping occurrences of `aba` in `ababa`
example : search 0 [1, 0] [0, 1, 0, 1, 0] = .ok [false, false, true, false, true] := by decide
example : MatchState [0, 1, 0] ([] : List Nat) 0 := matchState_nil _ (by decide)

end Kmp

/-! ## Tags (interleaving model; atomicity of `Mutex`/`OnceLock` is assumed, see `Model/C20Tags.lean`) -/
namespace Tags
open C20.Tags

/-- In every schedule, the tags returned by all `Tag::new` calls (of all threads), together
with the tags stored in static cells, are pairwise distinct. -/
theorem tags_distinct (sched : List Ev) :
    (newTags (run init sched).2 ++ vals (run init sched).1.cells).Nodup :=
  C20.Tags.all_tags_distinct sched

/-- In every schedule, every `get` on one static tag returns the same value. -/
theorem static_tag_once (sched : List Ev) (c : Nat) :
    ∀ t ∈ cellTags c (run init sched).2, ∀ t' ∈ cellTags c (run init sched).2, t = t' :=
  C20.Tags.static_tag_once sched c

/-- Static tags differ from every `Tag::new` tag and from each other. -/
theorem static_tag_fresh (sched : List Ev) (c c' : Nat) :
    (∀ t ∈ cellTags c (run init sched).2, ∀ t' ∈ newTags (run init sched).2, t ≠ t') ∧
    (c ≠ c' → ∀ t ∈ cellTags c (run init sched).2, ∀ t' ∈ cellTags c' (run init sched).2, t ≠ t') :=
  ⟨cell_tag_ne_new_tag sched c, fun hc => cell_tags_distinct sched c c' hc⟩

/-- No call panics while fewer than 2^32 − 2 tags have been requested; tags are non-zero `u32`. -/
theorem tags_no_panic (sched : List Ev) (h : sched.length + 1 < u32Max) :
    (∀ p ∈ (run init sched).2, p.2 ≠ none) ∧
    (∀ p ∈ (run init sched).2, ∀ t, p.2 = some t → 1 ≤ t ∧ t < u32Max) :=
  ⟨C20.Tags.tags_no_panic sched h, tags_range sched⟩

/-- With only `Tag::new` events the tags are exactly `1, 2, …, N` in schedule order (what the
harness compares the multiset of real tags with). -/
theorem tags_exact (sched : List Ev) (h : sched.length + 1 < u32Max)
    (hnew : ∀ e ∈ sched, e.isNew = true) :
    newTags (run init sched).2 = List.range' 1 sched.length :=
  C20.Tags.tags_exact sched h hnew

-- non-vacuity: three threads interleaved, one static cell read twice
example : (run init [.new 0, .get 1 7, .new 2, .get 0 7, .new 1]).2.map (·.2)
    = [some 1, some 2, some 3, some 2, some 4] := by decide
example : ([Ev.new 0, .new 1, .new 0] : List Ev).length + 1 < u32Max := by decide

end Tags

/-! ## The container code over any backing container (`Model/C20Backing.lean`)

`hashBacking` (`HashMap`) and `vecBacking` (`Vec<Option<V>>`) are lawful (`backings_lawful`), so what is
stated for `BMap bk` under `bk.Lawful` holds of both `GroupingHashMap` and `GroupingVec`. -/
section Backing
variable {K V : Type} [DecidableEq K] {bk : Backing K V}

theorem bmap_simulates (law : bk.Lawful) (bm : BMap bk) (m : GMap K V) (op : Op K V) (h : BSim bm m) :
    BSim (bm.step op).1 (m.step op).1 ∧ (bm.step op).2 = (m.step op).2 :=
  C20.bsim_step law bm m op h

/-- Every history, any lawful backing: the outputs of the stack of snapshots. -/
theorem bmap_refines_run (law : bk.Lawful) (ops : List (Op K V)) :
    ((BMap.empty : BMap bk).run ops).2 = (Snap.init.run ops).2 :=
  C20.bmap_refines_run law ops

theorem bmap_get_run (law : bk.Lawful) (ops : List (Op K V)) (k : K) :
    ((BMap.empty : BMap bk).run ops).1.get k = (Snap.init.run ops).1.cur k :=
  C20.bmap_get_run law ops k

/-- `iter_all` → `FromIterator`, any lawful backing, after any history. -/
theorem bmap_iterAll_roundtrip_run (law : bk.Lawful) (pre post : List (Op K V)) :
    ∃ items, ((BMap.empty : BMap bk).run pre).1.iterAll = .ok items ∧
      ((BMap.fromIter items : BMap bk).run post).2 = (((BMap.empty : BMap bk).run pre).1.run post).2 ∧
      ((BMap.fromIter items : BMap bk).run post).2 = ((Snap.init.run pre).1.run post).2 :=
  C20.bmap_iterAll_roundtrip_run law pre post

/-- `iter()`, `len()`, `is_empty()`, any lawful backing, after any history. -/
theorem bmap_iter_spec (law : bk.Lawful) (ops : List (Op K V)) :
    let bm := ((BMap.empty : BMap bk).run ops).1
    let s := (Snap.init.run ops).1
    (∀ k v, (k, v) ∈ bm.iter ↔ s.cur k = some v) ∧ (bm.iter.map (·.1)).Nodup ∧
      bm.len = bm.iter.length ∧ (bm.isEmpty = true ↔ ∀ k, s.cur k = none) :=
  C20.bmap_iter_spec law ops

/-- The two `impl`s of the trait satisfy the laws. -/
theorem backings_lawful : (hashBacking K V).Lawful ∧ (vecBacking V).Lawful :=
  ⟨hashBacking_lawful, vecBacking_lawful⟩

/-- The HashMap instance of the generic code gives exactly the outputs of `GMap`. -/
theorem bmap_hash_is_gmap (ops : List (Op K V)) :
    ((BMap.empty : BMap (hashBacking K V)).run ops).2 = ((GMap.empty : GMap K V).run ops).2 :=
  C20.bmap_hash_is_gmap ops

example : ((BMap.empty : BMap (vecBacking Nat)).run
    [.insert 3 1 .loc, .beginGroup, .insert 3 2 .glob, .insert 0 5 .loc, .endGroup, .get 3, .get 0]).2
    = [.existed false, .unit, .existed true, .existed false, .unit, .val (some 2), .val none] := by
  decide

/-! ### Mutant 14 of the sweep is equivalent (why `end_group` may restore "only if present") -/

theorem endGroup_getMut_equiv (m : GMap K V) (h : Inv m) : m.endGroupGetMut = m.endGroup :=
  C20.endGroup_getMut_equiv m h

/-- … on every reachable map. -/
theorem endGroup_getMut_equiv_run (ops : List (Op K V)) :
    ((GMap.empty : GMap K V).run ops).1.endGroupGetMut = ((GMap.empty : GMap K V).run ops).1.endGroup :=
  C20.endGroup_getMut_equiv _ (gimpl_empty.run ops).1.1

end Backing

/-! ## Tags at instruction level (`Model/C20TagsFine.lean`): the assumption is exactly "the lock is exclusive" -/
namespace TagsFine
open C20.TagsFine

/-- `Tag::new` as coded (lock; read; write; unlock), mutex as a primitive: for every schedule — any
number of threads and calls, blocked acquisitions included — the returned tags are pairwise distinct. -/
theorem lock_tags_distinct (sched : List Nat) : (tags (run lockProg init sched)).Nodup :=
  C20.TagsFine.lock_tags_distinct sched

/-- They are exactly the numbers `1 … n` (each below the counter, counter = number of tags + 1),
and at most one thread is ever inside the critical section. -/
theorem lock_tags_exact (sched : List Nat) :
    (∀ t ∈ tags (run lockProg init sched), 1 ≤ t ∧ t < (run lockProg init sched).counter) ∧
    (run lockProg init sched).counter = (tags (run lockProg init sched)).length + 1 ∧
    (∀ i j, ((run lockProg init sched).th i).pc ≠ 0 → ((run lockProg init sched).th j).pc ≠ 0 → i = j) :=
  ⟨lock_tags_range sched, lock_tags_count sched, lock_mutual_exclusion sched⟩

/-- Mutant 35 (lock released between the read and the write), same machine: a schedule with a duplicate. -/
theorem racy_duplicate : ∃ sched, ¬ (tags (run racyProg init sched)).Nodup :=
  C20.TagsFine.racy_duplicate

end TagsFine

namespace StaticFine
open C20.StaticFine

/-- `StaticTag::get` as coded (`get_or_init` atomic): one value, in every schedule. -/
theorem coded_static_once (sched : List Nat) :
    ∀ v ∈ vals (run codedProg init sched), ∀ w ∈ vals (run codedProg init sched), v = w :=
  C20.StaticFine.coded_static_once sched

/-- Mutant 36 (`get()`, `Tag::new()`, `set()`), same machine: a schedule with two different values. -/
theorem mutant_static_two_values :
    ∃ sched, ∃ v ∈ vals (run mutantProg init sched), ∃ w ∈ vals (run mutantProg init sched), v ≠ w :=
  C20.StaticFine.mutant_static_two_values

end StaticFine

end C20.Thm
