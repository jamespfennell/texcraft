import TexcraftModel.Lemmas.C04
import TexcraftModel.Lemmas.C04AlgoDom
import TexcraftModel.Lemmas.C04AlgoFinish
import TexcraftModel.Lemmas.C04AlgoForce

/-!
# C04 — property theorems (reference optimum, and the active-list algorithm)

`Feasible x s` / `total x s` are TeX's definition of a feasible break sequence and of its
total demerits (Model/C04.lean). The theorems say that the dynamic programme `dp` computes,
for every number of lines, exactly the least total over all feasible sequences — for every
list, every length, every parameter setting.

From `algo_active_sound` on the file is about the implementation's algorithm: `C04.algo`
(Model/C04Algo.lean) is a clause-by-clause transcription of `break_line_single_attempt`
(active list, line classes, candidates, pruning threshold, break width), tied to the real code
by exact comparison, on every generated case, of the returned break lists (stream `algo`) and of
the active nodes created along the way (stream `trace`).

Its active nodes record feasible sequences with their exact totals, for every looseness; under
the quantifier's restriction (`monotone`, totals below `AWFUL_BAD`) its answer has the optimum
`dpBest` (looseness 0) or the least total among the sequences of `Lb + q` lines (looseness `q`);
the forced pass, and with it the pass driver, always answers.

**What the theorems do not say**: (1) the transcription works in `Int`, the real code in `i32`
(agreement is checked per run inside `demBound x < AWFUL_BAD`; no theorem excludes overflow).
(2) `force_solution = true` (artificial demerits; then "as far as feasible" of TeX.2021.875) is
transcribed and compared per run; the only theorem about it is `algo_force_always` (the property
is about `force_solution = false`). (3) The tie to the Rust code is the exact per-run comparison, not
an extraction.
-/
namespace C04

/-- Every entry of row `L` is the cost of some sequence of `L` feasible lines ending there. -/
theorem row_sound (x : Inst) (L : Nat) (pos : Option Nat) (f : Fit) (c : Int)
    (h : lookup (row x L) pos f = some c) :
    ∃ s, s.length = L ∧ run x {} s = some (c, ⟨pos, L, f⟩) :=
  (row_minOf x L pos f).mem h

/-- Every sequence of feasible lines is matched or beaten by the row entry for its end state. -/
theorem row_optimal (x : Inst) (s : List Nat) (c : Int) (st : St)
    (h : run x {} s = some (c, st)) :
    ∃ c', c' ≤ c ∧ lookup (row x s.length) st.pos st.fit = some c' := by
  obtain ⟨pos, L, f⟩ := st
  cases (run_L h : L = s.length)
  obtain ⟨c', hc, hle⟩ := (row_minOf x s.length pos f).le ⟨s, rfl, h⟩
  exact ⟨c', hle, hc⟩

/-- `dp x L = some d`: some feasible sequence of exactly `L` lines has total `d`. -/
theorem dp_sound (x : Inst) (L : Nat) (d : Int) (h : dp x L = some d) :
    ∃ s, s.length = L ∧ total x s = some d :=
  (dp_minOf x L).mem h

/-- No feasible sequence of `L` lines has a smaller total than `dp x L`. -/
theorem dp_optimal (x : Inst) (s : List Nat) (d : Int) (h : total x s = some d) :
    ∃ d', dp x s.length = some d' ∧ d' ≤ d :=
  (dp_minOf x s.length).le ⟨s, rfl, h⟩

/-- `dp x L = none` exactly when no sequence of `L` lines is feasible. -/
theorem dp_none (x : Inst) (L : Nat) : dp x L = none ↔ ∀ s, s.length = L → ¬ Feasible x s := by
  rw [(dp_minOf x L).none_iff]
  exact ⟨fun h s hs hf => let ⟨d, ht⟩ := feasible_iff.1 hf; h d ⟨s, hs, ht⟩,
    fun h d ⟨s, hs, ht⟩ => h s hs (feasible_iff.2 ⟨d, ht⟩)⟩

/-- A feasible sequence is strictly increasing and bounded by `n`, so it has at most `n+1` lines. -/
theorem run_bound {x : Inst} {st st' : St} {s : List Nat} {c : Int} (h : run x st s = some (c, st')) :
    posIdx st.pos + s.length ≤ posIdx st'.pos :=
  run_len_le h

theorem feasible_length_le (x : Inst) (s : List Nat) (h : Feasible x s) : s.length ≤ x.n + 1 :=
  let ⟨_, ht⟩ := feasible_iff.1 h
  total_length_le ht

/-- **Soundness**: the reported optimum is attained by a feasible sequence. -/
theorem dpBest_sound (x : Inst) (d : Int) (h : dpBest x = some d) :
    ∃ s, Feasible x s ∧ total x s = some d :=
  let ⟨s, ht⟩ := (dpBest_minOf x).mem h
  ⟨s, feasible_iff.2 ⟨d, ht⟩, ht⟩

/-- **Optimality**: no feasible sequence has smaller total demerits. -/
theorem dpBest_optimal (x : Inst) (s : List Nat) (d : Int) (h : total x s = some d) :
    ∃ d', dpBest x = some d' ∧ d' ≤ d :=
  (dpBest_minOf x).le ⟨s, h⟩

/-- **Existence**: the optimiser returns nothing iff no sequence of legal breakpoints keeps
every line's badness within the tolerance. -/
theorem dpBest_none_iff (x : Inst) : dpBest x = none ↔ ∀ s, ¬ Feasible x s := by
  rw [(dpBest_minOf x).none_iff]
  exact ⟨fun h s hf => let ⟨d, ht⟩ := feasible_iff.1 hf; h d ⟨s, ht⟩,
    fun h d ⟨s, ht⟩ => h s (feasible_iff.2 ⟨d, ht⟩)⟩

/-- The row-by-row evaluation used by the driver computes the same vector. -/
theorem dpAllFast_eq (x : Inst) : dpAllFast x = dpAll x := by
  have key : ∀ k L, dpFrom x (row x L) L k = (List.range' L k).map (dp x) := by
    intro k
    induction k with
    | zero => intro L; simp [dpFrom]
    | succ k ih =>
      intro L
      have : nextRow x (row x L) L = row x (L + 1) := rfl
      simp only [dpFrom, this, ih (L + 1), List.range'_succ, List.map_cons, dp]
  unfold dpAllFast dpAll
  have := key (x.n + 2) 0
  have h0 : row x 0 = row0 x := rfl
  rw [h0] at this
  simpa [List.range_eq_range'] using this

/-! ## Non-vacuity: a concrete paragraph with a feasible and an infeasible reading -/

/-- `box glue box glue box` + `penalty10000 parfillskip`, line width 25: breaking at the
second glue is feasible, the optimum has two lines. -/
def ex1 : Inst :=
  { items := [.box 10, .glue ⟨5, 3, 0, 2⟩, .box 10, .glue ⟨5, 3, 0, 2⟩, .box 10,
              .penalty 10000, .glue ⟨0, 65536, 1, 0⟩],
    p := { widths := [25], tolerance := 200 } }

example : total ex1 [3, 7] = some 200 := by decide
example : Feasible ex1 [3, 7] := by unfold Feasible; decide
example : dpBest ex1 = some 200 := by rw [dpBest_eq_sparse]; decide
example : total ex1 [1, 7] = none := by decide   -- first line: one box, no stretch, badness 10000
example : dp ex1 1 = none ∧ dp ex1 2 = some 200 := by rw [dp_eq_sparse, dp_eq_sparse]; decide

/-- **Soundness of the active list**: after the main loop every active node records a
complete feasible sequence of breaks, and the total it carries is that sequence's true total
demerits. Any looseness; `force_solution = false`; discretionaries well formed (`discOK`: the
replaced nodes exist and are boxes or kerns, TeX.2021.869). -/
theorem algo_active_sound (x : Inst) (q : Int) (hd : discOK x = true) (ν : ANode)
    (hν : ν ∈ (mainLoop x q false).active) : total x ν.path.reverse = some ν.total :=
  (final_node q hd ν hν).1

/-- What `algo` returns is the break sequence of an active node, with that node's total. -/
theorem algo_total (x : Inst) (q : Int) (hd : discOK x = true) (bs : List Nat)
    (h : algo x q false = some bs) :
    ∃ ν, ν ∈ (mainLoop x q false).active ∧ bs = ν.path.reverse ∧ total x bs = some ν.total := by
  obtain ⟨ν, hν, hbs⟩ := finish_mem q _ bs h
  exact ⟨ν, hν, hbs, by rw [hbs]; exact algo_active_sound x q hd ν hν⟩

/-- **Soundness**: whatever the algorithm returns is a feasible break sequence (for every
looseness). -/
theorem algo_sound (x : Inst) (q : Int) (hd : discOK x = true) (bs : List Nat)
    (h : algo x q false = some bs) : Feasible x bs := by
  obtain ⟨ν, _, _, ht⟩ := algo_total x q hd bs h
  exact feasible_iff.2 ⟨_, ht⟩

/-- **Domination**: if overfull lines are upward closed (`monotone`, the quantifier's
restriction), looseness is 0 and feasible totals stay below `AWFUL_BAD`, then for every feasible
sequence the algorithm returns an answer that is at least as good. -/
theorem algo_dominates (x : Inst) (hd : discOK x = true) (hm : monotone x = true)
    (hW : 0 < x.p.widths.length) (hB : PrefixBounded x) (s : List Nat) (d : Int)
    (h : total x s = some d) :
    ∃ bs d', algo x 0 false = some bs ∧ total x bs = some d' ∧ d' ≤ d := by
  obtain ⟨ν, hν, _, hle⟩ := final_dominated 0 hd hm hW hB s d h
  cases ha : algo x 0 false with
  | none =>
    have := finish_none_zero _ ha
    rw [this] at hν; cases hν
  | some bs =>
    obtain ⟨μ, hμ, hbs, hmin⟩ := finish_zero _ bs ha
    refine ⟨bs, μ.total, rfl, ?_, Int.le_trans (hmin ν hν) hle⟩
    rw [hbs]; exact algo_active_sound x 0 hd μ hμ

/-- **Existence**: the algorithm returns nothing iff no sequence of legal breakpoints keeps every
line within the tolerance. -/
theorem algo_none_iff (x : Inst) (hd : discOK x = true) (hm : monotone x = true)
    (hW : 0 < x.p.widths.length) (hB : PrefixBounded x) :
    algo x 0 false = none ↔ ∀ s, ¬ Feasible x s := by
  constructor
  · intro hn s hf
    obtain ⟨d, ht⟩ := feasible_iff.1 hf
    obtain ⟨bs, _, hbs, _⟩ := algo_dominates x hd hm hW hB s d ht
    rw [hn] at hbs; cases hbs
  · intro hno
    cases ha : algo x 0 false with
    | none => rfl
    | some bs => exact absurd (algo_sound x 0 hd bs ha) (hno bs)

/-- **C04 for the algorithm**: it finds a solution iff one exists, and the solution's total
demerits are the optimum (`dpBest`, proved least over all feasible sequences above). -/
theorem algo_optimal (x : Inst) (hd : discOK x = true) (hm : monotone x = true)
    (hW : 0 < x.p.widths.length) (hB : PrefixBounded x) :
    (algo x 0 false = none ↔ dpBest x = none) ∧
    (∀ bs, algo x 0 false = some bs → total x bs = dpBest x) := by
  refine ⟨?_, ?_⟩
  · rw [algo_none_iff x hd hm hW hB, dpBest_none_iff]
  · intro bs ha
    obtain ⟨μ, hμ, hbs, hmin⟩ := finish_zero _ bs ha
    rw [hbs, algo_active_sound x 0 hd μ hμ]
    exact ((act_minOf_all 0 hd hm hW hB).eq_some ⟨μ, hμ, rfl⟩
      fun _ ⟨ν, hν, hc⟩ => hc ▸ hmin ν hν).symm

/-- The same with the decidable bound the driver evaluates per instance
(`demBound x < AWFUL_BAD`, proved sufficient in `demBound_sound`). -/
theorem algo_optimal_dec (x : Inst) (hd : discOK x = true) (hm : monotone x = true)
    (hW : 0 < x.p.widths.length) (hB : demBound x < awfulBad) :
    (algo x 0 false = none ↔ dpBest x = none) ∧
    (∀ bs, algo x 0 false = some bs → total x bs = dpBest x) :=
  algo_optimal x hd hm hW (demBound_sound x hB)

/-- Every total an active node ever carries (after any number `k` of iterations of the main
loop) is the exact total of a feasible sequence of lines, and inside the decidable bound it
lies strictly between `−AWFUL_BAD` and `AWFUL_BAD`: the values the code keeps in `i32`
`total_demerits` fields fit (the transcription computes in `Int`). -/
theorem algo_totals_in_range (x : Inst) (q : Int) (hd : discOK x = true)
    (hb : demBound x < awfulBad) (k : Nat) (hk : k ≤ x.n + 1) (ν : ANode)
    (hν : ν ∈ ((List.range k).foldl (step x q false) {}).active) :
    run x {} ν.path.reverse = some (ν.total, ⟨ν.pos, ν.line, ν.fit⟩) ∧
      -awfulBad < ν.total ∧ ν.total < awfulBad := by
  have h := ((loop_inv q hd k hk).1.nodes ν hν).ok.run
  exact ⟨h, demBound_range x hb h⟩

/-! ### Looseness ≠ 0 (TeX.2021.875), `force_solution = false` -/

/-- `Lb` is the least number of lines with which the overall optimum `d` is reached (the line
count of the first active node of least demerits, which the looseness is counted from). -/
def BestCount (x : Inst) (Lb : Nat) (d : Int) : Prop :=
  dpBest x = some d ∧ dp x Lb = some d ∧ ∀ L, L < Lb → dp x L ≠ some d

theorem BestCount_unique {x : Inst} {L1 L2 : Nat} {d1 d2 : Int} (h1 : BestCount x L1 d1)
    (h2 : BestCount x L2 d2) : L1 = L2 ∧ d1 = d2 := by
  have hd : d1 = d2 := by have := h1.1.symm.trans h2.1; simpa using this
  subst hd
  refine ⟨?_, rfl⟩
  rcases Nat.lt_trichotomy L1 L2 with h | h | h
  · exact absurd h1.2.1 (h2.2.2 L1 h)
  · exact h
  · exact absurd h2.2.1 (h1.2.2 L2 h)

/-- **C04 with looseness, for the algorithm** (`q ≠ 0`, `force_solution = false`, the quantifier's
restriction and totals below `AWFUL_BAD`). Let `Lb` be the least number of lines reaching the
overall optimum. If the pass returns breakpoints, they form a feasible sequence of exactly
`Lb + q` lines whose total demerits are least among all feasible sequences with that many lines;
if it returns `None`, there is no feasible sequence at all or none with exactly `Lb + q` lines
(TeX then tries the next pass, TeX.2021.873). -/
theorem algo_loose (x : Inst) (q : Int) (hq : q ≠ 0) (hd : discOK x = true)
    (hm : monotone x = true) (hW : 0 < x.p.widths.length) (hB : PrefixBounded x) :
    (∀ bs, algo x q false = some bs →
      ∃ Lb d, BestCount x Lb d ∧ (bs.length : Int) = (Lb : Int) + q ∧
        (total x bs).isSome = true ∧ total x bs = dp x bs.length) ∧
    (algo x q false = none →
      dpBest x = none ∨
      ∃ Lb d, BestCount x Lb d ∧ ∀ L : Nat, (L : Int) = (Lb : Int) + q → dp x L = none) := by
  have h1 := final_node q hd
  have h3 := final_sorted q hq hd
  have hall := act_minOf_all q hd hm hW hB
  have hline := act_minOf q hq hd hm hW hB
  unfold algo
  generalize (mainLoop x q false).active = act at h1 h3 hall hline
  by_cases hne : act = []
  · subst hne
    exact ⟨fun bs h => (nomatch h),
      fun _ => Or.inl (hall.none_iff.2 fun _ ⟨_, hν, _⟩ => nomatch hν)⟩
  obtain ⟨b, hb, hbest, hsome, hnone⟩ := finish_loose_spec q hq act hne h3
  -- the first node of least demerits sits at the least optimal line count
  have hbc : BestCount x b.line b.total := by
    refine ⟨hall.eq_some ⟨b, hb, rfl⟩ fun _ ⟨ν, hν, hc⟩ => hc ▸ (hbest ν hν).1,
      (hline _).eq_some ⟨b, hb, rfl, rfl⟩ fun _ ⟨ν, hν, _, hc⟩ => hc ▸ (hbest ν hν).1,
      fun L hL hdp => ?_⟩
    obtain ⟨μ, hμ, hμl, hμt⟩ := (hline L).mem hdp
    exact Nat.not_lt.2 (hμl ▸ (hbest μ hμ).2 hμt) hL
  refine ⟨fun bs hbs => ?_, fun hn => Or.inr ⟨b.line, b.total, hbc, fun L hL =>
    (hline L).none_iff.2 fun _ ⟨μ, hμ, hμl, _⟩ => hnone hn μ hμ (hμl ▸ hL)⟩⟩
  obtain ⟨ν, hν, rfl, hνl, hmin⟩ := hsome bs hbs
  obtain ⟨ht, hlen⟩ := h1 ν hν
  rw [ht, hlen]
  exact ⟨b.line, b.total, hbc, hνl, rfl,
    ((hline _).eq_some ⟨ν, hν, rfl, rfl⟩ fun _ ⟨μ, hμ, hμl, hc⟩ => hc ▸ hmin μ hμ hμl).symm⟩

/-- The `None` case of `algo_loose` as an equivalence. -/
theorem algo_loose_none_iff (x : Inst) (q : Int) (hq : q ≠ 0) (hd : discOK x = true)
    (hm : monotone x = true) (hW : 0 < x.p.widths.length) (hB : PrefixBounded x) :
    algo x q false = none ↔
      (dpBest x = none ∨
       ∃ Lb d, BestCount x Lb d ∧ ∀ L : Nat, (L : Int) = (Lb : Int) + q → dp x L = none) := by
  obtain ⟨hsome, hnone⟩ := algo_loose x q hq hd hm hW hB
  refine ⟨hnone, ?_⟩
  intro h
  cases ha : algo x q false with
  | none => rfl
  | some bs =>
    exfalso
    obtain ⟨Lb, d, hbc, hlen, hfe, htot⟩ := hsome bs ha
    rcases h with h | ⟨Lb', d', hbc', hno⟩
    · rw [hbc.1] at h; cases h
    · obtain ⟨hL, _⟩ := BestCount_unique hbc hbc'
      subst hL
      rw [hno bs.length hlen] at htot
      rw [htot] at hfe
      cases hfe

/-- The final (forced) pass always returns breakpoints — for every list, looseness and parameter
setting, without any hypothesis: the active list never becomes empty (TeX.2021.854: artificial
demerits keep the last node alive), so the `.expect("force_solution=true")` of
`break_line_all_attempts` (lib.rs:489) cannot fail. -/
theorem algo_force_always (x : Inst) (q : Int) : (algo x q true).isSome = true :=
  algo_force_some x q

/-- Some pass always answers: the last pass of `break_line_all_attempts` is forced, and a forced
pass never returns `None` (`algo_force_always`), so the final `.expect("force_solution=true")`
(lib.rs:489) cannot fail — for every list, parameters, looseness and hyphenator. -/
theorem passes_always_answer (x : Inst) (pretol : Int) (pf : Glue) (hyph : List Item → List Item)
    (q : Int) : (algoPasses q 1 (passesOf x pretol pf hyph)).isSome = true :=
  algoPasses_some_of_forced q 1 _ (passesOf_forced x pretol pf hyph)

/-- The instance of a pass lies inside the quantifier of `algo_optimal_dec`. -/
def PassHyp (y : Inst) : Prop :=
  discOK y = true ∧ monotone y = true ∧ 0 < y.p.widths.length ∧ demBound y < awfulBad

/-- **C04 for the pass driver** (looseness 0): the answer of `break_line_all_attempts` is the
answer of the first pass that has one. If that pass is not the forced one, its breakpoints are
demerit-optimal for that pass's own list and parameters (`\pretolerance` and the unhyphenated
list, or `\tolerance` and the hyphenated list), and every earlier pass had no feasible sequence at
all for its parameters — each under the quantifier's restriction for the instance of that pass. -/
theorem passes_answer_optimal (x : Inst) (pretol : Int) (pf : Glue) (hyph : List Item → List Item)
    (j : Nat) (bs : List Nat) (h : algoPasses 0 1 (passesOf x pretol pf hyph) = some (j, bs)) :
    ∃ i p, (passesOf x pretol pf hyph)[i]? = some p ∧ j = 1 + i ∧ algo p.x 0 p.force = some bs ∧
      (p.force = false → PassHyp p.x → total p.x bs = dpBest p.x) ∧
      ∀ i' p', i' < i → (passesOf x pretol pf hyph)[i']? = some p' → PassHyp p'.x →
        dpBest p'.x = none := by
  obtain ⟨i, p, hp, hj, hal, hprev⟩ := algoPasses_spec 0 1 _ j bs h
  refine ⟨i, p, hp, hj, hal, ?_, ?_⟩
  · intro hf ⟨hd, hm, hW, hB⟩
    rw [hf] at hal
    exact (algo_optimal_dec p.x hd hm hW hB).2 bs hal
  · intro i' p' hlt hp' ⟨hd, hm, hW, hB⟩
    have hnone := hprev i' p' hlt hp'
    cases hf : p'.force with
    | true =>
      rw [hf] at hnone
      have := algo_force_some p'.x 0
      rw [hnone] at this
      cases this
    | false =>
      rw [hf] at hnone
      exact (algo_optimal_dec p'.x hd hm hW hB).1.mp hnone

/-! Non-vacuity: the hypotheses hold on the concrete paragraph `ex1`, the algorithm answers,
and on an instance without any feasible sequence it answers `none`. Where the hypotheses hold,
the optimum is read off the theorem applied to the evaluated answer of `algo`; for `ex1` above and
for `ex5`, `ex6` below `dpBest` itself is evaluated. -/

example : discOK ex1 = true ∧ monotone ex1 = true ∧ 0 < ex1.p.widths.length ∧ demBound ex1 < awfulBad := by
  decide
example : PrefixBounded ex1 := demBound_sound ex1 (by decide)
example : algo ex1 0 false = some [3, 7] := by decide
example : total ex1 [3, 7] = dpBest ex1 :=
  (algo_optimal_dec ex1 (by decide) (by decide) (by decide)
    (by decide)).2 [3, 7] (by decide)

/-- Tolerance 5 at line width 24: one box is too loose, two are too tight: nothing is feasible. -/
def ex2 : Inst := { ex1 with p := { widths := [24], tolerance := 5 } }
example : discOK ex2 = true ∧ monotone ex2 = true ∧ demBound ex2 < awfulBad := by decide
example : algo ex2 0 false = none ∧ dpBest ex2 = none := by
  have ha : algo ex2 0 false = none := by decide
  exact ⟨ha, (algo_optimal_dec ex2 (by decide) (by decide) (by decide)
    (by decide)).1.mp ha⟩
example : algo ex2 0 true = some [7] := by decide     -- the forced pass answers all the same

/-- A discretionary with replaced node and post-break material, two line widths. -/
def ex3 : Inst :=
  { items := [.box 10, .disc [2] [3] 1, .box 4, .box 6, .glue ⟨5, 3, 0, 2⟩, .box 10,
              .penalty 10000, .glue ⟨0, 65536, 1, 0⟩],
    p := { widths := [12, 25], tolerance := 10000 } }
example : discOK ex3 = true ∧ monotone ex3 = true ∧ demBound ex3 < awfulBad := by decide
example : (algo ex3 0 false).isSome = true ∧ (algo ex3 0 false).bind (total ex3) = dpBest ex3 := by
  have hopt := (algo_optimal_dec ex3 (by decide) (by decide) (by decide)
    (by decide)).2
  cases ha : algo ex3 0 false with
  | none => exact absurd ha (by decide)
  | some bs => exact ⟨rfl, hopt bs ha⟩

/-- The three passes on `box glue box glue box glue` at width 24: `\pretolerance` 5 fails, `\tolerance`
200 answers in the second pass (TeX.2021.816 appended the paragraph end itself). -/
def ex7 : Inst :=
  { items := [.box 10, .glue ⟨5, 3, 0, 2⟩, .box 10, .glue ⟨5, 3, 0, 2⟩, .box 10, .glue ⟨5, 3, 0, 2⟩],
    p := { widths := [24], tolerance := 200 } }
example : algoPasses 0 1 (passesOf ex7 5 ⟨0, 65536, 1, 0⟩ id) = some (2, [3, 7]) := by decide
example : (passesOf ex7 5 ⟨0, 65536, 1, 0⟩ id).all (fun p => decide (discOK p.x = true ∧ monotone p.x = true ∧
    0 < p.x.p.widths.length ∧ demBound p.x < awfulBad)) = true := by decide

/-- Finite stretch on the last line: two, three and four lines are feasible (optimum: two). -/
def ex4 : Inst :=
  { items := [.box 30, .glue ⟨5, 10, 0, 0⟩, .box 30, .glue ⟨5, 10, 0, 0⟩, .box 30, .glue ⟨5, 20, 0, 0⟩,
              .box 15, .penalty 10000, .glue ⟨0, 200, 0, 0⟩],
    p := { widths := [100], tolerance := 10000 } }
example : discOK ex4 = true ∧ monotone ex4 = true ∧ demBound ex4 < awfulBad := by decide
example : BestCount ex4 2 424 := by
  have hopt : total ex4 [5, 9] = dpBest ex4 :=
    (algo_optimal_dec ex4 (by decide) (by decide) (by decide)
      (by decide)).2 [5, 9] (by decide)
  refine ⟨hopt.symm.trans (by decide), by rw [dp_eq_sparse]; decide, ?_⟩
  intro L hL
  rw [dp_eq_sparse]
  have : L = 0 ∨ L = 1 := by omega
  rcases this with rfl | rfl <;> decide
example : algo ex4 1 false = some [1, 5, 9] ∧ total ex4 [1, 5, 9] = dp ex4 3 := by
  have ha : algo ex4 1 false = some [1, 5, 9] := by decide
  obtain ⟨_, _, _, _, _, h⟩ := (algo_loose ex4 1 (by decide) (by decide) (by decide)
    (by decide) (demBound_sound ex4 (by decide))).1 [1, 5, 9] ha
  exact ⟨ha, h⟩
example : algo ex4 (-1) false = none ∧ dp ex4 1 = none := by rw [dp_eq_sparse]; decide

/-! The hypotheses of `algo_optimal` cannot be dropped (the faithful model, like TeX, misses the
solution outside them): -/

/-- Not monotone: the line from the start to the penalty is overfull, the longer line to the end
is not (negative kern). The only active node is deactivated at the penalty. -/
def ex5 : Inst :=
  { items := [.box 50, .penalty 0, .kern false (-20), .box 5, .penalty 10000, .glue ⟨0, 65536, 1, 0⟩],
    p := { widths := [40], tolerance := 200 } }
example : monotone ex5 = false ∧ discOK ex5 = true ∧ demBound ex5 < awfulBad ∧
    algo ex5 0 false = none ∧ dpBest ex5 = some 100 := by rw [dpBest_eq_sparse]; decide

/-- Not bounded: `\finalhyphendemerits = 2^30` makes the only feasible sequence cost more than
`AWFUL_BAD`; the candidate is never recorded. -/
def ex6 : Inst :=
  { items := [.box 30, .disc [2] [] 0, .box 30, .penalty 10000, .glue ⟨0, 65536, 1, 0⟩],
    p := { widths := [40], tolerance := 10000, finalHyphenDemerits := 1073741824 } }
example : monotone ex6 = true ∧ discOK ex6 = true ∧ ¬ demBound ex6 < awfulBad ∧
    algo ex6 0 false = none ∧ dpBest ex6 = some 1173764424 := by rw [dpBest_eq_sparse]; decide

end C04
