import TexcraftModel.Model.C19
import TexcraftModel.Lemmas.C19
import TexcraftModel.Lemmas.C19Read
import TexcraftModel.Lemmas.C19Names

/-!
# C19 — `\input`, `\endinput` and `\read` treat files as lines standing in place

The property statements, and as propositions the two full statements that the code violates,
each with its refutation; helper lemmas are in `Lemmas/C19*.lean`.
M = `run` (the source stack), `readFile`, `opStep false`; S = `inlineToks` / `inline`
(`keep = true`: TeX), `texReadFile`, `opStep true`.
-/

namespace C19

/-- **\input inlines.** For every file system, every main file and every nesting budget
`d ≤ 99` (main + 99 nested files = the documented 100 levels) such that the tree is
well-formed (every `\input` names an existing file, nesting at most `d`), the source-stack
machine halts, and what it delivers is what it delivers for the inlined program — a single
file, no `\input`, the lines of each file standing where its name ended, the rest of the
`\input` line (and pending macro tokens) resuming after the file — run against the empty
file system. Both equal `inlineToks false`. Holds for all fuel above a bound. -/
theorem input_inlines (fs : FS) (d : Nat) (main : File) (hd : d ≤ 99) (hwf : WF fs d main = true) :
    ∃ N, ∀ fuel, N ≤ fuel →
      run fs fuel main = run [] fuel (inline false fs d main) ∧
      run fs fuel main = .ok (inlineToks false fs d main) := by
  obtain ⟨N1, h1⟩ := run_wf fs d main hd hwf
  obtain ⟨N2, h2⟩ := run_wf [] 0 (inline false fs d main) (Nat.zero_le _) (WF_inline ..)
  refine ⟨max N1 N2, ?_⟩
  intro fuel hf
  have e1 := h1 fuel (Nat.le_trans (Nat.le_max_left N1 N2) hf)
  have e2 := h2 fuel (Nat.le_trans (Nat.le_max_right N1 N2) hf)
  refine ⟨?_, e1⟩
  rw [e1, e2, inlineToks_inline]

/-- Non-vacuity: `X\input a Y` / `Z` with `a` = `B\input b C` / `D`, `b` = `E`. -/
example :
    let fs : FS := [(0, [[.atom (.tok (.chr 66)), .atom (.input 1), .atom (.tok (.chr 67))], [.atom (.tok (.chr 68))]]),
                    (1, [[.atom (.tok (.chr 69))]])]
    let main : File := [[.atom (.tok (.chr 88)), .atom (.input 0), .atom (.tok (.chr 89))], [.atom (.tok (.chr 90))]]
    WF fs 2 main = true ∧
      run fs 40 main = .ok [.chr 88, .chr 66, .chr 69, .chr 67, .chr 68, .chr 89, .chr 90] := by
  decide +kernel

/-- **Which file.** The file that `\input name` / `\openin n=name` reads is the one TeX reads:
the written name itself if its last component has an extension, else the name with `.tex`
appended — one candidate, never the bare name next to `name.tex`, never a replaced or doubled
extension. (`resolveCode` transcribes `FileLocation::parse` + `determine_full_path` with
fixes/C19-c.patch applied; without it `a.tex.tex` reads `a.tex`: finding C19-c.)
Consequently every run sees the same bound file system as the specification. -/
theorem name_resolution_is_tex (w : Name) : resolveCode w = resolveTeX w :=
  resolveCode_eq_resolveTeX w

theorem bound_files_are_tex {α : Type} (disk : List (Name × α)) (written : List (Nat × Name)) :
    bindNames resolveCode disk written = bindNames resolveTeX disk written := by
  have : resolveCode = resolveTeX := funext resolveCode_eq_resolveTeX
  rw [this]

/-- `a` ↦ `a.tex`; `a.tex`, `a.tex.tex`, `a.TEX`, `a.` ↦ themselves; `d.d/a` ↦ `d.d/a.tex`;
with `a`, `a.tex` and `a.tex.tex` all on the disk, `\input a` is bound to `a.tex`. -/
example :
    resolveTeX [97] = [97, 46, 116, 101, 120] ∧
    resolveTeX [97, 46, 116, 101, 120] = [97, 46, 116, 101, 120] ∧
    resolveCode [97, 46, 116, 101, 120, 46, 116, 101, 120] = [97, 46, 116, 101, 120, 46, 116, 101, 120] ∧
    resolveCode [97, 46, 84, 69, 88] = [97, 46, 84, 69, 88] ∧
    resolveCode [97, 46] = [97, 46] ∧
    resolveCode [100, 46, 100, 47, 97] = [100, 46, 100, 47, 97, 46, 116, 101, 120] ∧
    bindNames resolveCode [([97], 1), ([97, 46, 116, 101, 120], 2), ([97, 46, 116, 101, 120, 46, 116, 101, 120], 3)]
      [(0, [97])] = [(0, 2)] := by decide

/-- **The limit (1).** `\input` of an existing file with 100 or more sources below the current
one is the error `too many input levels`; the state is otherwise untouched. -/
theorem input_limit (fs : FS) (f : Nat) (file : File) (s : Source) (below : List Source) (out : List Tok)
    (hf : lookup fs f = some file) (h : 100 ≤ below.length) :
    exec fs (.input f) s below out = ⟨s :: below, out, .tooDeep⟩ :=
  exec_input_of_ge hf s h out

/-- **The limit (2).** With at most 99 sources below, the file is pushed as a fresh source
(no pending tokens, all its lines unread) on top of the untouched suspended ones. -/
theorem input_below_limit (fs : FS) (f : Nat) (file : File) (s : Source) (below : List Source) (out : List Tok)
    (hf : lookup fs f = some file) (h : below.length ≤ 99) :
    exec fs (.input f) s below out = ⟨⟨[], [], file⟩ :: s :: below, out, .running⟩ :=
  exec_input_of_le hf s h out

/-- **The limit (3).** The stack never grows beyond 101 sources (the VM's empty default
source, the main file and 99 nested files). -/
theorem stack_bounded (fs : FS) (st : St) (h : st.srcs.length ≤ 101) : (step fs st).srcs.length ≤ 101 := by
  fun_cases step fs st with
  | case1 => exact h                                    -- no source: halt
  | case2 _ s below hs a p =>                           -- a pending atom
    rw [hs] at h; exact exec_srcs_length fs a _ below _ h
  | case3 _ s below hs _ a c =>                         -- an atom of the line
    rw [hs] at h; exact exec_srcs_length fs a _ below _ h
  | case4 _ s below hs => rw [hs] at h; exact h         -- a macro call: its body goes to the same source
  | case5 _ s below hs => rw [hs] at h; exact h         -- a new line
  | case6 => exact h                                    -- the last source ends: halt
  | case7 _ s _ _ _ b bs hs =>                          -- a source is popped
    rw [hs] at h; exact Nat.le_of_succ_le h
  | case8 => exact h                                    -- not running

/-- A file that inputs itself runs into the limit: 99 copies are opened (each prints `A`),
the 100th `\input` is refused. -/
example :
    run [(0, [[.atom (.tok (.chr 65)), .atom (.input 0)]])] 1000 [[.atom (.input 0)]]
      = .tooDeep (List.replicate 99 (.chr 65)) := by
  -- evaluate the iteration that stops at the error, not the one idling through the rest of the fuel
  rw [run, ← iterFast_eq_iter]
  decide +kernel

/-- **`\endinput`, partial** (known finding C19-a). If every `\endinput` is the last token of
its line (in a macro body: the call is the last item of its line), dropping the rest of the
line (`Lexer::end`) and finishing it (TeX §362) are the same, so the machine delivers the
TeX inlining. -/
theorem endinput_finishes_line_partial (fs : FS) (d : Nat) (main : File) (hd : d ≤ 99)
    (hwf : WF fs d main = true) (hmain : endLastLines main = true) (hfs : endLastFS fs = true) :
    ∃ N, ∀ fuel, N ≤ fuel → run fs fuel main = .ok (inlineToks true fs d main) := by
  have h := run_wf fs d main hd hwf
  rwa [inlineToks_trunc, truncFS_of_endLast hfs, truncLines_of_endLast hmain] at h

/-- The full statement, which the code violates. -/
def endinput_finishes_line_full_statement : Prop :=
  ∀ (fs : FS) (d : Nat) (main : File), d ≤ 99 → WF fs d main = true →
    ∃ N, ∀ fuel, N ≤ fuel → run fs fuel main = .ok (inlineToks true fs d main)

/-- Witness `A\endinput B` ⏎ `C`: the machine delivers `A`, TeX `A B␣` (C19-a). -/
example :
    let main : File := [[.atom (.tok (.chr 65)), .atom .endinput, .atom (.tok (.chr 66)), .atom (.tok .sp)],
                        [.atom (.tok (.chr 67)), .atom (.tok .sp)]]
    WF [] 0 main = true ∧ run [] 20 main = .ok [.chr 65] ∧
      inlineToks true [] 0 main = [.chr 65, .chr 66, .sp] ∧ endLastLines main = false := by
  decide +kernel

theorem endinput_finishes_line_full_statement_false : ¬ endinput_finishes_line_full_statement := by
  intro h
  obtain ⟨N, hN⟩ := h [] 0 [[.atom (.tok (.chr 65)), .atom .endinput, .atom (.tok (.chr 66))]] (Nat.zero_le _) rfl
  obtain ⟨N', hN'⟩ := run_wf [] 0 [[.atom (.tok (.chr 65)), .atom .endinput, .atom (.tok (.chr 66))]] (Nat.zero_le _) rfl
  have a := hN (max N N') (Nat.le_max_left ..)
  have b := hN' (max N N') (Nat.le_max_right ..)
  rw [a] at b
  revert b
  decide +kernel

/-- Non-vacuity of the hypotheses of `endinput_finishes_line_partial`. -/
example : endLastLines [[.atom (.tok (.chr 65)), .atom .endinput], [.atom (.tok (.chr 67))]] = true ∧
    endLastFS [(0, [[.call [.tok (.chr 72), .endinput]]])] = true := by decide

/-- **`\read` delivers one brace-balanced group of lines.** Whatever `\read` returns from a
file is balanced; it consists of whole lines of the file, except that a line with an
unmatched `}` is cut before that brace (the rest of that line is discarded); the stream keeps
exactly the untouched lines and is dropped when none is left. -/
theorem read_one_group (ls : List TLine) (toks : List Tok) (rem : Option (List TLine))
    (h : readFile ls 0 [] = .ok toks rem) :
    Balanced toks ∧
    ∃ (taken rest : List TLine), ls = taken ++ rest ∧
      (rem = if rest.isEmpty then none else some rest) ∧
      (toks = taken.flatten ∨
        ∃ (full : List TLine) (p q : List Tok), taken = full ++ [p ++ Tok.eg :: q] ∧
          toks = full.flatten ++ p) := by
  obtain ⟨taken, rest, body, hsplit, hrem, rfl, hg⟩ := readFile_ok h
  exact ⟨hg.closes, taken, rest, hsplit, hrem, hg.lines⟩

/-- **…and only one.** `\read` stops at the first line end at which the braces balance:
after any smaller positive number `k` of the lines it consumed a brace is still open.
(`ls.length - remLen rem` is the number of lines consumed.) -/
theorem read_minimal (ls : List TLine) (toks : List Tok) (rem : Option (List TLine))
    (h : readFile ls 0 [] = .ok toks rem) (k : Nat) (hk : 0 < k) (hlt : k < ls.length - remLen rem) :
    ∃ e, depthAfter (ls.take k).flatten 0 = some (e + 1) := by
  obtain ⟨taken, rest, body, rfl, rfl, _, hg⟩ := readFile_ok h
  rw [remLen_rest, List.length_append, Nat.add_sub_cancel] at hlt
  obtain ⟨k, rfl⟩ : ∃ j, k = j + 1 := ⟨k - 1, by omega⟩
  rw [List.take_append_of_le_length (Nat.le_of_lt hlt)]
  exact hg.first k hlt

/-- Non-vacuity: `1{` / `2` / `3}` / `4` gives `1{ 2 3} ` and leaves the last line. -/
example : readFile [[.chr 49, .bg, .sp], [.chr 50, .sp], [.chr 51, .eg, .sp], [.chr 52, .sp]] 0 []
    = .ok [.chr 49, .bg, .sp, .chr 50, .sp, .chr 51, .eg, .sp] (some [[.chr 52, .sp]]) := by decide

/-- **`\read` defines the target as a parameterless macro** holding exactly the tokens read
(from the lines as the lexer holds them under the current `\endlinechar`): a later use
delivers `[`, those tokens, `]`; the stream keeps the untouched lines (`afterRead`). -/
theorem read_defines_macro (rfs : List (Nat × List RawLine)) (st : RSt) (g : Bool) (n : Nat) (x : Nat)
    (slots : List Slot) (toks : List Tok) (rem : Option (List TLine))
    (hrun : st.status = .running) (hopen : takeFile st.streams n = some slots)
    (hread : readFile (slots.map (mat true st.elc)) 0 [] = .ok toks rem) :
    let st' := opStep false rfs st (.read g n x)
    st'.status = .running ∧
      st'.streams = st.streams.set n (rem.map (fun r => afterRead st.elc slots r.length)) ∧
      (opStep false rfs st' (.use x)).out = st.out ++ [chrL] ++ toks ++ [chrR] := by
  obtain ⟨streams, term, macros, saved, elc, out, status⟩ := st
  simp only at hrun hopen hread
  subst hrun
  cases g <;> simp [opStep, hopen, hread, lookup, defMacro]

/-- **Scope of the definition.** Without `\global` the macro defined by `\read` inside a group
is forgotten at the end of the group (the meaning from before the group returns); with
`\global` it survives the end of every enclosing group. -/
theorem read_local_in_group (tex : Bool) (rfs : List (Nat × List RawLine)) (st : RSt) (n : Int) (x : Nat)
    (hrun : st.status = .running)
    (hok : (opStep tex rfs (opStep tex rfs st .bgroup) (.read false n x)).status = .running) :
    (opStep tex rfs (opStep tex rfs (opStep tex rfs st .bgroup) (.read false n x)) .egroup).macros
      = st.macros := by
  rw [opStep_bgroup hrun] at hok ⊢
  obtain ⟨toks, _, hs⟩ := opStep_read_scope (st := { st with saved := (st.macros, st.elc) :: st.saved }) hrun hok
  exact opStep_egroup_macros hok hs

theorem read_global_survives_group (tex : Bool) (rfs : List (Nat × List RawLine)) (st : RSt) (n : Int) (x : Nat)
    (hrun : st.status = .running)
    (hok : (opStep tex rfs (opStep tex rfs st .bgroup) (.read true n x)).status = .running) :
    lookup (opStep tex rfs (opStep tex rfs (opStep tex rfs st .bgroup) (.read true n x)) .egroup).macros x
      = lookup (opStep tex rfs (opStep tex rfs st .bgroup) (.read true n x)).macros x ∧
    (lookup (opStep tex rfs (opStep tex rfs st .bgroup) (.read true n x)).macros x).isSome := by
  rw [opStep_bgroup hrun] at hok ⊢
  obtain ⟨toks, hm, hs⟩ := opStep_read_scope (st := { st with saved := (st.macros, st.elc) :: st.saved }) hrun hok
  rw [opStep_egroup_macros hok hs, hm, lookup, if_pos rfl]
  exact ⟨rfl, rfl⟩

/-- **`\endlinechar` and read lines.** Every line that a `\read` consumes ends with the token of
the `\endlinechar` in force *at that `\read`* (nothing if it is negative or the line ends in a
comment), whatever was in force when earlier lines of the stream were read: the lines the
reader works on are `attach e raw`. (Describes `Lexer::next` as repaired by
fixes/C19-d.patch; the unrepaired lexer is `mat false`, which differs as soon as
`freshSlots` fails — witness below.) -/
theorem endlinechar_on_read_lines (e : Elc) (slots : List Slot) :
    slots.map (mat true e) = slots.map (fun s => attach e s.raw) := by
  exact List.map_congr_left (fun s _ => mat_true e s)

/-- `1`/`2`/`3`: `\read`, `\endlinechar=`*`, `\read`: the second line is `2*` for the model and
for TeX; the unrepaired lexer (which had started line 2 during the first `\read`) sees `2␣`:
finding C19-d. -/
example :
    let rfs : List (Nat × List RawLine) := [(0, [⟨[.chr 49], some [.sp]⟩, ⟨[.chr 50], some [.sp]⟩, ⟨[.chr 51], some [.sp]⟩])]
    let ops : List Op := [.openin 0 0, .read false 0 100, .setElc (.other 42), .read false 0 101, .use 101]
    (runOps false rfs [] ops).out = [chrL, .chr 50, .chr 42, chrR] ∧
    (runOps true rfs [] ops).out = [chrL, .chr 50, .chr 42, chrR] ∧
    (∃ slots, takeFile (runOps false rfs [] (ops.take 3)).streams 0 = some slots ∧
      freshSlots (.other 42) slots = false ∧ (slots.map (mat false (.other 42))).head? = some [.chr 50, .sp]) := by
  refine ⟨by decide, by decide, ?_⟩
  exact ⟨_, rfl, by decide, by decide⟩

/-- **`\ifeof`, partial** (known finding C19-b). Whenever the model's `\read` leaves the
stream open (a further real line remains), TeX's `\read` (§485–§486) returns the same tokens
and the same remaining lines, and in both the stream stays open (`\ifeof` false). -/
theorem ifeof_after_appended_line_partial (ls : List TLine) (toks : List Tok) (rem : List TLine)
    (h : readFile ls 0 [] = .ok toks (some rem)) :
    texReadFile ls 0 [] = .ok toks (some rem) :=
  readFile_tex_open h

/-- **Every interleaving, partial** (known finding C19-b). For every script of `\openin`,
`\read`, `\global\read`, `\ifeof`, `\closein`, `\endlinechar` changes, groups and macro uses on
the 16 streams, every file system and terminal: if along the model's run no `\read` leaves its
stream without a further real line (or fails) and no empty file is opened (`safeRun`,
decidable), the model and TeX
(§485–§486) end in the same state — same output (so every `\ifeof` answered alike), same
streams, same macros, same status. -/
theorem interleavings_agree_with_tex_partial (rfs : List (Nat × List RawLine)) (term : List RawLine)
    (ops : List Op) (h : safeRun rfs (initR term) ops = true) :
    runOps false rfs term ops = runOps true rfs term ops :=
  foldl_agree rfs ops (initR term) h

/-- Non-vacuity: two streams on a three-line file, interleaved reads, an `\ifeof`, a close. -/
example :
    let f : List RawLine := [⟨[.chr 49], some [.sp]⟩, ⟨[.chr 50, .bg], some [.sp]⟩, ⟨[.chr 51, .eg], some [.sp]⟩,
      ⟨[.chr 52], some [.sp]⟩, ⟨[.chr 53], some [.sp]⟩]
    safeRun [(0, f)] (initR [])
      [.openin 3 0, .setElc (.other 42), .openin 15 0, .read false 3 100, .ifeof 3, .bgroup, .read true 15 101,
       .read false 15 100, .egroup, .use 100, .closein 3, .ifeof 3, .ifeof 15] = true := by
  decide +kernel

/-- The empty file: both deliver `\par` and close the stream. -/
theorem read_empty_file : readFile (ensureNewline []) 0 [] = texReadFile [] 0 [] := by decide

/-- The full statement, which the code violates. -/
def ifeof_after_appended_line_full_statement : Prop :=
  ∀ (ls : List TLine), readFile (ensureNewline ls) 0 [] = texReadFile ls 0 []

/-- Witness: a one-line file `A`. After one `\read` the model has dropped the stream
(`\ifeof` true) while TeX keeps it open; TeX's second `\read` returns `\par` and closes
(C19-b). -/
theorem ifeof_after_appended_line_full_statement_false : ¬ ifeof_after_appended_line_full_statement := by
  intro h
  have := h [[.chr 65, .sp]]
  revert this
  decide +kernel

example :
    (runOps false [(0, [⟨[.chr 65], some [.sp]⟩])] [] [.openin 0 0, .read false 0 100, .ifeof 0]).out = [chrT] ∧
    (runOps true [(0, [⟨[.chr 65], some [.sp]⟩])] [] [.openin 0 0, .read false 0 100, .ifeof 0]).out = [chrF] ∧
    (runOps true [(0, [⟨[.chr 65], some [.sp]⟩])] [] [.openin 0 0, .read false 0 100, .read false 0 101, .use 101, .ifeof 0]).out
      = [chrL, .par, chrR, chrT] := by decide

/-- **C19-b, exactly.** On every non-empty list of lines, for every brace depth and
accumulator, the model's `\read` is TeX's `\read` (§485–§486) followed by one extra action:
a stream that is left open on *zero* real lines is closed at once (`closeEmpty`). Same
tokens, same error, same remaining lines in every other case. (The full statement
`ifeof_after_appended_line_full_statement` fails exactly because of `closeEmpty`.) -/
theorem read_is_tex_read_closing_early (ls : List TLine) (d : Nat) (acc : List Tok) (h : ls ≠ []) :
    readFile ls d acc = closeEmpty (texReadFile ls d acc) :=
  readFile_eq_closeEmpty_tex ls d acc h

/-- Consequences: whenever TeX's `\read` succeeds so does the model's, with the same tokens;
they differ only in `some []` versus `none`. -/
theorem read_tokens_are_tex_tokens (ls : List TLine) (h : ls ≠ []) (toks : List Tok) (rem : Option (List TLine))
    (ht : texReadFile ls 0 [] = .ok toks rem) :
    ∃ rem', readFile ls 0 [] = .ok toks rem' ∧ (rem' = rem ∨ (rem = some [] ∧ rem' = none)) := by
  rw [read_is_tex_read_closing_early ls 0 [] h, ht]
  cases rem with
  | none => exact ⟨none, rfl, Or.inl rfl⟩
  | some r =>
    cases r with
    | nil => exact ⟨none, rfl, Or.inr ⟨rfl, rfl⟩⟩
    | cons a b => exact ⟨some (a :: b), rfl, Or.inl rfl⟩

example : readFile [[.chr 65, .sp]] 0 [] = closeEmpty (texReadFile [[.chr 65, .sp]] 0 []) ∧
    texReadFile [[.chr 65, .sp]] 0 [] = .ok [.chr 65, .sp] (some []) := by decide

/-- **C19-a, exactly.** For every well-formed tree (no hypothesis on where `\endinput` stands)
the machine delivers what *TeX* delivers for the program in which the rest of the line after
every `\endinput` (and after every macro call whose body holds one) has been deleted
(`truncLines`, `truncFS`): `Lexer::end` is TeX's `\endinput` plus that deletion and nothing
else. The truncated program satisfies the hypothesis of `endinput_finishes_line_partial`. -/
theorem endinput_is_tex_on_truncated_program (fs : FS) (d : Nat) (main : File) (hd : d ≤ 99)
    (hwf : WF fs d main = true) :
    (∃ N, ∀ fuel, N ≤ fuel →
      run fs fuel main = .ok (inlineToks true (truncFS fs) d (truncLines main))) ∧
    endLastLines (truncLines main) = true := by
  rw [← inlineToks_trunc]
  exact ⟨run_wf fs d main hd hwf, endLast_truncLines main⟩

/-- `A\endinput B` ⏎ `C` is truncated to `A\endinput` ⏎ `C`, on which TeX delivers `A`. -/
example :
    truncLines [[.atom (.tok (.chr 65)), .atom .endinput, .atom (.tok (.chr 66))], [.atom (.tok (.chr 67))]]
      = [[.atom (.tok (.chr 65)), .atom .endinput], [.atom (.tok (.chr 67))]] ∧
    inlineToks true (truncFS []) 0
      (truncLines [[.atom (.tok (.chr 65)), .atom .endinput, .atom (.tok (.chr 66))], [.atom (.tok (.chr 67))]])
      = [.chr 65] := by decide

/-- **The input stack: `\input` among pending macro tokens.** If the next pending token of the
current source is `\input f` (it came from a macro body) with further pending tokens `p`, and
`f`'s tree is well-formed within the nesting budget that the height of the stack leaves, the
machine reaches the state in which exactly `f`'s tokens have been delivered and the *same*
source continues with `p` — before the rest `cur` of its current line and its remaining lines
`rest`, both untouched, as are the suspended sources `below`. (`Source.expansions` stays with
the source that did the `\input`; `next_unexpanded` pops pending tokens before it asks the
lexer, also right after a source has ended.) -/
theorem input_returns_to_pending_tokens (fs : FS) (d : Nat) (f : Nat) (hf : wfFile fs (d + 1) f = true)
    (p : List Atom) (cur : List Item) (rest : List Line) (below : List Source) (out : List Tok)
    (h1 : 1 ≤ below.length) (hle : below.length + (d + 1) ≤ 100) :
    ∃ n, iter fs n ⟨⟨.input f :: p, cur, rest⟩ :: below, out, .running⟩
      = ⟨⟨p, cur, rest⟩ :: below, out ++ denFile false fs (d + 1) f, .running⟩ :=
  Delivers.step (input_run (files_run fs (d + 1) below.length hle) hf ⟨p, cur, rest⟩) out

/-- Non-vacuity: `\m` with body `\input f X`, `f` = `B`, then `Y` on the line: `B X Y`. -/
example :
    run [(0, [[.atom (.tok (.chr 66))]])] 30
      [[.call [.input 0, .tok (.chr 88)], .atom (.tok (.chr 89))]] = .ok [.chr 66, .chr 88, .chr 89] := by
  decide +kernel

/-- **Which tokens end a file name.** For every token category the code's rule is TeX's
(§526): every character token except a space belongs to the name — also `{ } $ & # ^ _` —
a space ends it and is consumed, a control sequence or an active character ends it and stays.
Hence the scanned name and the number of tokens consumed agree on every token list. -/
theorem name_tokens_are_tex (cat : Nat) : nameTokCode cat = nameTokTeX cat := by
  by_cases hl : cat < 16
  · -- the sixteen categories a token can have
    have small : ∀ c, c < 16 → nameTokCode c = nameTokTeX c := by decide +kernel
    exact small cat hl
  · -- beyond them the code sees a command reference, TeX a command code above `other_char`
    have hmem : cat ∉ [1, 2, 3, 4, 6, 7, 8, 11, 12] := by
      simp only [List.mem_cons, List.mem_nil_iff, or_false]; omega
    have h10 : cat ≠ 10 := by omega
    rw [nameTokCode, nameTokTeX, if_neg h10, if_neg h10, if_neg hmem, if_pos (.inr (Nat.le_of_not_lt hl))]

theorem scanned_name_is_tex (toks : List (Nat × Nat)) : takeName nameTokCode toks = takeName nameTokTeX toks := by
  have : nameTokCode = nameTokTeX := funext name_tokens_are_tex
  rw [this]

/-- `ch_o␣X`: the name is `ch_o` (4 characters, the `_` of category 8 included), 5 tokens are
consumed; `a\relax`: the name is `a`, one token consumed; `a{$}~`: braces and `$` belong to the
name, the active `~` ends it and stays (4 tokens consumed). -/
example :
    takeName nameTokTeX [(99, 11), (104, 11), (95, 8), (111, 11), (32, 10), (88, 11)] = ([99, 104, 95, 111], 5) ∧
    takeName nameTokCode [(97, 11), (0, 16)] = ([97], 1) ∧
    takeName nameTokTeX [(97, 11), (123, 1), (36, 3), (125, 2), (126, 13)] = ([97, 123, 36, 125], 4) := by decide

end C19
