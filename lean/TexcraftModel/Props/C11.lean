/-
C11 — TFM↔PL conversion is an idempotent normalisation that preserves the font.

Theorems about the models `Model/C11*.lean` (proofs in `Lemmas/C11*.lean`), layer by layer: the
algorithmic parts of the lig/kern conversion (`pack_entrypoints`, `unpack_kerns`/`pack_kerns`, the rule
function, tftopl's normalisation of the instruction list and its LIGTABLE printer and parser, the
encoding of words), the dimension tables, and the three layers at byte level — lig/kern (`predict`),
characters (`charsTrip`), header (`headerTrip`) — whose models the harness ties to the real bytes of t1.

PARTIAL (DESIGN 5.12): the theorems are per layer. That the layers make up the whole file —
byte-for-byte `t1 = t2`, no warning on the second trip — and what no layer models (the PL lexer, the
property lists other than LIGTABLE as text, the parameter words, the NEXTLARGER/VARCHAR checks) is
established by the correspondence harness only (`harness/src/bin/c11.rs`: t1 = t2 bytewise on every
corpus and generated font).
-/
import TexcraftModel.Model.C05
import TexcraftModel.Model.C11
import TexcraftModel.Model.C11Bridge
import TexcraftModel.Lemmas.C11Pack
import TexcraftModel.Lemmas.C11Boundary
import TexcraftModel.Lemmas.C11Kerns
import TexcraftModel.Lemmas.C11Dims
import TexcraftModel.Lemmas.C11Rule
import TexcraftModel.Lemmas.C11Sem
import TexcraftModel.Model.C11Norm
import TexcraftModel.Lemmas.C11Norm
import TexcraftModel.Lemmas.C11NormPack
import TexcraftModel.Lemmas.C11Parse
import TexcraftModel.Model.C11Words
import TexcraftModel.Lemmas.C11Words
import TexcraftModel.Model.C11Predict
import TexcraftModel.Lemmas.C11Predict
import TexcraftModel.Model.C11Layers
import TexcraftModel.Lemmas.C11Layers
import TexcraftModel.Props.C17
import TexcraftModel.Model.C11Header
import TexcraftModel.Lemmas.C11Header

namespace C11.Thm
open C11

/-- **pack_preserves.** For a PL-level program (no redirect words, SKIPs inside the table, every
label in front of a step: `wf`) and entry points with distinct characters: if
`pack_entrypoints` returns, then for every character `c` with entry point `e` the returned
map has a byte `e8 ≤ 255` for `c`, `unpack_entrypoint e8` succeeds on the packed table, and
the chain of instructions it starts (`instructions_for_entrypoint`) is exactly the chain `e`
started in the original table — with or without redirect words, with or without a boundary
character, including "location 0 does double duty". -/
theorem pack_preserves {p : Prog} {entries : List (Nat × Nat)} {P : Prog} {pe : List (Nat × Nat)}
    (h : pack p entries = some (P, pe)) (hwf : wf p entries = true)
    (hnd : (entries.map (·.1)).Nodup) :
    ∀ ce ∈ entries, entryOk p.instrs P.instrs pe ce = true := by
  obtain ⟨F, Q, f, _, rfl, rfl, hun⟩ := C11.pack_spec h hwf
  obtain ⟨_, hcl, hent, _⟩ := wf_parts hwf
  intro ce hce
  exact entryOk_of (lookup_map_nodup f entries hnd ce hce) (hun ce hce).1 (hun ce hce).2
    (chain_embedded _ _ _ _ hcl (hent ce hce))

/-- Non-vacuity: a program with a boundary char whose two labels need redirect words
(entry points 255 and 256 of a 300-step table), "location 0 does double duty". -/
example :
    let p : Prog := ⟨(List.range 300).map (fun i => ⟨some 0, i % 7, .kern i⟩) ++ [⟨none, 1, .kern 5⟩], none, some 65⟩
    let es := [(97, 255), (98, 256), (99, 3)]
    wf p es = true ∧ (es.map (·.1)).Nodup ∧
      (pack p es).map (·.2) = some [(97, 1), (98, 0), (99, 5)] := by
  decide +kernel

/-- **pack_boundary.** What the `.tfm` reader recovers from the packed words: the same
boundary char (from word 0) and, when the program has a left-boundary entry point, a
left-boundary entry point (from the last word) that starts the original chain. -/
theorem pack_boundary {p : Prog} {entries : List (Nat × Nat)} {P : Prog} {pe : List (Nat × Nat)}
    (h : pack p entries = some (P, pe)) (hwf : wf p entries = true) : boundaryOk p P = true :=
  C11.pack_boundary h hwf

/-- **pack_spec.** The executable specification that the driver evaluates on the *real*
`pack_entrypoints` output holds of the model's output (so the model and the specification can never differ). -/
theorem pack_spec {p : Prog} {entries : List (Nat × Nat)} {P : Prog} {pe : List (Nat × Nat)}
    (h : pack p entries = some (P, pe)) (hwf : wf p entries = true)
    (hnd : (entries.map (·.1)).Nodup) : checkPack p entries P pe = true := by
  simp only [checkPack, Bool.and_eq_true, List.all_eq_true, beq_iff_eq]
  refine ⟨⟨pack_preserves h hwf hnd, ?_⟩, C11.pack_boundary h hwf⟩
  obtain ⟨_, _, f, _, _, rfl, _⟩ := C11.pack_spec h hwf
  simp [List.map_map, Function.comp_def]

/-- **pack_total.** With at most 256 distinct entry points — there are only 256 characters —
`pack_entrypoints` does not panic (this is the theorem fix C11-a makes true: before it the
redirect counter was a `u8` and the 256th redirect overflowed it). -/
theorem pack_total (p : Prog) (entries : List (Nat × Nat))
    (hlen : (descDistinct (entries.map (·.2))).length ≤ 256) : ∃ r, pack p entries = some r := by
  obtain ⟨k, hk, _, hst⟩ := packLoop_init p.rb.isSome _ (descDistinct_sorted (entries.map (·.2)))
  rw [if_pos (Nat.le_trans hk hlen)] at hst
  obtain ⟨pe, hpe⟩ := mapEntries_total fun ce hce =>
    finalSt_keys p.rb.isSome _ k ce.2 (mem_descDistinct.mpr (List.mem_map_of_mem hce))
  exact ⟨_, pack_of_loop p entries _ pe hst hpe⟩

/-- Non-vacuity of `pack_total` at the limit: 256 characters with the 256 distinct entry
points 1..256 (all of them need a redirect word) — the input on which the unfixed code panics. -/
example :
    let es := (List.range 256).map (fun c => (c, c + 1))
    (descDistinct (es.map (·.2))).length = 256 ∧
      ((pack ⟨(List.range 257).map (fun i => ⟨none, i % 5, .kern i⟩), none, none⟩ es).map
        (fun r => (r.1.instrs.length, r.2.take 2, r.2.drop 254))) =
        some (513, [(0, 255), (1, 254)], [(254, 1), (255, 0)]) := by
  intro es
  -- the entry points 256, 255, …, 1 in the order the loop visits them
  have hds : descDistinct (es.map (·.2)) = (List.range 256).map (256 - ·) := by
    have hsnd : es.map (·.2) = (List.range 256).map (· + 1) := List.map_map ..
    have hasc : ((List.range 256).map (· + 1)).Pairwise (· < ·) := by
      rw [List.pairwise_map]
      exact List.Pairwise.imp (fun h => Nat.succ_lt_succ h) List.pairwise_lt_range
    rw [hsnd, descDistinct_of_ascending hasc]
    decide +kernel
  -- every one of them gets a redirect word: 256 + 0, 255 + 1, … all exceed 255
  have hk : nRedirects 0 ((List.range 256).map (256 - ·)) = 256 := by decide +kernel
  have hloop := packLoop_run false ((List.range 256).map (256 - ·)) 0 (initSt false) 256 rfl
    (hds ▸ descDistinct_sorted _) (by decide) hk
  rw [List.take_of_length_le (by simp), List.drop_of_length_le (by simp)] at hloop
  simp only [show (initSt false).offset = 0 from rfl, Nat.zero_add, Nat.le_refl, if_true] at hloop
  generalize hst : LoopSt.mk _ _ _ _ = st at hloop
  rw [← hds] at hloop
  -- entry point `c + 1` has slot `255 - c`, so character `c` is sent there
  have hasg : (((List.range 256).map (256 - ·)).zipIdx 0).reverse =
      (List.range 256).map (fun c => (c + 1, 255 - c)) := by decide +kernel
  have hme : mapEntries st.assign es = some (es.map fun ce => (ce.1, 256 - ce.2)) := by
    apply mapEntries_map (256 - ·)
    intro ce hce
    obtain ⟨c, hc, rfl⟩ := List.mem_map.mp hce
    have := lookup_map_of_inj (· + 1) (255 - ·) (fun _ _ => Nat.succ.inj) (List.range 256) c hc
    simp only [← hst, hasg, show (initSt false).assign = [] from rfl, List.map_nil, List.reverse_nil, List.nil_append,
      List.append_nil]
    rw [this, show 255 - c = 256 - (c + 1) by omega]
  refine ⟨by rw [hds]; simp, ?_⟩
  rw [pack_of_loop ⟨(List.range 257).map (fun i => ⟨none, i % 5, .kern i⟩), none, none⟩ es st _ hloop hme]
  subst hst
  simp only [es]
  decide +kernel

/-- **pack_idempotent.** Reading the packed table the way the PL printer and parser do —
redirect words omitted, a label's position = number of non-redirect words before it — gives
back exactly the program (`stripRedirects`), boundary char, left-boundary position and entry
points `pack` was applied to. `pack` being a function, packing the re-read program
reproduces the packed table: on the lig/kern part the second trip is the identity. -/
theorem pack_idempotent {p : Prog} {entries : List (Nat × Nat)} {P : Prog} {pe : List (Nat × Nat)}
    (h : pack p entries = some (P, pe)) (hwf : wf p entries = true)
    (hnd : (entries.map (·.1)).Nodup) :
    stripRedirects P.instrs = p.instrs ∧ P.rb = p.rb ∧
      P.lb.map (plIndex P.instrs) = p.lb ∧
      ∀ ce ∈ entries, ∃ u e', lookup pe ce.1 = some u ∧ unpackEntry P.instrs u = some e' ∧
        plIndex P.instrs e' = ce.2 := by
  obtain ⟨F, Q, f, hf, rfl, rfl, hun⟩ := C11.pack_spec h hwf
  obtain ⟨hnr, _, hent, _⟩ := wf_parts hwf
  refine ⟨stripRedirects_embedded _ _ _ hf.front_redirect hf.post_redirect hnr, rfl, ?_, fun ce hce => ?_⟩
  · simp only [framed, Option.map_map, Function.comp_def]
    exact (map_marks_id _ fun m hm =>
      plIndex_embedded _ _ _ _ hf.front_redirect hnr (Nat.le_of_lt (wf_marks hwf m hm))).1
  · exact ⟨f ce.2, F.length + ce.2, lookup_map_nodup f entries hnd ce hce, (hun ce hce).2,
      plIndex_embedded _ _ _ _ hf.front_redirect hnr (Nat.le_of_lt (hent ce hce))⟩

/-- **ligkern_meaning_preserved.** `pl_to_tfm` turns the PL-level program `p` (kern values
inline, 16-bit label positions `entries`) into the TFM-level program `pack (unpack_kerns p)`
with a kerns array and byte entry points. Read back as TeX / `compile_from_tfm_file` read it
(byte entry points unpacked through the redirect words, left-boundary entry point from the
trailing word, `KernAtIndex` through the array), it has the same `C05.rule` as `p` for every
left character or the left boundary and every right character — hence (C05's
`compiled_eq_interp`) identical behaviour on every word. -/
theorem ligkern_meaning_preserved {p : Prog} {entries : List (Nat × Nat)} {P : Prog} {pe : List (Nat × Nat)}
    (hk : noKernAt p.instrs = true) (hwf : wf p entries = true)
    (h : pack ⟨(unpackKerns p.instrs).1, p.lb, p.rb⟩ entries = some (P, pe)) :
    ∀ (l : Option Nat) (r : Nat),
      C05.rule (toC05 P (unpackAll P.instrs pe) (unpackKerns p.instrs).2) l r =
        C05.rule (toC05 p entries []) l r := by
  intro l r
  rw [rule_pack h (wf_unpackKerns hwf hk) (unpackKerns p.instrs).2 l r, rule_packKerns,
    C11.kerns_roundtrip p.instrs hk]

/-- Packing alone preserves the rule function, whatever the kerns array. -/
theorem ligkern_meaning_preserved_pack {p : Prog} {entries : List (Nat × Nat)} {P : Prog} {pe : List (Nat × Nat)}
    (h : pack p entries = some (P, pe)) (hwf : wf p entries = true) (kerns : List Int) :
    ∀ (l : Option Nat) (r : Nat),
      C05.rule (toC05 P (unpackAll P.instrs pe) kerns) l r = C05.rule (toC05 p entries kerns) l r :=
  rule_pack h hwf kerns

/-- Non-vacuity: a program with a ligature, two kerns of equal value, a label behind
position 255 and a left-boundary program; the packed program has a redirect word and the
rule of the redirected character is found through it. -/
example :
    let body : List Instr := (List.range 256).map (fun _ => ⟨some 0, 200, .kern 7⟩)
    let p : Prog := ⟨body ++ [⟨some 0, 66, .lig 67 7⟩, ⟨none, 68, .kern 7⟩], some 3, some 66⟩
    let es := [(65, 256), (66, 0)]
    noKernAt p.instrs = true ∧ wf p es = true ∧
      (∃ P pe, pack ⟨(unpackKerns p.instrs).1, p.lb, p.rb⟩ es = some (P, pe) ∧
        pe = [(65, 0), (66, 1)] ∧
        C05.rule (toC05 P (unpackAll P.instrs pe) (unpackKerns p.instrs).2) (some 65) 68 = some (.kern 7) ∧
        C05.rule (toC05 P (unpackAll P.instrs pe) (unpackKerns p.instrs).2) (some 65) 66 = some (.lig 67 .neither)) := by
  intro body p es
  -- `pack` is evaluated once, together with what is claimed of its result
  have key : (pack ⟨(unpackKerns p.instrs).1, p.lb, p.rb⟩ es).map (fun r =>
      (r.2, C05.rule (toC05 r.1 (unpackAll r.1.instrs r.2) (unpackKerns p.instrs).2) (some 65) 68,
        C05.rule (toC05 r.1 (unpackAll r.1.instrs r.2) (unpackKerns p.instrs).2) (some 65) 66)) =
      some ([(65, 0), (66, 1)], some (.kern 7), some (.lig 67 .neither)) := by
    simp only [body, p, es]
    decide +kernel
  refine ⟨by simp only [body, p]; decide +kernel, by simp only [body, p, es]; decide +kernel, ?_⟩
  cases hpk : pack ⟨(unpackKerns p.instrs).1, p.lb, p.rb⟩ es with
  | none => rw [hpk] at key; cases key
  | some r =>
    rw [hpk] at key
    simp only [Option.map_some, Option.some.injEq, Prod.mk.injEq] at key
    exact ⟨r.1, r.2, rfl, key.1, key.2.1, key.2.2⟩

/-- **normalise_preserves_rule.** Dropping the unreachable words, renumbering the SKIPs over
them and turning entry points into label positions (`normalise` = closed form of what the
LIGTABLE printer writes and the parser reads back) does not change `C05.rule` on any left
character or boundary and right character, whatever the kerns array. Hypotheses `nwf`:
SKIPs inside the table, entry points address words, the left-boundary entry point addresses a
word other than the last, no reachable word is a redirect word. -/
theorem normalise_preserves_rule {p : Prog} {es : List (Nat × Nat)} (h : nwf p es = true) (ks : List Int) :
    ∀ (l : Option Nat) (r : Nat),
      C05.rule (toC05 (normalise p es).1 (normalise p es).2 ks) l r = C05.rule (toC05 p es ks) l r :=
  normalise_rule h ks

/-- **normalise_canonical.** The normalised program is a well-formed PL-level program (`wf`: no
redirect words, SKIPs inside, every label in front of a step) in which *every* step is
reachable from a label, and it labels the same characters. -/
theorem normalise_canonical {p : Prog} {es : List (Nat × Nat)} (h : nwf p es = true) :
    wf (normalise p es).1 (normalise p es).2 = true ∧ AllReach (normalise p es).1 (normalise p es).2 ∧
      (normalise p es).2.map (·.1) = es.map (·.1) :=
  normalise_wf_allReach h

/-- **pack_nwf.** The table `pack` builds from a well-formed PL-level program, with its
entry points unpacked as the reader unpacks them, satisfies `nwf`. -/
theorem pack_nwf {q : Prog} {es : List (Nat × Nat)} {P : Prog} {pe : List (Nat × Nat)}
    (h : pack q es = some (P, pe)) (hwf : wf q es = true) : nwf P (unpackAll P.instrs pe) = true := by
  obtain ⟨F, Q, hf, rfl, hun⟩ := pack_unpackAll h hwf
  rw [hun]
  refine nwf_framed F Q hwf (closed_of_next_none _ fun i hi => (hf.front i hi).1) ?_ hf.post_ne_nil
  rw [hf.post]
  cases q.lb <;> rfl

/-- **normalise_pack.** `normalise ∘ unpack ∘ pack = id` on a well-formed PL-level program all
of whose steps are reachable: what tftopl makes of the table pltotf wrote is the program
(and the label positions) pltotf was given. -/
theorem normalise_pack {q : Prog} {es : List (Nat × Nat)} {P : Prog} {pe : List (Nat × Nat)}
    (h : pack q es = some (P, pe)) (hwf : wf q es = true) (hall : AllReach q es) :
    normalise P (unpackAll P.instrs pe) = (q, es) := by
  obtain ⟨F, Q, hf, rfl, hun⟩ := pack_unpackAll h hwf
  rw [hun]
  exact normalise_framed F Q hwf hall hf.post_ne_nil

/-- **normalise_idempotent (second trip = identity on the lig/kern program).** Start from any
TFM-level program `P` with unpacked entry points `es` (`nwf`). First trip: tftopl prints
`normalise P es = (q, es')`, pltotf packs it into `P1`. Second trip: tftopl's view of `P1` is
again exactly `(q, es')` — so pltotf, a function of that view, writes `P1` again — and `P1`
has the same rule function as `P`. (Literally `normalise (normalise P)` is not the
operation the pipeline performs: the second `normalise` runs on the *packed* table.) -/
theorem normalise_idempotent {P : Prog} {es : List (Nat × Nat)} {P1 : Prog} {pe1 : List (Nat × Nat)}
    (h : nwf P es = true)
    (hp : pack (normalise P es).1 (normalise P es).2 = some (P1, pe1)) (ks : List Int) :
    normalise P1 (unpackAll P1.instrs pe1) = normalise P es ∧
      ∀ (l : Option Nat) (r : Nat),
        C05.rule (toC05 P1 (unpackAll P1.instrs pe1) ks) l r = C05.rule (toC05 P es ks) l r := by
  obtain ⟨hwf, hall, _⟩ := normalise_wf_allReach h
  refine ⟨normalise_pack hp hwf hall, ?_⟩
  intro l r
  rw [rule_pack hp hwf ks l r, normalise_rule h ks l r]

/-- **printParse_eq_normalise.** The transcribed passes — `printItems` (the LIGTABLE part of
`pl::File::lower`, driven by `reachable_array` and `ReachableIter`'s adjusted SKIPs) followed
by `parseItems` (the `LigTable` arm of `pl::File::from_ast` and the final SKIP 0 → STOP) —
compose to the closed form `normalise` the theorems above are about: same instruction list,
same boundary data, and every character gets the same label position; whenever no reachable
word is a redirect word and the characters are distinct. -/
theorem printParse_eq_normalise {p : Prog} {es : List (Nat × Nat)}
    (hnr : noReachRedirect p.instrs (reachable p es) = true) (hnd : (es.map (·.1)).Nodup) :
    (printParse p es).1 = (normalise p es).1 ∧
      ∀ c, lookup (printParse p es).2 c = lookup (normalise p es).2 c :=
  printParse_normalise hnr hnd

/-- Non-vacuity: a TFM-level table with a boundary-char carrier in front, an unreachable step
that a SKIP jumps over, and a left-boundary word behind. The unreachable step and the two
redirect words disappear, `SKIP 1` becomes `SKIP 0`, the labels move from 1, 4 to 0, 2. -/
example :
    let P : Prog := ⟨[⟨none, 65, .redirect 0 true⟩, ⟨some 1, 66, .kern 5⟩, ⟨none, 67, .kern 6⟩,
      ⟨none, 68, .lig 69 7⟩, ⟨none, 70, .kern 7⟩, ⟨none, 0, .redirect 4 false⟩], some 4, some 65⟩
    let es := [(97, 1)]
    nwf P es = true ∧
      normalise P es = (⟨[⟨some 0, 66, .kern 5⟩, ⟨none, 68, .lig 69 7⟩, ⟨none, 70, .kern 7⟩], some 2, some 65⟩, [(97, 0)]) ∧
      printParse P es = normalise P es ∧
      (∃ P1 pe1, pack (normalise P es).1 (normalise P es).2 = some (P1, pe1) ∧
        normalise P1 (unpackAll P1.instrs pe1) = normalise P es) := by
  refine ⟨by decide, by decide, by decide, _, _, rfl, by decide⟩

/-- **Known finding C11-f (negation at the witness).** A redirect word that a chain reaches
(word 2, reached by falling through from word 1) while a SKIP jumps over it (word 0, `SKIP 2`):
`noReachRedirect` fails, the printed `SKIP 2` now leaves the three-step table, and the pair
`(97, 67)` loses its kern — `C05.rule` differs before and after. -/
example :
    let P : Prog := ⟨[⟨some 2, 65, .kern 5⟩, ⟨some 0, 66, .kern 6⟩, ⟨none, 0, .redirect 0 true⟩, ⟨none, 67, .kern 7⟩], none, none⟩
    let es := [(97, 0), (98, 1)]
    nwf P es = false ∧
      C05.rule (toC05 P es []) (some 97) 67 = some (.kern 7) ∧
      C05.rule (toC05 (printParse P es).1 (printParse P es).2 []) (some 97) 67 = none := by
  refine ⟨by decide, by decide, by decide⟩

/-- Outside `nwf` the rule does change — a SKIP chain that runs into a redirect word whose
right character matches (the "phantom" pair of C05-a) loses that pair, which C05's `rule`
reports as a non-executed `none` anyway; and a left-boundary entry point that addresses the
*last* word is dropped (the TFtoPL quirk `reachable_array` reproduces). Witness for the
latter: -/
example :
    let P : Prog := ⟨[⟨none, 66, .kern 5⟩], some 0, none⟩
    nwf P [] = false ∧ (normalise P []).1.lb = none ∧ (normalise P []).1.instrs = [] := by decide

/-- **word_roundtrip.** Decoding (as TeX / TFtoPL.2014.13 read a word: skip byte < 128 = steps
to pass over, 128 = stop, > 128 = unconditional stop with a restart address) an encoded
(serialize.rs) LIG/KRN step gives the step back — in particular SKIP counts up to the
format's maximum 127 survive. The harness hands the *raw* words of t0, t1 to this decoder and
compares `C05.rule` on them, independently of the Rust reader. -/
theorem word_roundtrip (rb : Option Nat) (i : Instr) (w : Word) (hok : wordOk i = true)
    (hop : i.op.isRedirect = false) (he : encodeWord rb i = some w) : decodeWord w = i := by
  obtain ⟨h1, h2, _⟩ := encodeWord_spec he
  rw [h1, h2 (rightOk_of_not_redirect rb hop)]
  obtain ⟨next, right, op⟩ := i
  cases op with
  | redirect u f => cases hop
  | _ => rfl

/-- A redirect word decodes to an unconditional stop with the same restart address. -/
theorem word_roundtrip_redirect_word (rb next : Option Nat) (right u : Nat) (flag : Bool) (w : Word)
    (hu : u < 65536) (he : encodeWord rb ⟨next, right, .redirect u flag⟩ = some w) :
    decodeWord w = ⟨none, w.b1, .redirect u true⟩ := by
  have hnext : next = none := by
    have := encodeWord_ok he
    simp only [wordOk, Bool.and_eq_true, Option.isNone_iff_eq_none] at this
    exact this.2.2
  rw [(encodeWord_spec he).1, hnext]
  rfl

/-- The "skip byte = 255" test by which the reader finds the boundary character (word 0)
and the left-boundary program (last word) is `skip255`, the predicate `pack_boundary` uses. -/
theorem skip_byte_255 (rb : Option Nat) (i : Instr) (w : Word) (hok : wordOk i = true)
    (he : encodeWord rb i = some w) : (w.b0 = 255) ↔ skip255 rb i = true :=
  (encodeWord_spec he).2.2.1

example : decodeWord ⟨127, 65, 128, 3⟩ = ⟨some 127, 65, .kernAt 3⟩ ∧
    decodeWord ⟨128, 65, 5, 66⟩ = ⟨none, 65, .lig 66 4⟩ ∧
    encodeWord none ⟨some 127, 65, .kernAt 3⟩ = some ⟨127, 65, 128, 3⟩ := by decide

/-- **seven_bit_safe_sound.** PLtoTF's syntactic test on the lig/kern program (`ligSafe`, the
lig/kern part of `safe7`, which the harness evaluates on the raw bytes of t0 to decide when
`NotReallySevenBitSafe` may be raised and what flag t1 must carry) implies the semantic
statement: a seven-bit left character and a seven-bit right character never have a ligature
rule that inserts an eight-bit character. -/
theorem seven_bit_safe_sound (instrs : List Instr) (lb rb : Option Nat) (entries : List (Nat × Nat)) (ks : List Int)
    (h : ligSafe instrs entries = true) (c r z : Nat) (p : C05.PostLig) (hc : c < 128) (hr : r < 128)
    (hrule : C05.rule (toC05 ⟨instrs, lb, rb⟩ entries ks) (some c) r = some (.lig z p)) : z < 128 := by
  rw [rule_toC05] at hrule
  obtain ⟨e, he, hch⟩ := Option.bind_eq_some_iff.mp hrule
  obtain ⟨i, him, hir, hop⟩ := chainRule_some hch
  simp only [ligSafe, List.all_eq_true, Bool.or_eq_true, decide_eq_true_eq] at h
  -- the step found on the chain of `c` is one of those `ligSafe` has looked at
  rcases h (c, e) (lookup_mem he) with h1 | h1
  · omega
  · rcases h1 i him with h2 | h2
    · omega
    · cases hio : i.op with
      | lig z' p' =>
        simp only [hio, toC05Op, C05.resolveOp, Option.some.injEq, C05.Op.lig.injEq] at hop
        simp only [hio, decide_eq_true_eq] at h2
        omega
      | _ => simp [hio, toC05Op, C05.resolveOp] at hop

/-- A step `a + 0xA8 → 0xE4` of a seven-bit character does not make the font unsafe (the right
character is not seven-bit); the same step on a seven-bit right character does. -/
example : ligSafe [⟨none, 0xA8, .lig 0xE4 7⟩] [(97, 0)] = true ∧
    ligSafe [⟨none, 0x28, .lig 0xE4 7⟩] [(97, 0)] = false := by decide

/-! ## The lig/kern layer of the property at byte level (`Model/C11Predict.lean`)

`predict` is the whole lig/kern part of `pl_to_tfm ∘ tfm_to_pl` on the raw sub-file (words,
lig remainders, kerns); the harness requires its output to *equal the bytes of the real t1*
(stream `predict`), so these two theorems are the property itself for the lig/kern layer. -/

/-- **roundtrip_ligkern_same_font.** For every raw lig/kern table in the quantifier (`rawOk`:
distinct characters, `nwf` of the decoded program) the table written by one trip has the same
`(left, right) ↦ operation` function — decoded from the bytes as TeX decodes them — as the
original, on every character pair and the left boundary. -/
theorem roundtrip_ligkern_same_font {b b1 : RawLK} (h : rawOk b = true) (hp : predict b = some b1) :
    ∀ (l : Option Nat) (r : Nat), rawRule b1 l r = rawRule b l r := by
  obtain ⟨hwf, _, hnk, hrule⟩ := plOf_props h
  obtain ⟨P, pe, ws, hpack, hm, rfl⟩ := predict_eq_some hp
  intro l r
  simp only [rawRule]
  rw [rule_written hpack (wf_unpackKerns hwf hnk) hm _ l r]
  rw [ligkern_meaning_preserved hnk hwf hpack l r]
  exact hrule l r

/-- **roundtrip_ligkern_idempotent.** The second trip writes the same lig/kern sub-file,
byte for byte: `predict (predict b) = predict b`. -/
theorem roundtrip_ligkern_idempotent {b b1 : RawLK} (h : rawOk b = true) (hp : predict b = some b1) :
    predict b1 = some b1 := by
  have hpl := plOf_predict h hp
  have : predict b1 = predict b := by simp only [predict, hpl]
  rw [this, hp]

/-- Non-vacuity: a 5-word table of a font without boundary char — word 0 is an unreachable
step, character 97 starts at word 1 (`SKIP 1` over the unreachable word 2), character 98 at
word 3, kerns given by index. One trip drops the two unreachable words, renumbers the SKIP
and the entry points, and re-indexes the kerns; the result is a fixed point. -/
example :
    let b : RawLK := ⟨[⟨128, 70, 128, 1⟩, ⟨1, 65, 128, 1⟩, ⟨128, 66, 128, 0⟩, ⟨0, 67, 128, 0⟩, ⟨128, 68, 0, 69⟩],
      [(97, 1), (98, 3)], [5, 7]⟩
    rawOk b = true ∧
      predict b = some ⟨[⟨0, 65, 128, 0⟩, ⟨0, 67, 128, 1⟩, ⟨128, 68, 0, 69⟩], [(97, 0), (98, 1)], [7, 5]⟩ ∧
      (predict b).bind predict = predict b := by
  refine ⟨by decide, by decide, by decide⟩

/-! ## The character layer at byte level (`Model/C11Layers.lean`)

`charsTrip` is `pl_to_tfm ∘ tfm_to_pl` on the char_info words of the existing characters, the
four dimension tables and the recipe words; the harness requires its output to equal the bytes
of the real t1 (stream `chars`). The decimal text in between is exact by C17. -/

/-- **roundtrip_chars_same_values.** Every existing character keeps its code, its tag kind and
the width, height, depth and italic correction its index bytes select (in the *new* tables);
NEXTLARGER targets are copied; every VARCHAR character finds, under its new remainder, the
recipe tftopl printed for it (`REP` replaced by the character itself when it does not exist). -/
theorem roundtrip_chars_same_values (x : RawChars) (h : charsOk x = true) :
    (charsTrip x).rows.map (fun r => (r.code, r.tag, sel (charsTrip x).W r.wi, sel (charsTrip x).H r.hi,
        sel (charsTrip x).D r.di, sel (charsTrip x).I r.ii)) =
      x.rows.map (fun r => (r.code, r.tag, sel x.W r.wi, sel x.H r.hi, sel x.D r.di, sel x.I r.ii)) ∧
    (charsTrip x).rows.filterMap (fun r => if r.tag = 2 then some (r.code, r.rem) else none) =
      x.rows.filterMap (fun r => if r.tag = 2 then some (r.code, r.rem) else none) ∧
    (charsTrip x).rows.filterMap (fun r => if r.tag = 3 then (charsTrip x).ext[r.rem]? else none) =
      x.rows.filterMap (recipeOf x (x.rows.map (·.code))) := by
  refine ⟨?_, ?_, ?_⟩
  · obtain ⟨hr, hH, hD, hI⟩ := charsOk_parts h
    simp only [charsTrip]
    apply tripRows_map
    intro r hrm n
    obtain ⟨h1, h2, h3, h4⟩ := hr r hrm
    have e1 := sel_newWi x.W x.rows r hrm h1
    have e2 := sel_newIdx x.H (x.rows.map (·.hi)) r.hi hH h2 (List.mem_map_of_mem (f := (·.hi)) hrm)
    have e3 := sel_newIdx x.D (x.rows.map (·.di)) r.di hD h3 (List.mem_map_of_mem (f := (·.di)) hrm)
    have e4 := sel_newIdx x.I (x.rows.map (·.ii)) r.ii hI h4 (List.mem_map_of_mem (f := (·.ii)) hrm)
    simp only [tripRow]
    rw [e1, e2, e3, e4]
  · simp only [charsTrip]
    apply tripRows_filterMap
    intro r _ n
    simp only [tripRow]
    by_cases ht : r.tag = 2 <;> simp [ht]
  · have := ext_rows x (widthVals x.W x.rows) (x.rows.map (·.hi)) (x.rows.map (·.di)) (x.rows.map (·.ii))
      (x.rows.map (·.code)) (fun _ o => o) x.rows []
    simpa [charsTrip, newExt_eq] using this

/-- **roundtrip_chars_idempotent.** The second trip is the identity on the character layer:
index bytes, the four tables (zero first, distinct values ascending) and the recipe words. -/
theorem roundtrip_chars_idempotent (x : RawChars) (h : charsOk x = true) :
    charsTrip (charsTrip x) = charsTrip x := by
  obtain ⟨hr, _, _, _⟩ := charsOk_parts h
  generalize hwv : widthVals x.W x.rows = wv
  generalize hhis : x.rows.map (·.hi) = his
  generalize hdis : x.rows.map (·.di) = dis
  generalize hiis : x.rows.map (·.ii) = iis
  have hx' : charsTrip x = ⟨tripRows x wv his dis iis 0 x.rows, table wv, table (pushed x.H his),
      table (pushed x.D dis), table (pushed x.I iis), newExt x⟩ := by
    simp only [charsTrip, hwv, hhis, hdis, hiis]
  have hwv' : widthVals (table wv) (tripRows x wv his dis iis 0 x.rows) = wv := by
    exact (tripRows_filterMap x wv his dis iis (fun r => sel (table wv) r.wi) (fun r => sel x.W r.wi) x.rows 0
      fun r hrm n => hwv ▸ sel_newWi x.W x.rows r hrm (hr r hrm).1).trans hwv
  have hcol : ∀ (f : CharRow → Nat) (g : Nat → Nat), (∀ r n, f (tripRow x wv his dis iis n r) = g (f r)) →
      (tripRows x wv his dis iis 0 x.rows).map f = (x.rows.map f).map g := fun f g hfg => by
    rw [List.map_map]; exact tripRows_map _ _ _ _ _ _ _ _ _ (fun r _ n => hfg r n)
  have hhis' := hhis ▸ hcol (·.hi) (newIdx x.H his) fun _ _ => rfl
  have hdis' := hdis ▸ hcol (·.di) (newIdx x.D dis) fun _ _ => rfl
  have hiis' := hiis ▸ hcol (·.ii) (newIdx x.I iis) fun _ _ => rfl
  have hcodes : (tripRows x wv his dis iis 0 x.rows).map (·.code) = x.rows.map (·.code) :=
    tripRows_map _ _ _ _ _ _ _ _ _ (fun _ _ _ => rfl)
  rw [hx']
  simp only [charsTrip, hwv', hhis', hdis', hiis', pushed_stable]
  congr 1
  · apply tripRows_fixed
    intro r hrm n
    have e1 := hwv ▸ newWi_stable x.W x.rows r hrm (hr r hrm).1
    have e2 := newIdx_stable x.H his r.hi (hhis ▸ List.mem_map_of_mem (f := (·.hi)) hrm)
    have e3 := newIdx_stable x.D dis r.di (hdis ▸ List.mem_map_of_mem (f := (·.di)) hrm)
    have e4 := newIdx_stable x.I iis r.ii (hiis ▸ List.mem_map_of_mem (f := (·.ii)) hrm)
    simp only [tripRow, e1, e2, e3, e4, CharRow.mk.injEq, true_and]
    by_cases ht : r.tag = 3
    · simp [ht]
    · by_cases ht0 : r.tag = 0
      · simp [ht0]
      · simp [ht, ht0]
  · have := ext_fixed x wv his dis iis (x.rows.map (·.code)) x.rows []
      (fun r hrm => List.mem_map_of_mem (f := (·.code)) hrm)
    simp only [newExt, hcodes, List.nil_append, List.length_nil] at this ⊢
    exact this

/-- Non-vacuity: three characters, unsorted tables with a duplicate width, an explicit zero
depth at a non-zero index, a NEXTLARGER and a VARCHAR whose REP does not exist. -/
example :
    let x : RawChars := ⟨[⟨65, 2, 1, 1, 0, 2, 66⟩, ⟨66, 1, 0, 2, 1, 3, 0⟩, ⟨67, 3, 2, 0, 0, 0, 9⟩],
      [0, 700, 300, 700], [0, 50, 20], [0, 0, 9], [0, 4], [⟨0, 65, 0, 99⟩]⟩
    charsOk x = true ∧
      charsTrip x = ⟨[⟨65, 1, 2, 0, 0, 2, 66⟩, ⟨66, 2, 0, 1, 1, 3, 0⟩, ⟨67, 2, 1, 0, 0, 0, 0⟩],
        [0, 300, 700], [0, 20, 50], [0, 9], [0, 4], [⟨0, 65, 0, 66⟩]⟩ := by
  refine ⟨by decide, by decide⟩

/-! ## The header layer at byte level (`Model/C11Header.lean`)

`headerTrip safe hb` models the header bytes of t1 from those of t0 and the seven-bit safety of
the font; the harness requires it to equal the real header of t1 (stream `header`). The
parameter words are copied (compared byte for byte; their text is exact by C17). -/

/-- **roundtrip_header_preserved.** For a full header (at least 18 words) the trip keeps the
checksum and the design size (bytes 0–7), the face byte and every additional word; the two
strings come back with their leading blanks dropped and exactly upper-cased (known findings
C11-g and C11-d are this and nothing else; blanks inside and at the end are kept) and the
flag byte is the seven-bit safety of the font (C11-c). For a shorter header the missing
fields are the PL defaults (`schemeOf`/`familyOf`/`faceOf`: `UNSPECIFIED`, face 0 — C11-e). -/
theorem roundtrip_header_preserved (safe : Bool) (hb : List Nat) (h : headerOk hb = true) :
    (headerTrip safe hb).take 8 = hb.take 8 ∧
    strAt (headerTrip safe hb) 8 = schemeOf hb ∧
    strAt (headerTrip safe hb) 48 = familyOf hb ∧
    (headerTrip safe hb)[68]? = some (if safe then 128 else 0) ∧
    (headerTrip safe hb)[71]? = some (faceOf hb) ∧
    (headerTrip safe hb).drop 72 = hb.drop 72 :=
  (headerTrip_parts safe hb h).2

/-- **roundtrip_header_idempotent.** The second trip is the identity on the header. -/
theorem roundtrip_header_idempotent (safe : Bool) (hb : List Nat) (h : headerOk hb = true) :
    headerTrip safe (headerTrip safe hb) = headerTrip safe hb := by
  obtain ⟨hlen, htake, hsch, hfam, _, hface, hdrop⟩ := headerTrip_parts safe hb h
  have e1 : schemeOf (headerTrip safe hb) = schemeOf hb := fieldOf_read 48 8 hb _ (by omega) hsch
  have e2 : familyOf (headerTrip safe hb) = familyOf hb := fieldOf_read 68 48 hb _ (by omega) hfam
  have e3 : faceOf (headerTrip safe hb) = faceOf hb := faceOf_read (by omega) hface
  conv => lhs; rw [headerTrip_eq]
  rw [e1, e2, e3, htake, hdrop]
  rfl

/-- Non-vacuity: a 2-word header (checksum, design size) is padded with the PL defaults. -/
example : headerOk [1, 2, 3, 4, 0, 160, 0, 0] = true ∧
    (headerTrip true [1, 2, 3, 4, 0, 160, 0, 0]).length = 72 ∧
    (headerTrip true [1, 2, 3, 4, 0, 160, 0, 0]).take 21 =
      [1, 2, 3, 4, 0, 160, 0, 0, 11, 85, 78, 83, 80, 69, 67, 73, 70, 73, 69, 68, 0] := by decide

/-- **dimension_text_exact** (C17's `fix_print_parse`, imported, not trusted): every fix_word
except `0x80000000` that tftopl prints — every width, height, depth, italic correction, kern,
parameter and the design size — is read back by pltotf as the identical 32-bit value. This is
what lets `charsTrip` and `predict` carry *values* across the property-list text. -/
theorem dimension_text_exact (v : Int) (hlo : -2147483648 < v) (hhi : v ≤ 2147483647) :
    C17.parseFix (C17.plText v) = ⟨v, .none⟩ :=
  C17.fix_print_parse v hlo hhi

/-- **sem_check_sound.** The comparison the driver runs on the instruction lists decoded
from t0 and t1 (`firstRuleDiff`, which searches only left characters with an entry point and
right characters that occur in an instruction) is a proved checker: no difference found means
the two rule functions agree on *every* pair and boundary. -/
theorem sem_check_sound (p q : C05.Program) (h : firstRuleDiff p q = none) :
    ∀ (l : Option Nat) (r : Nat), C05.rule p l r = C05.rule q l r := by
  intro l r
  simp only [firstRuleDiff, List.findSome?_eq_none_iff, Option.map_eq_none_iff,
    List.find?_eq_none] at h
  by_cases hs : l ∈ dedup (lefts p ++ lefts q) ∧ r ∈ dedup (rights p ++ rights q)
  · simpa using h l hs.1 r hs.2
  · -- a pair outside the search has a rule in neither program
    have hnone : ∀ p', lefts p' ⊆ lefts p ++ lefts q → rights p' ⊆ rights p ++ rights q →
        C05.rule p' l r = none := fun p' h1 h2 => Option.eq_none_iff_forall_ne_some.mpr fun o ho =>
      hs ⟨mem_dedup.mpr (h1 (rule_mem ho).1), mem_dedup.mpr (h2 (rule_mem ho).2)⟩
    rw [hnone p (List.subset_append_left ..) (List.subset_append_left ..),
      hnone q (List.subset_append_right ..) (List.subset_append_right ..)]

/-- **Known finding C11-b (negation at the witness).** A label that no step follows (entry
point = number of instructions, outside `wf`) is *not* preserved: after packing, the
character's entry point addresses the left-boundary word and `unpack_entrypoint` follows it,
so the character inherits the boundary's program. -/
example :
    let p : Prog := ⟨[⟨none, 66, .kern 1⟩], some 0, none⟩
    let es := [(65, 1)]
    wf p es = false ∧ (∃ P pe, pack p es = some (P, pe) ∧ entryOk p.instrs P.instrs pe (65, 1) = false) := by
  refine ⟨by decide, _, _, rfl, by decide⟩

/-- **kerns_roundtrip.** `pack_kerns` undoes `unpack_kerns` on every PL-level program
(no `KernAtIndex`): the kern *values* every instruction refers to survive the TFM encoding. -/
theorem kerns_roundtrip (l : List Instr) (h : noKernAt l = true) :
    packKerns (unpackKerns l).2 (unpackKerns l).1 = l :=
  C11.kerns_roundtrip l h

/-- After `unpack_kerns` no `Kern` operation is left, skips and right characters are untouched,
and the kerns array stores each value once (so a second `unpack_kerns ∘ pack_kerns` finds the
same array: the kern table is canonical). -/
theorem unpack_kerns_canonical (l : List Instr) :
    (∀ i ∈ (unpackKerns l).1, ∀ k, i.op ≠ Op.kern k) ∧
    (unpackKerns l).1.map (fun i => (i.next, i.right)) = l.map (fun i => (i.next, i.right)) ∧
    (unpackKerns l).2.Nodup :=
  ⟨unpackKerns_no_kern l, unpackKerns_shape l, unpackKerns_nodup l⟩

example : unpackKerns [⟨some 0, 1, .kern 5⟩, ⟨some 0, 2, .kern 7⟩, ⟨none, 3, .kern 5⟩] =
    ([⟨some 0, 1, .kernAt 0⟩, ⟨some 0, 2, .kernAt 1⟩, ⟨none, 3, .kernAt 0⟩], [5, 7]) := by decide

/-- **dedup_sort_idempotent.** Normalising a normalised value list changes nothing. -/
theorem dedup_sort_idempotent (l : List Int) : sortDedup (sortDedup l) = sortDedup l :=
  C11.dedup_sort_idempotent l

/-- The dimension table depends only on the *set* of values: a font whose characters use the
same values gets the same table, whatever the order and multiplicity in the source (this is
what makes the second trip reproduce the table of the first). -/
theorem table_canonical {l l' : List Int} (h : ∀ x, x ∈ l ↔ x ∈ l') : table l = table l' := by
  simp only [table, sortDedup_canonical h]

/-- The table is zero followed by strictly ascending values. -/
theorem table_sorted (l : List Int) : (table l).head? = some 0 ∧ (sortDedup l).Pairwise (· < ·) :=
  ⟨rfl, sortDedup_sorted l⟩

/-- **index_preserved.** A character's width (height, depth, italic correction) after
normalisation — the table entry at the index stored for it — is the value it had before. -/
theorem index_preserved {v : Int} {vals : List Int} (h : v ∈ vals) :
    (table vals)[dimIndex v vals]? = some v :=
  C11.index_preserved h

/-- A value that was never pushed (zero heights, depths and italic corrections are not) gets
index 0, and entry 0 of every table is 0. -/
theorem index_absent {v : Int} {vals : List Int} (h : v ∉ vals) :
    dimIndex v vals = 0 ∧ (table vals)[0]? = some 0 :=
  C11.index_absent h

example : table [5, -3, 5, 0, 7] = [0, -3, 0, 5, 7] ∧ dimIndex 5 [5, -3, 5, 0, 7] = 3 ∧
    dimIndex 0 (nonZero [5, 0, 7]) = 0 := by decide

/-! ## The full property, and what of it is proved

    C11_full_statement :
      ∀ t0 : bytes, tftopl t0 and pltotf (tftopl t0) raise no warning →
        let t1 := pltotf (tftopl t0); let t2 := pltotf (tftopl t1)
        t1 = t2 ∧ no warning on the second trip ∧ sameFont t0 t1

  `pltotf`/`tftopl` as whole programs include the PL lexer, the printing and parsing of the property
  lists other than LIGTABLE, the parameter words, the NEXTLARGER/VARCHAR checks and the assembling of
  the sub-files, none of which is modelled: that statement is checked by the correspondence harness
  only. What is proved above is the statement layer by layer, each under its stated hypotheses:
  no label without a step (`wf` — known finding C11-b), no reachable redirect word (`nwf` — C11-f);
  `charsTrip` describes the lossless path of `compress` (tables within 255/15/15/63 distinct values —
  beyond that C17's lossy `compress` applies). -/

end C11.Thm
