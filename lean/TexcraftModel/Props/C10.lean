import TexcraftModel.Lemmas.C10Checks
import TexcraftModel.Lemmas.C10Ser
import TexcraftModel.Lemmas.C10Cst
import TexcraftModel.Lemmas.C10CstRt
import TexcraftModel.Lemmas.C10Num
import TexcraftModel.Lemmas.C10Body

/-!
# C10 — property theorems (TFM reader, PL lexer and number reader, serialiser size table)

`rawDeserialize` is the model of the *repaired* `RawFile::deserialize`
(`fixes/C10-a.patch`, `fixes/C10-b.patch` applied); `rawDeserializePre` is the code as it stood.

Partial (the property in full is `C10_full_statement`): `validate_and_fix` beyond the clamps,
`from_ast` and the PL AST layer beyond its number readers, the conversions between `tfm::File` and
`pl::File` (`compress`, `pack_entrypoints`, `unpack_kerns`), `Display`, and the bytes `serialize`
writes for the bodies are not modelled; their totality and "PL→TFM output re-reads" at the level of
contents are explored by the correspondence harness only.
-/
namespace C10

/-- The property in full, as a statement about the real functions; what is *proved* below is
its restriction to the parts that are modelled (see the head of this file). `tfmToPl`/`plToTfm` stand for
`tfm::algorithms::{tfm_to_pl, pl_to_tfm}` with a panic outcome made explicit. -/
def C10_full_statement
    (tfmToPl : List Nat → Option (Except DeErr String)) (plToTfm : String → Option (List Nat)) : Prop :=
  (∀ b, tfmToPl b ≠ none) ∧ (∀ t, plToTfm t ≠ none) ∧
  (∀ t out, plToTfm t = some out → ∃ L, rawDeserialize out = .ok L false)

/-- **Totality.** On every byte string the repaired front end returns a layout or one of the
documented errors; none of the four panic sites (`get(0..24).expect`, the sixteen-bit sums,
`&b[..u]`, the `bc` cast) is reachable. -/
theorem raw_total (b : List Nat) (site : Site) : rawDeserialize b ≠ .panic site := by
  rcases rawDeserialize_spec b with ⟨e, j, h⟩ | ⟨s, bc, ec, h, _⟩ <;> rw [h] <;> simp

/-- **Bounds.** If a file is accepted, its eleven sub-files are consecutive, start with the
24-byte size table at offset 0, have four times their declared word counts, cover exactly
`[0, 4·lf)`, and that range lies inside the file: every later `&raw_file.xxx[..]` is in bounds. -/
theorem raw_bounds (b : List Nat) (L : RawLayout) (junk : Bool) (h : rawDeserialize b = .ok L junk) :
    LayoutOK b.length L ∧ L.slices.length = 11 ∧ L.slices.head? = some ⟨0, 24⟩ := by
  obtain ⟨s, bc, ec, rfl, -, ha⟩ := rawDeserialize_ok h
  obtain ⟨t1, t2⟩ := slicesFrom_tiles s.parts 0 ha.nonneg
  have := ha.lf
  have := ha.fit
  refine ⟨⟨t1, ?_, ?_⟩, ?_, ?_⟩
  · simp only []; omega
  · simp only []; omega
  · simp [slicesFrom_length, Sizes.parts]
  · simp [Sizes.parts, slicesFrom]

/-- The warning `InternalFileLengthIsSmall` is issued exactly when the file is longer than `4·lf`. -/
theorem raw_junk (b : List Nat) (L : RawLayout) (junk : Bool) (h : rawDeserialize b = .ok L junk) :
    junk = decide (4 * L.sizes.lf < b.length) := by
  obtain ⟨s, bc, ec, rfl, hj, -⟩ := rawDeserialize_ok h
  exact hj

/-- Non-vacuity of `raw_bounds`: the minimal font (48 bytes) is accepted. -/
example : (match rawDeserialize ([0, 12, 0, 2, 0, 1, 0, 0, 0, 1, 0, 1, 0, 1, 0, 1, 0, 0, 0, 0, 0, 0, 0, 0] ++
    List.replicate 24 0) with | .ok _ false => true | _ => false) = true := by decide

/-- **No index leaves its sub-file.** For every file the front end accepts, `from_raw_file`
(header words and strings with their length-byte guards, char-info words, the four dimension
tables, the lig/kern program with its boundary words, kerns, extensible recipes, parameters)
reads every sub-file without indexing outside it: each sub-file is a whole number of words,
the header has at least two, and the lig/kern table fewer than 2^15 (`nl` is a non-negative
`i16`; `Body.fromSlices_ok` only needs 2^16, the bound of the `u16` cast in the boundary code). -/
theorem body_total (b : List Nat) (L : RawLayout) (junk : Bool) (h : rawDeserialize b = .ok L junk) :
    ∃ f, Body.fromSlices L.beginChar L.endChar (L.slices.map (Body.slice b)) = some f := by
  obtain ⟨s, bc, ec, rfl, -, ha⟩ := rawDeserialize_ok h
  have hl := Body.slices_lengths b s.parts 0 ha.nonneg (by have := ha.lf; have := ha.fit; omega)
  have := s.inRange_iff.mp ha.inRange
  exact Body.fromSlices_ok _ _ 6 s.lh (s.ec - s.bc + 1) s.nw s.nh s.nd s.ni s.nl s.nk s.ne s.np
    _ _ _ _ _ _ _ _ _ _ _ hl ha.lh (by omega)

/-- **The TFM reader is total.** `File::deserialize` — the front end followed by
`from_raw_file` — returns a file or one of the twelve documented errors on every byte string;
no panic site of deserialize.rs (the slice and `expect` sites of the front end, the word
indexing `b[0..3]`/`&b[4..]`, the string guards `b.get(1).expect` and `len - 2`, the boundary
words `&b[r..]` and `instructions.len() - 1`) is reachable. -/
theorem reader_total (b : List Nat) : Body.readFile b ≠ .panic := by
  unfold Body.readFile
  cases hraw : rawDeserialize b with
  | panic site => exact absurd hraw (raw_total b site)
  | err e j => simp
  | ok L j =>
    obtain ⟨f, hf⟩ := body_total b L j hraw
    simp [hf]

/-- Non-vacuity: the minimal font is read into a file with one width, height, depth, italic. -/
example : (match Body.readFile ([0, 12, 0, 2, 0, 1, 0, 0, 0, 1, 0, 1, 0, 1, 0, 1, 0, 0, 0, 0, 0, 0, 0, 0] ++
    List.replicate 24 0) with | .ok f false => f.widths.length == 1 && f.chars.length == 0 | _ => false) = true := by
  decide

/-- **The reader accepts what a writer emits.** For every consistent size table `s` (the
conditions a `.tfm` writer must meet, stated in `Consistent`), the 24 bytes
`SubFileSizes::into` writes for it followed by any body of at least `4·lf − 24` bytes are
accepted, with exactly the layout `s` describes, and with the junk warning iff the body is
longer than that. -/
theorem layout_roundtrip (s : Sizes) (hc : Consistent s) (body : List Nat)
    (hlen : 4 * s.lf ≤ 24 + body.length) :
    rawDeserialize (headerBytes s ++ body) = .ok (layoutOf s) (decide (4 * s.lf < 24 + body.length)) := by
  have h3 : 3 < s.lf := by cases hc; omega
  rw [rawDeserialize_headerBytes s hc.inRange h3 body hlen]
  exact checks_of_consistent s hc _ _ hlen

/-- Non-vacuity of `layout_roundtrip`: the size table of `cmr10.tfm`. -/
example : Consistent ⟨324, 18, 0, 127, 36, 16, 10, 5, 88, 10, 0, 7⟩ := by
  constructor <;> decide

/-- **The serialiser does not panic on its size arithmetic.** For every shape that meets
`ShapeOK` (the bounds `From<pl::File> for File` and the PL front end establish, clause by
clause), none of the `i16` conversions of `serialize` fails, and `valid_lf` fits. -/
theorem serialize_total (f : FileShape) (h : ShapeOK f) : ∃ s, serializeSizes f = .ok s :=
  ⟨_, serializeSizes_eq f h⟩

/-- **What the serialiser writes is a consistent size table.** -/
theorem serialize_consistent (f : FileShape) (h : ShapeOK f) (s : Sizes)
    (hs : serializeSizes f = .ok s) : Consistent s := by
  cases (serializeSizes_eq f h).symm.trans hs
  exact sizesOfShape_consistent f h

/-- **The reader accepts the layout of every serialised file**: the 24 bytes `serialize`
writes for a `ShapeOK` file, followed by the body it writes (any bytes, as many as the tables
hold), are accepted by the repaired reader, with exactly the layout the table describes and
without the junk warning. (`PL→TFM output is accepted by the TFM reader`, at the level of
sub-file sizes; the hypotheses of `ShapeOK` are checked on every real pltotf output by the
harness.) -/
theorem raw_accepts_serialized (f : FileShape) (h : ShapeOK f) (s : Sizes)
    (hs : serializeSizes f = .ok s) (body : List Nat) (hb : body.length = bodyBytes f) :
    rawDeserialize (headerBytes s ++ body) = .ok (layoutOf s) false := by
  cases (serializeSizes_eq f h).symm.trans hs
  have hlf := sizesOfShape_lf f h
  rw [layout_roundtrip _ (sizesOfShape_consistent f h) body (by omega)]
  exact congrArg _ (decide_eq_false (by omega))

/-- The bound is attained: every table at its limit gives `lf = 32767` exactly … -/
example : serializeSizes ⟨238, some (0, 255), 256, 16, 16, 64, 31129, 258, 0, 256, 254⟩ =
    .ok ⟨32767, 256, 0, 255, 256, 16, 16, 64, 31387, 0, 256, 254⟩ := by decide
example : ShapeOK ⟨238, some (0, 255), 256, 16, 16, 64, 31129, 258, 0, 256, 254⟩ :=
  (shapeOKB_iff _).mp (by decide)
/-- … and one more lig/kern word (what the code allowed before `fixes/C10-m.patch`) overflows
`valid_lf`: the hypothesis `lig` of `ShapeOK` cannot be weakened. -/
example : serializeSizes ⟨238, some (0, 255), 256, 16, 16, 64, 31130, 258, 0, 256, 254⟩ =
    .panic .lfOverflow := by decide
/-- C10-m's witness: 16370 steps with 16370 distinct kerns. -/
example : serializeSizes ⟨0, some (97, 97), 2, 1, 1, 1, 16370, 0, 16370, 0, 0⟩ = .panic .lfOverflow := by decide

/-- **The reader accepts every serialised file, bodies included.** For a `ShapeOK` shape, the
size table `serialize` writes followed by a body of the size it writes is read by the *whole*
`File::deserialize` — front end and `from_raw_file` — into a file, without error, panic or
junk warning. -/
theorem reader_accepts_serialized (f : FileShape) (h : ShapeOK f) (s : Sizes)
    (hs : serializeSizes f = .ok s) (body : List Nat) (hb : body.length = bodyBytes f) :
    ∃ file, Body.readFile (headerBytes s ++ body) = .ok file false := by
  have hraw := raw_accepts_serialized f h s hs body hb
  obtain ⟨file, hf⟩ := body_total _ _ _ hraw
  refine ⟨file, ?_⟩
  unfold Body.readFile
  rw [hraw]
  simp only []
  rw [hf]

/-! ## The PL lexer / CST builder (`pl/cst.rs`) -/

/-- **Every iteration of `parse`'s main loop consumes at least one character** (a
parenthesis, a blank, or a non-empty run of junk; an opening parenthesis may take its key,
data or comment with it). This is why the fuel `length + 1` suffices. -/
theorem cst_step_consumes (alnum : Char → Bool) (st : Cst.State) (h : st.rest ≠ []) :
    (Cst.step alnum st).rest.length < st.rest.length :=
  Cst.step_decreases alnum st h

/-- **Totality of the CST builder.** For every text and every notion of "alphanumeric", the
model of `Cst::from_pl_source_code` returns a tree and warnings: the fuel is never exhausted
(there is no other failure in this code: no arithmetic that can overflow, no indexing). -/
theorem cst_total (alnum : Char → Bool) (text : List Char) :
    Cst.cstModel alnum text ≠ .outOfFuel := by
  unfold Cst.cstModel
  obtain ⟨st', h, _⟩ := Cst.loop_some alnum ((Cst.normalize text).length + 1)
    ⟨[], [], [], 0, Cst.normalize text⟩ (by simp)
  simp only [h]
  intro hc
  cases hc

/-- The main loop stops only at the end of the input: nothing is left unread. -/
theorem cst_reads_everything (alnum : Char → Bool) (l : List Char) :
    ∃ st, Cst.loop alnum (l.length + 1) ⟨[], [], [], 0, l⟩ = some st ∧ st.rest = [] :=
  Cst.loop_some alnum (l.length + 1) ⟨[], [], [], 0, l⟩ (by simp)

/-- **Round trip of the CST.** The canonical one-line rendering (`(` key blank data children
`)`, comments as `(COMMENT` text `)`) of any well-formed forest — keys made of key characters
and different from `COMMENT`, data without parentheses that does not begin with a blank,
comments with balanced parentheses that do not begin with a key character, no `\r`
(`Cst.WFAll`) — is read back by the model of `Cst::from_pl_source_code` **without any warning**
as a forest of the same shape: same keys, data, comment texts and nesting (`stripAll`
forgets the spans, which necessarily differ). Holds for every notion of "alphanumeric" for
which the letters of `COMMENT` are alphanumeric and blank and parentheses are not. Unbounded
in depth and width (mutual induction over the nested tree). -/
theorem cst_balanced_roundtrip (alnum : Char → Bool) (ha : Cst.AlnumOK alnum) (ns : List Cst.Node)
    (hwf : Cst.WFAll alnum ns) :
    ∃ ns', Cst.cstModel alnum (Cst.renderAll ns) = .ok ns' [] ∧ Cst.stripAll ns' = Cst.stripAll ns :=
  Cst.roundtrip alnum ha ns hwf

/-- Non-vacuity: ASCII `isAlphanum` qualifies, and a nested forest with a comment is well formed. -/
example : Cst.AlnumOK Char.isAlphanum := ⟨by decide, by decide, by decide, by decide⟩
example : Cst.WFAll Char.isAlphanum
    [.regular 0 ['A', '/'] ⟨0, 0⟩ ['x', ' ', 'y'] ⟨0, 0⟩
      [.comment [' ', '(', 'a', ')'], .regular 0 [] ⟨0, 0⟩ [] ⟨0, 0⟩ [] ⟨0, 0⟩] ⟨0, 0⟩] := by
  simp only [Cst.WFAll, Cst.WF, List.mem_cons, List.not_mem_nil, or_false, forall_eq_or_imp, forall_eq,
    and_true, false_imp_iff, implies_true]
  decide

/-! ## The number readers of `pl/ast.rs` -/

/-- **The `FixWord` reader never panics.** Every `checked_mul(..).unwrap()` /
`checked_add(..).unwrap()` and the unchecked `acc + 10` of `impl Parse for FixWord` succeed on
every input: the integer part is clamped at 2048 before it is multiplied, a fraction has at most
seven digits of `2^21·d`, and the "too big" test runs before `integer_part * 2^20` is formed.
(The `u32` and `u8` readers have no `unwrap` on arithmetic at all: overflow is the
`IntegerIsTooBig` / `SmallIntegerIsTooBig` branch, and their models are total functions.) -/
theorem number_total (i : Num.In) : Num.parseFix i ≠ .panic := by
  obtain ⟨r, h⟩ := Num.parseFix_ok i
  rw [h]
  nofun

/-! ## The index clamps of `validate_and_fix` -/

/-- **Clamps.** After the clamp every index addresses an element of its table, for all four
tables at once, whenever the tables are non-empty (which `rawDeserialize` guarantees:
`nw, nh, nd, ni ≥ 1`). -/
theorem clamp_total (nw nh nd ni : Nat) (c : Dims) (hw : 0 < nw) (hh : 0 < nh) (hd : 0 < nd) (hi : 0 < ni) :
    (clampDims nw nh nd ni c).w < nw ∧ (clampDims nw nh nd ni c).h < nh ∧
    (clampDims nw nh nd ni c).d < nd ∧ (clampDims nw nh nd ni c).i < ni := by
  simp only [clampDims, clampIdx]
  refine ⟨?_, ?_, ?_, ?_⟩ <;> split <;> omega

/-- An index that is already in range is left alone. -/
theorem clamp_id (nw nh nd ni : Nat) (c : Dims) (h : c.w < nw ∧ c.h < nh ∧ c.d < nd ∧ c.i < ni) :
    clampDims nw nh nd ni c = c := by
  obtain ⟨h1, h2, h3, h4⟩ := h
  simp [clampDims, clampIdx, Nat.not_le.mpr h1, Nat.not_le.mpr h2, Nat.not_le.mpr h3, Nat.not_le.mpr h4]

/-- A tag that survives the clamp points at something that exists: a lig/kern entry below
`nl`, an existing next-larger character, an extensible recipe below `ne`. -/
theorem clamp_tag_total (nl ne : Nat) (ex : Nat → Bool) (t t' : Tag) (h : clampTag nl ne ex t = some t') :
    t' = t ∧ TagOK nl ne ex t' := by
  cases t with
  | lig e | ext e =>
    simp only [clampTag] at h
    split at h
    · simp at h
    · simp at h; subst h; exact ⟨rfl, by simp only [TagOK]; omega⟩
  | list n =>
    simp only [clampTag] at h
    split at h
    · rename_i hx; simp at h; subst h; exact ⟨rfl, hx⟩
    · simp at h

/-- The lig-tag clamp is exact and safe: a tag survives exactly when `unpackEntry` returns an
entry point, and that entry point addresses an instruction of the program (so every later
walk `instructions_for_entrypoint(e)` starts inside the table). -/
theorem clamp_lig_exact (nl e : Nat) (redirect : Option Nat) (u : Nat)
    (h : unpackEntry nl e redirect = some u) : u < nl ∧ e < nl := by
  unfold unpackEntry at h
  split at h
  · simp at h
  · rename_i he
    cases redirect with
    | none => simp at h; omega
    | some t =>
      simp only [] at h
      split at h
      · simp at h; omega
      · simp at h

/-- A surviving extensible piece is an existing character. -/
theorem clamp_piece_total (ex : Nat → Bool) (p : Option Nat) (c : Nat) (h : clampPiece ex p = some c) :
    ex c = true := by
  cases p with
  | none => simp [clampPiece] at h
  | some d =>
    simp only [clampPiece] at h
    split at h
    · rename_i hx; simp at h; subst h; exact hx
    · simp at h

example : clampDims 3 2 2 1 ⟨7, 1, 9, 0⟩ = ⟨0, 1, 0, 0⟩ := by decide

/-! ## The code before the repairs violates totality (witnesses of C10-a and C10-b) -/

/-- C10-a: a 16-byte file whose first word says `lf = 4` reaches `b.get(0..24).expect(..)`. -/
example : rawDeserializePre ([0, 4] ++ List.replicate 14 0) = .panic .get24 := by decide

/-- C10-b: `lf = 255`, `nw = 32767` (any file of at least 1020 bytes): the sixteen-bit sum in
`valid_lf` overflows. The same holds for the 131 068-byte witness with `lf = 32767`. -/
example : rawCore true [0, 255, 0, 2, 0, 1, 0, 0, 127, 255, 0, 1, 0, 1, 0, 1, 0, 0, 0, 0, 0, 0, 0, 0] 1020
    = .panic .arith := by decide
example : rawCore true [127, 255, 0, 2, 0, 1, 0, 0, 127, 255, 0, 1, 0, 1, 0, 1, 0, 0, 0, 0, 0, 0, 0, 0] 131068
    = .panic .arith := by decide

/-- …and the repaired code returns the documented errors there. -/
example : rawDeserialize ([0, 4] ++ List.replicate 14 0) = .err (.lfTooSmall 4 16) false := by decide
example : rawCore false [127, 255, 0, 2, 0, 1, 0, 0, 127, 255, 0, 1, 0, 1, 0, 1, 0, 0, 0, 0, 0, 0, 0, 0] 131068
    = .err (.inconsistentSubFileSizes ⟨32767, 2, 1, 0, 32767, 1, 1, 1, 0, 0, 0, 0⟩) false := by decide

end C10
