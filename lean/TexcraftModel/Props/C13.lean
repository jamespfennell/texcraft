import TexcraftModel.Lemmas.C13Main
import TexcraftModel.Lemmas.C13Trie
import TexcraftModel.Lemmas.C13Equiv
import TexcraftModel.Lemmas.C13Plain
import TexcraftModel.Lemmas.C13Text
import TexcraftModel.Lemmas.C13Hist

/-!
# C13 — hyphenation positions are exactly Liang's; exceptions always win; case-insensitive

Only the statements that *are* the property live here; the helpers are in `Lemmas/C13*.lean`. The
model (`Model/C13.lean`, `C13Trie`, `C13Text`) describes `crates/hyphenate/src/lib.rs` with
`fixes/C13-a.patch` and `fixes/C13-b.patch` applied; `exceptions_win` is false for the unpatched code
(finding C13-a, see `notes/C13.md`).
-/
namespace C13

/-- Decoding the bytes `load_patterns` pushes for a well-formed pattern gives back the
pattern's digits, one per inter-letter position (the stream omits trailing zeros). Holds for
any zero runs (the `15·16` overflow byte) and any length (patterns longer than 16 letters). -/
theorem ops_roundtrip (p : List Char) (hwf : wellFormed p = true) :
    ∃ k, decodeOps (patOps p).1 ++ List.replicate k 0 = (parsePat p).digits :=
  (patOps_stream p).roundtrip hwf

/-- Every pattern's stream (well-formed or not) stops at its own terminator: what follows
it in `Hyphenator.data` is never read. -/
theorem ops_terminated (p : List Char) (rest : List Nat) :
    decodeOps ((patOps p).1 ++ rest) = decodeOps (patOps p).1 :=
  (patOps_stream p).term rest

/-- Every pattern's stream (well-formed or not) emits at most one score per inter-letter
position, and only digits 0..9. -/
theorem ops_fit (p : List Char) :
    (decodeOps (patOps p).1).length ≤ (parsePat p).letters.length + 1 ∧
    ∀ d ∈ decodeOps (patOps p).1, d ≤ 9 :=
  ⟨(patOps_stream p).length, (patOps_stream p).digits_le⟩

/-- The trie path of a pattern is its anchors and letters. -/
theorem pattern_path (p : List Char) : (patOps p).2 = (parsePat p).key := patItem_key' p

/-- After `build`, the value stored at a vertex is the offset of the stream of the *last*
inserted pattern/exception with that path, and every inserted non-empty path has a value. -/
theorem trie_lookup (ps es : List (List Char)) :
    (∀ π o, lookup (build ps es).trie π = some o →
      o ≤ (build ps es).data.length ∧ π ≠ [] ∧
        ∃ it rest, newest (itemsOf ps es) π = some it ∧
          (build ps es).data.drop o = it.ops ++ rest) ∧
    (∀ π, π ≠ [] → newest (itemsOf ps es) π ≠ none → lookup (build ps es).trie π ≠ none) :=
  inv_build ps es

/-- Stopping the walk when `next_or` fails loses nothing: below a vertex that no inserted path
runs through there are no values. -/
theorem trie_prefix_closed (t : List (List Edge × Nat)) (π π' : List Edge)
    (h : hasPrefix t π = false) (hp : π <+: π') : lookup t π' = none :=
  lookup_none_of_not_hasPrefix t π π' h hp

/-- `scores[p.offset + k]` is in range for every pattern set (well-formed or not), every
exception list and every word (letters or not, any byte length): the model never takes
its `none` (= Rust panic) branch, and returns one score per character. -/
theorem index_bounds (ps es : List (List Char)) (lc : Char → Option Char) (w : List Char) :
    ∃ s, aggregateScores (build ps es) lc w = some s ∧ s.length = w.length :=
  aggregate_some _ (bounded_build ps es) lc w

/-- For every set of well-formed patterns with pairwise different letters+anchors, every
exception list and every word of letters that is not a listed exception: the aggregate
scores are Liang's (maximum digit over all (pattern, offset) matches; 0 before the first
letter), computed on the lower-cased word. -/
theorem scores_eq_liang (ps es : List (List Char)) (lc : Char → Option Char) (w lw : List Char)
    (hwf : ∀ p ∈ ps, wellFormed p = true)
    (hnd : ((ps.map parsePat).map Pat.key).Nodup)
    (hl : lowerWord lc w = some lw)
    (hex : findException es lw = none) :
    aggregateScores (build ps es) lc w = some (liangScores (ps.map parsePat) lw) := by
  rw [aggregate_eq _ (bounded_build ps es) lc w lw hl, liangScores, ← mapM_length lc w lw hl]
  congr 1
  apply List.map_congr_left
  intro i hi
  have hne : lw ≠ [] := by intro h; simp [h] at hi
  rw [visited_eq_liang ps es lw hne hwf hnd hex i]

/-- A word in the exception list is hyphenated exactly as listed — whatever the patterns
(no hypothesis on them at all: any digits 0..9, malformed, duplicated). -/
theorem exceptions_win (ps es : List (List Char)) (lc : Char → Option Char) (w lw e : List Char)
    (hl : lowerWord lc w = some lw)
    (hex : findException es lw = some e) :
    calculateIndices (build ps es) lc w = some (listed e) := by
  unfold calculateIndices
  rw [exception_scores ps es lc w lw e hl hex]
  simp only [Option.map_some, listed]
  rw [oddIdx_listed]

/-- The property: the permitted hyphen positions are those of the specification. -/
theorem hyphenation_spec (ps es : List (List Char)) (lc : Char → Option Char) (w lw : List Char)
    (hwf : ∀ p ∈ ps, wellFormed p = true)
    (hnd : ((ps.map parsePat).map Pat.key).Nodup)
    (hl : lowerWord lc w = some lw) :
    calculateIndices (build ps es) lc w = some (specIndices ps es lw) := by
  unfold specIndices
  cases hex : findException es lw with
  | some e => exact exceptions_win ps es lc w lw e hl hex
  | none =>
    unfold calculateIndices
    rw [scores_eq_liang ps es lc w lw hwf hnd hl hex]
    rfl

/-- Two words with the same lower-cased letters (e.g. differing only in case) get the same
hyphen positions. -/
theorem case_insensitive (ps es : List (List Char)) (lc : Char → Option Char) (w w' lw : List Char)
    (hwf : ∀ p ∈ ps, wellFormed p = true)
    (hnd : ((ps.map parsePat).map Pat.key).Nodup)
    (hl : lowerWord lc w = some lw) (hl' : lowerWord lc w' = some lw) :
    calculateIndices (build ps es) lc w = calculateIndices (build ps es) lc w' := by
  rw [hyphenation_spec ps es lc w lw hwf hnd hl, hyphenation_spec ps es lc w' lw hwf hnd hl']

/-! ## Non-vacuity: concrete instances meeting the hypotheses -/

def exPats : List (List Char) :=
  [['a', '1', 'b'], ['.', 'b', '2', 'c', '.'], ['9', 'b', 'c'], ['a', 'b', '8', 'c']]
def exExcs : List (List Char) := [['a', 'b', '-', 'c']]

example : (∀ p ∈ exPats, wellFormed p = true) := by decide
example : ((exPats.map parsePat).map Pat.key).Nodup := by decide
example : lowerWord asciiLc ['A', 'b', 'C'] = some ['a', 'b', 'c'] := by decide
example : lowerWord asciiLc ['a', 'B'] = some ['a', 'b'] := by decide
example : findException exExcs ['a', 'b', 'c'] = some ['a', 'b', '-', 'c'] := by decide
example : findException exExcs ['a', 'b'] = none := by decide
/-- Patterns alone would give `a-bc` (9 before `b`, 8 before `c`); the exception `ab-c` wins. -/
example : calculateIndices (build exPats exExcs) asciiLc ['A', 'b', 'C'] = some [2] := by decide
example : calculateIndices (build exPats []) asciiLc ['A', 'b', 'C'] = some [1] := by decide
example : specIndices exPats exExcs ['a', 'b', 'c'] = [2] := by decide
example : calculateIndices (build exPats exExcs) asciiLc ['a', 'B'] = some [1] := by decide
/-- A zero run of 17 (one overflow byte) decodes to its digits. -/
example : decodeOps (patOps ("aaaaaaaaaaaaaaaaa3b".toList)).1
    = [0,0,0,0,0,0,0,0,0,0,0,0,0,0,0,0,0,3] := by decide

/-! ## The trie as coded refines the prefix map

`Model/C13Trie.lean` transcribes `mod trie` literally (numbered vertices, one edge map,
`next_vertex`, root `u32::MAX`) and `Hyphenator` on top of it; this is what the driver
executes. Hypothesis everywhere: fewer than `u32::MAX` `next` calls in total (`edgeCount`),
beyond which `next_vertex.0 + 1` overflows in the Rust code. -/

/-- For every insertion sequence (any patterns, any exceptions): following a non-empty path
of edges through the coded trie succeeds exactly when the prefix map has the path as a
prefix, and then carries exactly the prefix map's value; the op streams are identical. -/
theorem trie_refines_prefix_map (ps es : List (List Char)) (hlt : edgeCount ps es < rootV) :
    (cBuild ps es).data = (build ps es).data ∧
    ∀ π, π ≠ [] →
      (cWalk (cBuild ps es).trie π).map (·.2)
        = if hasPrefix (build ps es).trie π = true then some (lookup (build ps es).trie π)
          else none :=
  ⟨(rel_build ps es hlt).data, (rel_build ps es hlt).sim⟩

/-- Distinct paths lead to distinct vertices, vertex numbers stay below the counter and
below the root: the numbering is a faithful naming of paths. -/
theorem trie_numbering_injective (ps es : List (List Char)) (hlt : edgeCount ps es < rootV)
    (π1 π2 : List Edge) (u : Nat) (x1 x2 : Option Nat)
    (h1 : cWalk (cBuild ps es).trie π1 = some (u, x1))
    (h2 : cWalk (cBuild ps es).trie π2 = some (u, x2)) : π1 = π2 :=
  (rel_build ps es hlt).good.inj π1 π2 u x1 x2 h1 h2

/-- The coded hyphenator computes, for every word (letters or not), exactly what the
prefix-map model computes — panic branch included. -/
theorem coded_scores_eq (ps es : List (List Char)) (hlt : edgeCount ps es < rootV)
    (lc : Char → Option Char) (w : List Char) :
    cAggregateScores (cBuild ps es) lc w = aggregateScores (build ps es) lc w :=
  cAggregateScores_eq _ _ (rel_build ps es hlt) lc w

/-- `index_bounds` for the code as written. -/
theorem coded_index_bounds (ps es : List (List Char)) (hlt : edgeCount ps es < rootV)
    (lc : Char → Option Char) (w : List Char) :
    ∃ s, cAggregateScores (cBuild ps es) lc w = some s ∧ s.length = w.length := by
  rw [coded_scores_eq ps es hlt]; exact index_bounds ps es lc w

/-- The property for the code as written (coded trie, coded op stream). -/
theorem coded_hyphenation_spec (ps es : List (List Char)) (hlt : edgeCount ps es < rootV)
    (lc : Char → Option Char) (w lw : List Char)
    (hwf : ∀ p ∈ ps, wellFormed p = true)
    (hnd : ((ps.map parsePat).map Pat.key).Nodup)
    (hl : lowerWord lc w = some lw) :
    cCalculateIndices (cBuild ps es) lc w = some (specIndices ps es lw) := by
  unfold cCalculateIndices
  rw [coded_scores_eq ps es hlt]
  exact hyphenation_spec ps es lc w lw hwf hnd hl

/-- Exceptions win, for the code as written, whatever the patterns. -/
theorem coded_exceptions_win (ps es : List (List Char)) (hlt : edgeCount ps es < rootV)
    (lc : Char → Option Char) (w lw e : List Char)
    (hl : lowerWord lc w = some lw) (hex : findException es lw = some e) :
    cCalculateIndices (cBuild ps es) lc w = some (listed e) := by
  unfold cCalculateIndices
  rw [coded_scores_eq ps es hlt]
  exact exceptions_win ps es lc w lw e hl hex

example : edgeCount exPats exExcs < rootV := by decide
example : cCalculateIndices (cBuild exPats exExcs) asciiLc ['A', 'b', 'C'] = some [2] := by decide

/-- (mutant 03) Zero-run bytes before a terminator — `15·16`, `14·16`, any count — are
invisible: position by position the stream reads like the part before them. -/
theorem trailing_zero_run_invisible (ops : List Nat) (hnt : NonTerm ops) (k b z term : Nat)
    (hb : b % 16 = 0) (hterm : term = 10 ∨ term = 11) (j : Nat) :
    (decodeOps (ops ++ (List.replicate k b ++ [term + z * 16]))).getD j 0
      = (decodeOps ops).getD j 0 := by
  rw [decodeOps_append _ _ hnt]
  exact getD_append_zeros _ _ (terminal_run_is_zeros k b z term hb hterm) j

/-- … and for a word of letters the scores depend on a hyphenator only through these
position-by-position readings of the streams stored at its vertices. -/
theorem scores_depend_only_on_digits (h1 h2 : Hyph) (hB1 : Bounded h1) (hB2 : Bounded h2)
    (hv : ∀ π j, (val h1 π).getD j 0 = (val h2 π).getD j 0)
    (lc : Char → Option Char) (w lw : List Char) (hl : lowerWord lc w = some lw) :
    aggregateScores h1 lc w = aggregateScores h2 lc w :=
  scores_depend_on_digits h1 h2 hB1 hB2 hv lc w lw hl

/-- (mutant 16) An exception entry whose letters are not the word — in particular the empty
entry that a blank line would insert, for any non-empty word — changes nothing. -/
theorem irrelevant_exception (ps es1 es2 : List (List Char)) (e0 : List Char)
    (lc : Char → Option Char) (w lw : List Char)
    (hwf : ∀ p ∈ ps, wellFormed p = true)
    (hnd : ((ps.map parsePat).map Pat.key).Nodup)
    (hl : lowerWord lc w = some lw) (hne : stripHyphens e0 ≠ lw) :
    calculateIndices (build ps (es1 ++ e0 :: es2)) lc w
      = calculateIndices (build ps (es1 ++ es2)) lc w := by
  rw [hyphenation_spec ps _ lc w lw hwf hnd hl, hyphenation_spec ps _ lc w lw hwf hnd hl]
  simp only [specIndices, findException_insert es1 es2 e0 lw hne]

/-- (mutant 33) If no pattern has the shape `.w.` of an exception's word, inserting the
exceptions before the patterns gives the same scores. -/
theorem insertion_order_irrelevant (ps es : List (List Char))
    (hdis : ∀ p ∈ ps, ∀ e ∈ es, (parsePat p).key ≠ enc true (stripHyphens e) true)
    (lc : Char → Option Char) (w lw : List Char) (hl : lowerWord lc w = some lw) :
    aggregateScores (loadPatterns (insertExceptions {} es) ps) lc w
      = aggregateScores (build ps es) lc w := by
  have hk : ∀ p ∈ ps, ∀ e ∈ es, (excItem e).key ≠ (patItem p).key := fun p hp e he => by
    rw [excItem_key, patItem_key']
    exact fun h => hdis p hp e he h.symm
  rw [buildRev_eq ps es hk]
  have hT2 := items_term ps es
  have hT1 : ∀ it ∈ es.map excItem ++ ps.map patItem, Term it.ops :=
    fun it h => hT2 it (List.mem_append.2 (List.mem_append.1 h).symm)
  -- both tries hold the same digits at every vertex, so the bound carries over as well
  have hv : ∀ π, val (buildItems (es.map excItem ++ ps.map patItem)) π = val (build ps es) π := by
    intro π
    rw [val_eq _ _ (inv_buildItems _) hT1, val_eq _ _ (inv_build ps es) hT2, itemsOf, newest_comm]
    intro x hx y hy
    obtain ⟨e, he, rfl⟩ := List.mem_map.1 hx
    obtain ⟨p, hp, rfl⟩ := List.mem_map.1 hy
    exact hk p hp e he
  have hB := bounded_build ps es
  exact scores_depend_on_digits _ _ (fun π => by rw [hv]; exact hB π) hB
    (fun π j => by rw [hv]) lc w lw hl

/-! ## Plain TeX's patterns (`Tables/C13Plain.lean` = the shipped data files) -/

/-- The hypotheses of the property theorems hold for the shipped pattern set: every one of
the 4447 patterns is well-formed, no two have the same letters and anchors, and the trie
needs far fewer than 2^32 vertices. -/
theorem plain_tex_hypotheses :
    (∀ p ∈ plainPatterns, wellFormed p = true) ∧
    ((plainPatterns.map parsePat).map Pat.key).Nodup ∧
    edgeCount plainPatterns plainExceptions < rootV :=
  ⟨fun p hp => ((climbKeys_sound _ _ _ _ plain_checked).1 p hp).1,
    nodup_keys_of_sorted _ (climbKeys_sound _ _ _ _ plain_checked).2.1, plain_edges⟩

/-- `Hyphenator::plain_tex_en_us()`: for every lower-case map and every word of letters the
hyphen positions are the specification's — no hypothesis left. -/
theorem plain_tex_spec (lc : Char → Option Char) (w lw : List Char)
    (hl : lowerWord lc w = some lw) :
    cCalculateIndices (cBuild plainPatterns plainExceptions) lc w
      = some (specIndices plainPatterns plainExceptions lw) :=
  coded_hyphenation_spec _ _ plain_tex_hypotheses.2.2 lc w lw plain_tex_hypotheses.1
    plain_tex_hypotheses.2.1 hl

/-- For the shipped data the order of `load_patterns` / `insert_exceptions` in
`plain_tex_en_us` does not matter (no pattern is `.w.` for an exception word `w`). -/
theorem plain_tex_order_irrelevant (lc : Char → Option Char) (w lw : List Char)
    (hl : lowerWord lc w = some lw) :
    aggregateScores (loadPatterns (insertExceptions {} plainExceptions) plainPatterns) lc w
      = aggregateScores (build plainPatterns plainExceptions) lc w :=
  insertion_order_irrelevant _ _ plain_disjoint lc w lw hl

/-! ## The text front end (`load_patterns(&str)`, `insert_exceptions(&str)`) -/

/-- Parsing the text of a pattern list yields that list, whatever white space (any Unicode
`White_Space`, any amount ≥ 1) separates the patterns and precedes the first one. -/
theorem patterns_text_parses (lead : List Char) (items : List (List Char × Char × List Char))
    (hlead : AllWs lead) (h : TokensOk items) :
    splitWs (lead ++ tokensText items) [] = items.map (·.1) := by
  rw [splitWs_allWs lead hlead, splitWs_tokensText items h]

/-- The result does not depend on how the text is cut into `load_patterns` calls: two calls
are one call on the texts joined by a white-space character … -/
theorem load_split_independent (h : CHyph) (t1 t2 : List Char) (w : Char) (hw : isWs w = true) :
    cLoadText (cLoadText h t1) t2 = cLoadText h (t1 ++ w :: t2) := by
  simp only [cLoadText, splitWs_append t1 t2 [] w hw, List.foldl_append]

/-- … and any sequence of calls loads the concatenation of the parsed lists. -/
theorem load_calls_concat (texts : List (List Char)) (h : CHyph) :
    texts.foldl cLoadText h = (texts.flatMap (fun t => splitWs t [])).foldl cLoadPattern h :=
  foldl_cLoadText texts h

/-- Lines of padding + entry + padding (entry possibly absent): `insert_exceptions` sees the
entries in order; blank lines, padding and `\r` vanish. -/
theorem exceptions_text_parses (ls : List (List Char × List Char × List Char))
    (h : ∀ x ∈ ls, AllWs x.1 ∧ Trimmed x.2.1 ∧ AllWs x.2.2 ∧ NoNl (x.1 ++ x.2.1 ++ x.2.2)) :
    exceptionLines (linesText (ls.map (fun x => x.1 ++ x.2.1 ++ x.2.2)))
      = (ls.map (·.2.1)).filter (fun l => !l.isEmpty) := by
  have hm : (ls.map (fun x => x.1 ++ x.2.1 ++ x.2.2)).map trimWs = ls.map (·.2.1) := by
    rw [List.map_map]
    exact List.map_congr_left fun x hx => trimWs_padded _ _ _ (h x hx).1 (h x hx).2.2.1 (h x hx).2.1
  unfold exceptionLines
  rw [splitNl_linesText _ (List.forall_mem_map.2 fun x hx => (h x hx).2.2.2), List.map_append, hm]
  simp [trimWs]

/-- The property from text to positions: load any texts, insert an exception text, ask for a
word of letters — the answer is the specification's for the parsed lists. -/
theorem text_hyphenation_spec (ptexts : List (List Char)) (etext : List Char)
    (lc : Char → Option Char) (w lw : List Char)
    (hlt : edgeCount (ptexts.flatMap (fun t => splitWs t [])) (exceptionLines etext) < rootV)
    (hwf : ∀ p ∈ ptexts.flatMap (fun t => splitWs t []), wellFormed p = true)
    (hnd : (((ptexts.flatMap (fun t => splitWs t [])).map parsePat).map Pat.key).Nodup)
    (hl : lowerWord lc w = some lw) :
    cCalculateIndices (cInsertExceptionsText (ptexts.foldl cLoadText {}) etext) lc w
      = some (specIndices (ptexts.flatMap (fun t => splitWs t [])) (exceptionLines etext) lw) := by
  have : cInsertExceptionsText (ptexts.foldl cLoadText {}) etext
      = cBuild (ptexts.flatMap (fun t => splitWs t [])) (exceptionLines etext) := by
    rw [foldl_cLoadText]; rfl
  rw [this]
  exact coded_hyphenation_spec _ _ hlt lc w lw hwf hnd hl

example : splitWs "  a1b\n.b2c.\t abc3 ".toList [] = ["a1b".toList, ".b2c.".toList, "abc3".toList] := by
  decide
example : exceptionLines " a-b \r\n\n\tbc-c".toList = ["a-b".toList, "bc-c".toList] := by decide

/-- The specification may be evaluated on the patterns whose letters occur in the word only
(what the driver does for pattern sets with tens of thousands of patterns): the others never
match, nothing is lost. -/
theorem liang_restrict (ps es : List (List Char)) (lw : List Char) :
    specIndices (relevant ps lw) es lw = specIndices ps es lw := by
  unfold specIndices
  cases findException es lw with
  | some e => rfl
  | none =>
    simp only
    congr 1
    unfold liangScores
    apply List.map_congr_left
    intro i _
    by_cases hi : i = 0
    · simp [hi]
    · simp only [hi, if_false]
      have hmap : (relevant ps lw).map parsePat
          = (ps.map parsePat).filter (fun P => isInfix P.letters lw) := by
        simp [relevant, List.filter_map, Function.comp_def]
      rw [hmap]
      exact liangAt_filter _ _ lw i (fun P _ hq o => matchesAt_false_of_not_infix P lw o hq)

/-- The answer to a query is a function of the hyphenator, and queries leave the hyphenator
alone: after any history the state is the one the loads and inserts alone produce, so no
earlier query can influence a later answer. -/
theorem queries_do_not_matter (ops : List Op) (h : CHyph) :
    ops.foldl (applyOpG true) h = (ops.filter (fun o => !o.isQuery)).foldl (applyOpG true) h :=
  foldl_ignores_queries true ops h

/-- Every history whose `load_patterns` calls precede its exception inserts — queries anywhere,
`insert_exception` and `insert_exceptions` mixed, e.g. hyphenate a word, declare an exception
for it, hyphenate it again — answers a query with the specification for the patterns and
exceptions loaded up to that point. -/
theorem history_spec (A B : List Op) (hA : ∀ o ∈ A, o.isExc = false)
    (hB : ∀ o ∈ B, o.isLoad = false)
    (lc : Char → Option Char) (w lw : List Char)
    (hlt : edgeCount (patsOf (A ++ B)) (excsOf (A ++ B)) < rootV)
    (hwf : ∀ p ∈ patsOf (A ++ B), wellFormed p = true)
    (hnd : (((patsOf (A ++ B)).map parsePat).map Pat.key).Nodup)
    (hl : lowerWord lc w = some lw) :
    cCalculateIndices ((A ++ B).foldl (applyOpG true) {}) lc w
      = some (specIndices (patsOf (A ++ B)) (excsOf (A ++ B)) lw) := by
  rw [history_state A B hA hB]
  exact coded_hyphenation_spec _ _ hlt lc w lw hwf hnd hl

/-- … in particular the exception declared after the word was first hyphenated wins. -/
example :
    cCalculateIndices (([Op.loadText "a1b 1c".toList, Op.query "abab".toList] ++
        [Op.exc "ab-ab".toList, Op.query "ABAB".toList]).foldl (applyOpG true) {}) asciiLc
      "Abab".toList = some [2] := by decide

/-- For EVERY history — loads, single and multi exception inserts and queries in any order —
the hyphenator as coded (numbered trie, `holds_exception` test) computes for every word exactly
what the prefix-map hyphenator computes after the same history. -/
theorem history_refines (ops : List Op) (hlt : (ops.map opEdges).sum < rootV)
    (lc : Char → Option Char) (w : List Char) :
    cAggregateScores (ops.foldl (applyOpG true) {}) lc w
      = aggregateScores (ops.foldl aApply {}) lc w :=
  cAggregateScores_eq _ _ (rel_history ops rel_empty (by simpa using hlt)) lc w

/-- The full statement for arbitrary histories (NOT proved yet, see `notes/C13.md`): every query
equals the specification of (patterns loaded so far, exceptions inserted so far). -/
def history_spec_full_statement : Prop :=
  ∀ (ops : List Op) (lc : Char → Option Char) (w lw : List Char),
    (ops.map opEdges).sum < rootV →
    (∀ p ∈ patsOf ops, wellFormed p = true) →
    (((patsOf ops).map parsePat).map Pat.key).Nodup →
    lowerWord lc w = some lw →
    cCalculateIndices (ops.foldl (applyOpG true) {}) lc w
      = some (specIndices (patsOf ops) (excsOf ops) lw)

/-- What is proved of it: the histories whose loads precede their exception inserts (queries
anywhere). Missing for the rest: the trie invariant with "an exception beats a later pattern"
(`Inv` with a winner function instead of `newest`) on the prefix-map side; the coded side is
done for every history (`history_refines`). -/
theorem history_spec_partial (A B : List Op) (hA : ∀ o ∈ A, o.isExc = false)
    (hB : ∀ o ∈ B, o.isLoad = false)
    (lc : Char → Option Char) (w lw : List Char)
    (hlt : edgeCount (patsOf (A ++ B)) (excsOf (A ++ B)) < rootV)
    (hwf : ∀ p ∈ patsOf (A ++ B), wellFormed p = true)
    (hnd : (((patsOf (A ++ B)).map parsePat).map Pat.key).Nodup)
    (hl : lowerWord lc w = some lw) :
    cCalculateIndices ((A ++ B).foldl (applyOpG true) {}) lc w
      = some (specIndices (patsOf (A ++ B)) (excsOf (A ++ B)) lw) :=
  history_spec A B hA hB lc w lw hlt hwf hnd hl

/-- Finding C13-b: the exception `ab` is declared, then the pattern `.a1b.` is loaded. The code
without `fixes/C13-b.patch` (`guard = false`) hyphenates `a-b`; the specification and the code
with the patch (`guard = true`) say `ab`. -/
example :
    cCalculateIndices ([Op.exc "ab".toList, Op.loadText ".a1b.".toList].foldl (applyOpG false) {})
      asciiLc "ab".toList = some [1] := by decide
example :
    cCalculateIndices ([Op.exc "ab".toList, Op.loadText ".a1b.".toList].foldl (applyOpG true) {})
      asciiLc "ab".toList = some [] := by decide
example :
    specIndices (patsOf [Op.exc "ab".toList, Op.loadText ".a1b.".toList])
      (excsOf [Op.exc "ab".toList, Op.loadText ".a1b.".toList]) "ab".toList = [] := by decide

end C13
