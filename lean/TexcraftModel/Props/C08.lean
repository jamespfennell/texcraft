import TexcraftModel.Lemmas.C08
import TexcraftModel.Lemmas.C08Run
import TexcraftModel.Lemmas.C08Macros

/-!
# C08 — checkpointing a VM is transparent (property theorems)

Model: `Model/C08.lean` (`serialize`, `deserialize` over C01's `VMState`, the command maps
flattened through C20's `iterAll` and rebuilt through `fromIter`, twice: once into the
serialisable map, once out of it).

The statements are about the code **after** `fixes/C08-a.patch` (`fixActive = true`). Before the
patch the first theorem is false: see `prefix_statement_false` and the `example` above it (the
witness of DESIGN 5.9).

**Partial (stated in `meta/C08.json`)**: everything `#[derive(Serialize, Deserialize)]` produces and
the three encoders are the identity in the model; function-pointer identity behind
`PrimitiveKey`/`GettersKey` is the hypothesis `NameTableSound` (checked on the real built-in map by
the harness case `names`); `Tag` regeneration, the interner's rebuild (C20: `rebuild_dedup`) and
every component of `StdLibState` other than registers, codes and parameters (conditional stack,
allocator, interaction mode, script writer: finding C08-b) are covered by the correspondence only.
-/
namespace C08.Thm
open C20 C01 C08

/-- **Checkpoint transparency.** For every sound name table, every VM state whose two command maps
satisfy C20's invariant (every reachable state does: `reachable_inv`), with any save stack, any
pending `\global` flag, any font stack: if serialisation does not panic, deserialisation with the
same tables succeeds and the new VM gives the same outputs (reads, errors, panics) as the old one
under **every** further program, for every variant of C01's repairs. -/
theorem checkpoint_transparent (T : Table) (hT : NameTableSound T) (vm : VMState)
    (hc : Inv vm.cmds) (ha : Inv vm.active) (s : Ser) (hs : serialize true T vm = .ok s) :
    ∃ vm', deserialize T s = .ok vm' ∧
      ∀ (cfg : Variant) (hist : List C01.Op), (C01.run cfg vm' hist).2 = (C01.run cfg vm hist).2 := by
  obtain ⟨vm', hd, he⟩ := deserialize_serialize T hT vm hc ha s hs
  exact ⟨vm', hd, fun cfg hist => (run_congr cfg he hist).1⟩

/-- Serialisation does not panic when everything stored in the command maps and on the save
stack has a name in the tables (`todo!("return an error")`, the two `unwrap`s). -/
theorem serialize_total (T : Table) (vm : VMState) (hc : Inv vm.cmds) (ha : Inv vm.active)
    (hn : Nameable T vm) : ∃ s, serialize true T vm = .ok s :=
  C08.serialize_total T vm hc ha hn

/-- Both together, as one statement about `checkpoint`. -/
theorem checkpoint_total_transparent (T : Table) (hT : NameTableSound T) (vm : VMState)
    (hc : Inv vm.cmds) (ha : Inv vm.active) (hn : Nameable T vm) :
    ∃ vm', checkpoint true T vm = .ok vm' ∧
      ∀ (cfg : Variant) (hist : List C01.Op), (C01.run cfg vm' hist).2 = (C01.run cfg vm hist).2 := by
  obtain ⟨s, hs⟩ := C08.serialize_total T vm hc ha hn
  obtain ⟨vm', hd, h⟩ := checkpoint_transparent T hT vm hc ha s hs
  exact ⟨vm', by rw [checkpoint, hs]; exact hd, h⟩

/-- Every state reached by a program from the initial VM satisfies the invariant hypotheses. -/
theorem reachable_inv (cfg : Variant) (ops : List C01.Op) :
    Inv (C01.run cfg VMState.init ops).1.cmds ∧ Inv (C01.run cfg VMState.init ops).1.active :=
  C08.reachable_inv cfg ops

/-- **The property as the harness observes it** (program split `P = P1 P2`): run `pre`, take a
checkpoint, run `post` — if the checkpoint does not panic, the outputs are those of running
`pre ++ post` on one VM. No invariant hypothesis: `pre` starts from the initial VM. -/
theorem checkpoint_transparent_run (cfg : Variant) (T : Table) (hT : NameTableSound T)
    (pre post : List C01.Op) (outs : List Out)
    (h : runCheckpointed cfg true T pre post = some outs) :
    outs = (C01.run cfg VMState.init (pre ++ post)).2 := by
  have hinv := C08.reachable_inv cfg pre
  rw [run_append]
  unfold runCheckpointed at h
  dsimp only at h
  split at h
  · rw [if_pos ‹_›]; exact (Option.some.inj h).symm
  · rw [if_neg ‹_›]
    split at h
    · have he := checkpoint_equiv T hT _ hinv.1 hinv.2 _ ‹_›
      rw [← Option.some.inj h, (run_congr cfg he post).1]
    · cases h

/-- The driver's table satisfies the hypothesis (non-vacuity of `NameTableSound`). -/
theorem stdTable_sound : NameTableSound stdTable := C08.stdTable_sound

/-- A state with open groups, saved values, a `\countdef` alias, a macro on an active character,
a `\let` to a primitive and a pending global definition: the checkpoint succeeds and the reads
after closing the groups are the same. -/
example :
    let pre : List C01.Op :=
      [.assign 0 ⟨.count, 1⟩ 3, .define 0 (.act 0) (.mac 5), .beginGroup, .assign 0 ⟨.count, 1⟩ 4,
       .define 0 (.cs 2) (.cdef 1), .define 0 (.act 0) (.mac 6), .beginGroup,
       .define 1 (.cs 3) (.lbuiltin (.prim 2)), .assign 1 ⟨.toks, 0⟩ 7, .assign 0 ⟨.param, 0⟩ 1]
    let post : List C01.Op :=
      [.read (.cmd (.act 0)), .endGroup, .read (.cmd (.cs 2)), .endGroup, .read (.cmd (.act 0)),
       .read (.cmd (.cs 2)), .read (.cmd (.cs 3)), .read (.var ⟨.count, 1⟩), .endGroup]
    runCheckpointed Variant.fixed true stdTable pre post
      = some (C01.run Variant.fixed VMState.init (pre ++ post)).2 ∧
    (C01.run Variant.fixed VMState.init (pre ++ post)).2.drop 10
      = [.cmd (some (.mac 6)) none, .unit, .cmd (some (.alias ⟨.count, 1⟩)) (some 4), .unit,
         .cmd (some (.mac 5)) none, .cmd none none, .cmd (some (.prim 2)) none, .val (some 3),
         .errNoGroup] := by decide

/-- Serialisation of a reachable state with names for everything is `ok` (the conclusion of
`serialize_total`), and a state holding a primitive without a name makes it panic (the
`todo!("return an error")` arm): the hypothesis `Nameable` is not vacuous and not superfluous. -/
example :
    (match serialize true stdTable (C01.run Variant.fixed VMState.init
        [.define 0 (.act 0) (.mac 5), .beginGroup, .define 0 (.cs 2) (.cdef 1),
         .assign 0 ⟨.count, 1⟩ 4]).1 with
      | .ok _ => true
      | _ => false) = true ∧
    (match serialize true stdTable (C01.run Variant.fixed VMState.init
        [.define 0 (.cs 1) (.lbuiltin (.prim 99))]).1 with
      | .panic => true
      | _ => false) = true := by decide

/-- A concrete non-trivial state meets the hypothesis `Nameable stdTable` of `serialize_total`
(an alias and a primitive in a group, a macro and a saved primitive on an active character, a
saved register). -/
example : Nameable stdTable
    { vars := [(⟨.count, 1⟩, 4)], save := [[(⟨.count, 1⟩, .delete)]],
      cmds := { bc := [(2, .alias ⟨.count, 1⟩), (3, .prim 2)], groups := [[(2, .delete)]] },
      active := { bc := [(0, .mac 5)], groups := [[(0, .revert (.prim 0))]] },
      font := 0, fontSave := [none], scopeBit := .loc } := by
  refine ⟨⟨?_, ?_⟩, ⟨?_, ?_⟩, ?_⟩
  · intro p hp
    rcases hp with _ | ⟨_, _ | ⟨_, ⟨⟩⟩⟩
    · exact rfl
    · exact rfl
  · intro g hg p hp v hv
    rcases hg with _ | ⟨_, ⟨⟩⟩
    rcases hp with _ | ⟨_, ⟨⟩⟩
    cases hv
  · intro p hp
    rcases hp with _ | ⟨_, ⟨⟩⟩
    exact trivial
  · intro g hg p hp v hv
    rcases hg with _ | ⟨_, ⟨⟩⟩
    rcases hp with _ | ⟨_, ⟨⟩⟩
    cases hv
    exact rfl
  · intro g hg e he
    rcases hg with _ | ⟨_, ⟨⟩⟩
    rcases he with _ | ⟨_, ⟨⟩⟩
    exact rfl

/-- Witness of DESIGN 5.9 (`\catcode`\~=13 \def~{A}` | `~`): with the code before C08-a the
active character is undefined after the checkpoint. -/
example :
    runCheckpointed Variant.fixed false stdTable [.define 0 (.act 0) (.mac 5)] [.read (.cmd (.act 0))]
      = some [.unit, .cmd none none] ∧
    (C01.run Variant.fixed VMState.init [.define 0 (.act 0) (.mac 5), .read (.cmd (.act 0))]).2
      = [.unit, .cmd (some (.mac 5)) none] := by decide

/-- The split statement for the code before C08-a. It is false: `prefix_statement_false`. -/
def C08_prefix_full_statement : Prop :=
  ∀ pre post outs, runCheckpointed Variant.fixed false stdTable pre post = some outs →
    outs = (C01.run Variant.fixed VMState.init (pre ++ post)).2

theorem prefix_statement_false : ¬ C08_prefix_full_statement := by
  intro h
  have := h [.define 0 (.act 0) (.mac 5)] [.read (.cmd (.act 0))] [.unit, .cmd none none] (by decide)
  exact absurd this (by decide)

/-! ## The macro table as coded; macro sharing

`Model/C08Macros.lean` transcribes the closure `to_serializable` of `SerializableMap::new` with its
two pieces of mutable state (`macros`, `macros_de_dup` keyed by `Rc::as_ptr`) and the walk over the
control sequences and then the active characters. The driver evaluates *this* serialiser
(`runCheckpointedInc id`). -/

/-- The serialiser as coded is the serialiser described by its final table, for every injective
de-duplication key (distinct live `Rc`s have distinct addresses), every table and every VM state. -/
theorem serializer_as_coded (key : Nat → Nat) (hk : KeyInj key) (T : Table) (vm : VMState) :
    serializeInc key T vm = serialize true T vm :=
  serializeInc_eq key hk T vm

/-- Checkpoint transparency for the serialiser as coded. -/
theorem checkpoint_transparent_as_coded (key : Nat → Nat) (hk : KeyInj key) (T : Table)
    (hT : NameTableSound T) (vm : VMState) (hc : Inv vm.cmds) (ha : Inv vm.active) (s : Ser)
    (hs : serializeInc key T vm = .ok s) :
    ∃ vm', deserialize T s = .ok vm' ∧
      ∀ (cfg : Variant) (hist : List C01.Op), (C01.run cfg vm' hist).2 = (C01.run cfg vm hist).2 :=
  checkpoint_transparent T hT vm hc ha s (serializeInc_eq key hk T vm ▸ hs)

/-- … and in the split form the driver evaluates. -/
theorem checkpoint_transparent_run_as_coded (key : Nat → Nat) (hk : KeyInj key) (cfg : Variant)
    (T : Table) (hT : NameTableSound T) (pre post : List C01.Op) (outs : List Out)
    (h : runCheckpointedInc key cfg T pre post = some outs) :
    outs = (C01.run cfg VMState.init (pre ++ post)).2 :=
  checkpoint_transparent_run cfg T hT pre post outs (runCheckpointedInc_eq key hk cfg T pre post ▸ h)

/-- **Macro sharing is written out exactly.** Two names (control sequences or active characters)
that are macros are given the same index of the serialised macro table iff they were the same
macro (`\let` aliases share, separate `\def`s do not), for every map. -/
theorem macro_sharing_preserved (key : Nat → Nat) (hk : KeyInj key) (T : Table) (vm : VMState)
    (hc : Inv vm.cmds) (ha : Inv vm.active) (s : Ser) (hs : serializeInc key T vm = .ok s)
    (t1 t2 : CTarget) (n1 n2 : Nat)
    (h1 : getCmd vm t1 = some (.mac n1)) (h2 : getCmd vm t2 = some (.mac n2)) :
    ∃ u1 u2, s.get t1 = some (.macro u1) ∧ s.get t2 = some (.macro u2) ∧ (u1 = u2 ↔ n1 = n2) := by
  rw [serializeInc_eq key hk] at hs
  obtain ⟨m1, g1⟩ := ser_get_mac T vm hc ha s hs t1 n1 h1
  obtain ⟨m2, g2⟩ := ser_get_mac T vm hc ha s hs t2 n2 h2
  exact ⟨_, _, g1, g2, idxOf_inj _ n1 n2 m1 m2⟩

/-- … and read back exactly: after the restore two names are the same command iff they were. -/
theorem macro_sharing_after_restore (key : Nat → Nat) (hk : KeyInj key) (T : Table)
    (hT : NameTableSound T) (vm : VMState) (hc : Inv vm.cmds) (ha : Inv vm.active) (s : Ser)
    (hs : serializeInc key T vm = .ok s) :
    ∃ vm', deserialize T s = .ok vm' ∧
      ∀ t1 t2 : CTarget, (getCmd vm' t1 = getCmd vm' t2 ↔ getCmd vm t1 = getCmd vm t2) := by
  rw [serializeInc_eq key hk] at hs
  obtain ⟨vm', hd, he⟩ := deserialize_serialize T hT vm hc ha s hs
  refine ⟨vm', hd, fun t1 t2 => ?_⟩
  rw [getCmd_congr he t1, getCmd_congr he t2]

/-- A de-duplication key that is **not** injective breaks the property (mutant 02 of the sweep,
`addr & !0xff`; here `n / 2`): two different macros collapse into one. -/
example :
    runCheckpointedInc (· / 2) Variant.fixed stdTable
        [.define 0 (.cs 0) (.mac 0), .define 0 (.cs 1) (.mac 1)] [.read (.cmd (.cs 0))]
      = some [.unit, .unit, .cmd (some (.mac 1)) none] ∧
    runCheckpointedInc id Variant.fixed stdTable
        [.define 0 (.cs 0) (.mac 0), .define 0 (.cs 1) (.mac 1)] [.read (.cmd (.cs 0))]
      = some [.unit, .unit, .cmd (some (.mac 0)) none] ∧
    KeyInj id := by
  refine ⟨by decide, by decide, fun a b h => h⟩

/-- **The pending `\global` flag is `Local` at every checkpoint the API allows**: every VM reached
by a program (a run that returned) has `scopeBit = .loc` — a `\global` with nothing after it does
not return `Ok`. Hence a deserialiser that forgets the flag (mutant 21) restores the same VM. -/
theorem reachable_scope_local (cfg : Variant) (ops : List C01.Op) :
    (C01.run cfg VMState.init ops).1.scopeBit = .loc :=
  C08.reachable_scope_local cfg ops VMState.init rfl

theorem forgetting_scope_is_identity (cfg : Variant) (ops : List C01.Op) :
    { (C01.run cfg VMState.init ops).1 with scopeBit := Scope.loc } = (C01.run cfg VMState.init ops).1 := by
  rw [← reachable_scope_local cfg ops]

/-- **A run that returns leaves nothing pending.** When `next_unexpanded` answers `Ok(None)` — the
only way `VM::run` returns `Ok` — there is no pending expansion, no undelivered token and no
source left on the stack, whatever the stack was: every checkpoint of the property is taken in
this state, so `Source.expansions` and the sources' read positions carry no information there
(mutant 24 of the sweep is equivalent). -/
theorem run_returns_at_rest (s : C08.Input.Stack) (h : s.next.1 = .endOfInput) :
    s.next.2 = { cur := { expansions := [], lexer := [] }, sources := [] } ∧ s.remaining = [] := by
  obtain ⟨e, hs⟩ := C08.Input.next_spec s.sources s.cur
  rw [show (C08.Input.next s.sources s.cur).1 = _ from h] at e
  exact ⟨hs h, e⟩

/-- `next_unexpanded` delivers exactly the first token of the remaining input, for every stack
(pending expansions first, then the lexer, then the sources below). -/
theorem next_delivers_first_remaining (s : C08.Input.Stack) (t : Nat) (h : s.next.1 = .token t) :
    s.remaining = some t :: s.next.2.remaining := by
  have e := (C08.Input.next_spec s.sources s.cur).1
  rwa [show (C08.Input.next s.sources s.cur).1 = _ from h] at e

example :
    (C08.Input.Stack.next { cur := ⟨[], []⟩, sources := [⟨[], []⟩, ⟨[7], [some 8]⟩] }).1 = .token 7 ∧
    (C08.Input.Stack.next { cur := ⟨[], []⟩, sources := [⟨[], []⟩] }).1 = .endOfInput := by decide

end C08.Thm
