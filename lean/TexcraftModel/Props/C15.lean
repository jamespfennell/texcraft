import TexcraftModel.Model.C15
import TexcraftModel.Lemmas.C15
import TexcraftModel.Lemmas.C15Range
import TexcraftModel.Lemmas.C15Fill
import TexcraftModel.Lemmas.C15Font

/-!
C15 — packing a horizontal list produces TeX's box dimensions and glue setting.

`hpack` (M) is the transcription of `HBox::pack` *with* `fixes/C15-a.patch`,
`fixes/C15-b.patch` and `fixes/C15-c.patch` applied; `texHpack` (S) is TeX82 §649–§667
over declaratively defined totals. Every theorem is for every list and every target width
(unbounded `Int` dimensions; the `i32` side condition is `inRange`, see the model).
The unpatched code (`hpackOld`) violates `natural_width_sum`, `height_depth_max`,
`order_highest_nonzero`, `ratio_fills`, `overfull_unit` and `hpack_eq_tex`: the `example`s at the
end prove it at concrete witnesses, one per defect (C15-a, C15-b, C15-c).
-/
namespace C15

/-- The box is as wide as asked: the natural width — the sum of the item widths — plus the
additional width, or the exact width. -/
theorem natural_width_sum (l : List Item) :
    (∀ a, (hpack l (.additional a)).width = natWidth l + a) ∧
    (∀ w, (hpack l (.exact w)).width = w) ∧
    natWidth l = sum (l.map Item.natWidth) :=
  ⟨fun _ => (hpack_dims l _).2.2, fun _ => (hpack_dims l _).2.2, rfl⟩

/-- Height and depth are the maxima (with 0) of what the items ask for, shifted boxes
adjusted: non-negative, an upper bound for every item, and attained (or 0). -/
theorem height_depth_max (l : List Item) (pw : PackWidth) :
    (hpack l pw).height = boxHeight l ∧ (hpack l pw).depth = boxDepth l ∧
    (0 ≤ boxHeight l ∧ (∀ i ∈ l, i.boxHeight ≤ boxHeight l) ∧
      (boxHeight l = 0 ∨ ∃ i ∈ l, i.boxHeight = boxHeight l)) ∧
    (0 ≤ boxDepth l ∧ (∀ i ∈ l, i.boxDepth ≤ boxDepth l) ∧
      (boxDepth l = 0 ∨ ∃ i ∈ l, i.boxDepth = boxDepth l)) :=
  ⟨(hpack_dims l pw).1, (hpack_dims l pw).2.1, max0_map_spec Item.boxHeight l,
    max0_map_spec Item.boxDepth l⟩

/-- The glue order is the highest order of infinity with non-zero total stretch (when the
box must grow) or shrink (when it must contract); normal when nothing is to be done.
FALSE for the unpatched code (C15-a, see the end of the file). -/
theorem order_highest_nonzero (l : List Item) (pw : PackWidth) :
    (0 < excess l pw → IsHighestNonzero (totalStretch l) (hpack l pw).order) ∧
    (excess l pw < 0 → IsHighestNonzero (totalShrink l) (hpack l pw).order) ∧
    (excess l pw = 0 → (hpack l pw).order = .normal) := by
  refine ⟨fun hx => ?_, fun hx => ?_, fun hx => ?_⟩
  · rw [hpack_order_pos hx]; exact texOrder_highest _
  · rw [hpack_order_neg hx]; exact texOrder_highest _
  · rw [hpack_exact hx]

/-- Whenever TeX would not call the box overfull and there is glue to set (non-zero total
at the chosen order), the stretched or shrunk contents fill the box exactly:
`natural + (num/den)·total[order] = width`, stated without division. -/
theorem ratio_fills (l : List Item) (pw : PackWidth) :
    (0 < excess l pw → totalStretch l (hpack l pw).order ≠ 0 →
      (hpack l pw).den ≠ 0 ∧
      natWidth l * (hpack l pw).den + (hpack l pw).num * totalStretch l (hpack l pw).order
        = (hpack l pw).width * (hpack l pw).den) ∧
    (excess l pw < 0 → totalShrink l (hpack l pw).order ≠ 0 → ¬ Overfull l pw →
      (hpack l pw).den ≠ 0 ∧
      natWidth l * (hpack l pw).den + (hpack l pw).num * totalShrink l (hpack l pw).order
        = (hpack l pw).width * (hpack l pw).den) := by
  refine ⟨fun hx hn => ?_, fun hx hn hov => ?_⟩
  · rw [hpack_order_pos hx] at hn
    rw [hpack_stretch hx hn]
    exact ⟨hn, fill_key _ _ _⟩
  · rw [hpack_order_neg hx] at hn
    rw [hpack_shrink hx hov hn]
    exact ⟨hn, fill_key _ _ _⟩

/-- An overfull box (TeX §664: order normal, shrinkability less than the deficit) with some
shrinkability shrinks by exactly its shrinkability: order normal and ratio −1, so the set
width of the contents is `natural − total_shrink`. FALSE for the unpatched code (C15-b). -/
theorem overfull_unit (l : List Item) (pw : PackWidth) (hov : Overfull l pw)
    (hs : totalShrink l .normal ≠ 0) :
    (hpack l pw).order = .normal ∧ (hpack l pw).den ≠ 0 ∧ (hpack l pw).num = -(hpack l pw).den ∧
    natWidth l * (hpack l pw).den + (hpack l pw).num * totalShrink l .normal
      = (natWidth l - totalShrink l .normal) * (hpack l pw).den := by
  rw [hpack_overfull hov hs]
  refine ⟨rfl, ONE_ne_zero, rfl, ?_⟩
  simp only [ONE]
  omega

/-- A list without the needed glue is left unset: when nothing is to be done, or every
total of the needed sign is zero, the ratio is 0 and the order normal. -/
theorem no_glue_unset (l : List Item) (pw : PackWidth)
    (h : excess l pw = 0 ∨ (0 < excess l pw ∧ ∀ o, totalStretch l o = 0) ∨
         (excess l pw < 0 ∧ ∀ o, totalShrink l o = 0)) :
    (hpack l pw).num = 0 ∧ (hpack l pw).den ≠ 0 ∧ (hpack l pw).order = .normal := by
  rcases h with hx | ⟨hx, hz⟩ | ⟨hx, hz⟩
  · rw [hpack_exact hx]; exact ⟨rfl, Int.one_ne_zero, rfl⟩
  · rw [hpack_stretch_unset hx (hz _)]; exact ⟨rfl, Int.one_ne_zero, rfl⟩
  · rw [hpack_shrink_unset hx (hz _)]; exact ⟨rfl, ONE_ne_zero, rfl⟩

/-- In particular a list with no glue item at all is never set. -/
theorem no_glue_items_unset (l : List Item) (pw : PackWidth)
    (h : ∀ i ∈ l, ∀ g, i ≠ .glue g) :
    (hpack l pw).num = 0 ∧ (hpack l pw).den ≠ 0 ∧ (hpack l pw).order = .normal := by
  have z : ∀ i ∈ l, ∀ o, i.stretchAt o = 0 ∧ i.shrinkAt o = 0 := fun i hi o => by
    cases i with
    | glue g => exact absurd rfl (h _ hi g)
    | _ => exact ⟨rfl, rfl⟩
  apply no_glue_unset
  rcases Int.lt_trichotomy (excess l pw) 0 with hx | hx | hx
  · exact Or.inr (Or.inr ⟨hx, fun o => sum_map_zero l _ fun i hi => (z i hi o).2⟩)
  · exact Or.inl hx
  · exact Or.inr (Or.inl ⟨hx, fun o => sum_map_zero l _ fun i hi => (z i hi o).1⟩)

/-- **Refinement**: the packed box is TeX's box — same dimensions, same glue order, and the
signed exact ratio is TeX's `glue_set` with the sign of `glue_sign` (0 when the sign is
normal). FALSE for the unpatched code (C15-a, C15-b, C15-c). -/
theorem hpack_eq_tex (l : List Item) (pw : PackWidth) : (hpack l pw).agrees (texHpack l pw) := by
  rcases Int.lt_trichotomy (excess l pw) 0 with hx | hx | hx
  · by_cases hs : totalShrink l (texOrder (totalShrink l)) = 0
    · obtain ⟨num, e⟩ := texHpack_shrink_unset hx hs
      rw [hpack_shrink_unset hx hs, e]
      exact ⟨rfl, rfl, rfl, (texOrder_zero _ hs).symm, ONE_ne_zero, Int.one_ne_zero, rfl⟩
    · by_cases hov : Overfull l pw
      · have hn : totalShrink l .normal ≠ 0 := hov.2.1 ▸ hs
        rw [hpack_overfull hov hn, texHpack_overfull hov hn]
        exact ⟨rfl, rfl, rfl, rfl, ONE_ne_zero, Int.one_ne_zero, (by decide : -ONE * 1 = -1 * ONE)⟩
      · rw [hpack_shrink hx hov hs, texHpack_shrink hx hov hs]
        exact ⟨rfl, rfl, rfl, rfl, hs, hs, by rw [Int.neg_neg]⟩
  · rw [hpack_exact hx, texHpack_exact hx]
    exact ⟨rfl, rfl, rfl, rfl, Int.one_ne_zero, Int.one_ne_zero, rfl⟩
  · by_cases hs : totalStretch l (texOrder (totalStretch l)) = 0
    · rw [hpack_stretch_unset hx hs, texHpack_stretch_unset hx hs]
      exact ⟨rfl, rfl, rfl, (texOrder_zero _ hs).symm, Int.one_ne_zero, Int.one_ne_zero, rfl⟩
    · rw [hpack_stretch hx hs, texHpack_stretch hx hs]
      exact ⟨rfl, rfl, rfl, rfl, hs, hs, rfl⟩

/-- **The box-width identity, node by node** (TeX §625 with the exact ratio): when the ratio
`num/den` is applied to every glue node of the box's order (stretch when the box must grow,
shrink when it must contract) and every other node keeps its width, the widths add up to the
box width exactly whenever TeX sets the glue and does not call the box overfull; an overfull
box with some shrinkability comes out at `natural − total_shrink`. Stated times `den`. -/
theorem set_widths_fill (l : List Item) (pw : PackWidth) :
    (0 < excess l pw → totalStretch l (texOrder (totalStretch l)) ≠ 0 →
      (hpack l pw).den ≠ 0 ∧
      sum (l.map (Item.setWidthTimesDen (hpack l pw) true)) = (hpack l pw).width * (hpack l pw).den) ∧
    (Overfull l pw → totalShrink l .normal ≠ 0 →
      (hpack l pw).den ≠ 0 ∧
      sum (l.map (Item.setWidthTimesDen (hpack l pw) false))
        = (natWidth l - totalShrink l .normal) * (hpack l pw).den) ∧
    (excess l pw < 0 → totalShrink l (texOrder (totalShrink l)) ≠ 0 → ¬ Overfull l pw →
      (hpack l pw).den ≠ 0 ∧
      sum (l.map (Item.setWidthTimesDen (hpack l pw) false)) = (hpack l pw).width * (hpack l pw).den) := by
  simp only [sum_setWidth, if_true, Bool.false_eq_true, if_false]
  refine ⟨fun hx hn => ?_, fun hov hn => ?_, fun hx hn hov => ?_⟩
  · rw [← hpack_order_pos hx] at hn
    exact (ratio_fills l pw).1 hx hn
  · obtain ⟨ho, hd, -, e⟩ := overfull_unit l pw hov hn
    rw [ho]
    exact ⟨hd, e⟩
  · rw [← hpack_order_neg hx] at hn
    exact (ratio_fills l pw).2 hx hn hov

/-- The executable form of `set_widths_fill` (the one the driver evaluates on the real box)
holds of the model's box. -/
theorem hpack_fills (l : List Item) (pw : PackWidth) : fillsExactly l pw (hpack l pw) = true := by
  obtain ⟨h1, h2, h3⟩ := set_widths_fill l pw
  unfold fillsExactly
  simp only []
  split
  · next h => exact decide_eq_true (h1 h.1 h.2)
  · split
    · next h => exact decide_eq_true (h2 h.1 h.2)
    · split
      · next h => exact decide_eq_true (h3 h.1 h.2.1 h.2.2)
      · rfl

/-- **TeX's size discipline keeps `pack` inside `i32`**: if the absolute widths, the absolute
stretch amounts and the absolute shrink amounts of the list each add up to at most
`max_dimen = 2^30 − 1`, every `[w, h, d]` fits, and the requested width is at most `max_dimen`
in absolute value, then no intermediate value of `pack` (partial sums of widths and of the
eight totals, `natural + additional`, `width − natural`, `−excess`) leaves `i32`: neither the
overflow panic of a checked build nor the wrap of a release build can occur. -/
theorem small_inRange (l : List Item) (pw : PackWidth) (h : Small l pw = true) :
    inRange l pw = true := by
  obtain ⟨hall, hw, hs, hk, ha⟩ := small_iff.mp h
  have nb := natWidth_bounds l
  obtain ⟨hW, hX⟩ := pw.width_bounds (n := natWidth l) ⟨Int.le_trans (Int.neg_le_neg hw) nb.1,
    Int.le_trans nb.2 hw⟩ ha
  unfold inRange
  simp only [(loop_init l).1, loopRange_init l hall hw hs hk, Bool.true_and, Bool.and_eq_true,
    Bool.or_eq_true]
  exact ⟨⟨i32_of_abs_le hW, i32_of_abs_le hX⟩, Or.inr (i32_of_abs_le ⟨by omega, by omega⟩)⟩

/-- **Why `shrink <= -excess` in the overfull test is an equivalent mutant** (`mutants/C15/19-overfull-le.diff`):
the variant is TeX's box as well; at the boundary it stores `−ONE/ONE` for `excess/shrink`,
the same ratio −1. -/
theorem hpackLe_eq_tex (l : List Item) (pw : PackWidth) : (hpackLe l pw).agrees (texHpack l pw) := by
  rw [hpackLe_eq]
  split
  · next hc =>
    obtain ⟨hx, ho, he⟩ := hc
    have hs : totalShrink l (texOrder (totalShrink l)) ≠ 0 := by omega
    have hov : ¬ Overfull l pw := fun hov => by have := hov.2.2; rw [ho] at he; omega
    rw [texHpack_shrink hx hov hs]
    refine ⟨rfl, rfl, rfl, ho.symm, ONE_ne_zero, hs, ?_⟩
    simp only [he, ONE]
    omega
  · exact hpack_eq_tex l pw

/-- **Glyph metrics against the raw TFM tables, per (font, character).** With the real font
repository (`TfmFontRepo` over `tfm::File`s) `pack` panics exactly when some glyph names an
unregistered font; otherwise the box width is the target computed from the sum, over the
nodes, of the width-table entry of each character *in its own font* (nothing for a character
the font lacks: no `char_dimens` entry, invalid width index, index outside the table, code
above 255), and height/depth are the maxima (with 0) of the height/depth-table entries of the
characters that exist (0 for an index outside the table) and of what the other nodes ask; and
the box agrees with TeX's `hpack` of the list with the glyphs resolved. -/
theorem hpack_tfm_dims (r : Repo) (ns : List Node) (pw : PackWidth) :
    (hpackTfm r ns pw = none ↔ ¬ ns.all (Node.registered r) = true) ∧
    ∀ b, hpackTfm r ns pw = some b →
      b.width = pw.width (sum (ns.map (Node.width r))) ∧
      b.height = max0 (ns.map (Node.height r)) ∧
      b.depth = max0 (ns.map (Node.depth r)) ∧
      ∃ l, resolve r ns = some l ∧ b.agrees (texHpack l pw) := by
  have hs := resolve_isSome r ns
  unfold hpackTfm
  cases hr : resolve r ns with
  | none =>
    rw [hr] at hs
    exact ⟨⟨fun _ h => Bool.false_ne_true (hs.trans h), fun _ => rfl⟩, fun b hb => nomatch hb⟩
  | some l =>
    rw [hr] at hs
    refine ⟨⟨fun h => (nomatch h), fun h => absurd hs.symm h⟩, fun b hb => ?_⟩
    cases hb
    obtain ⟨a, h, d⟩ := resolve_dims r ns l hr
    obtain ⟨eh, ed, ew⟩ := hpack_dims l pw
    exact ⟨a ▸ ew, h ▸ eh, d ▸ ed, l, rfl, hpack_eq_tex l pw⟩

/-! ## Non-vacuity: concrete instances that meet the hypotheses -/

/-- `glue(0pt plus 5pt) glue(0pt plus 0fil)` packed to 10pt (the C15-a witness). -/
def wA : List Item := [.glue ⟨0, 327680, .normal, 0, .normal⟩, .glue ⟨0, 0, .fil, 0, .normal⟩]
/-- `glue(10pt minus 2pt)` packed to its natural width − 3pt (overfull; the C15-b witness). -/
def wB : List Item := [.glue ⟨655360, 0, .normal, 131072, .normal⟩]
/-- A box of height 8pt, width 4pt, depth 1pt lowered by 3pt (the C15-c witness). -/
def wC : List Item := [.box 524288 262144 65536 196608]
/-- `glue(1pt minus 0fil)` packed to natural − 1pt (C15-a, shrinking: the order is wrong). -/
def wA' : List Item := [.glue ⟨65536, 0, .normal, 0, .fil⟩]
/-- `glue(0pt minus 3pt)  glue(0pt minus 1fil)` packed to −2pt: shrinks at order fil. -/
def wD : List Item := [.glue ⟨0, 0, .normal, 196608, .normal⟩, .glue ⟨0, 0, .normal, 65536, .fil⟩]

-- `ratio_fills`, stretching: TeX sets `wA` with ratio 2.0 at order normal.
example : 0 < excess wA (.exact 655360) ∧ totalStretch wA (hpack wA (.exact 655360)).order ≠ 0 ∧
    hpack wA (.exact 655360) = ⟨0, 655360, 0, .normal, 655360, 327680⟩ := by decide
-- `ratio_fills`, shrinking, not overfull, infinite order.
example : excess wD (.exact (-131072)) < 0 ∧ totalShrink wD (hpack wD (.exact (-131072))).order ≠ 0 ∧
    ¬ Overfull wD (.exact (-131072)) ∧
    hpack wD (.exact (-131072)) = ⟨0, -131072, 0, .fil, -131072, 65536⟩ := by decide
-- `overfull_unit`.
example : Overfull wB (.additional (-196608)) ∧ totalShrink wB .normal ≠ 0 ∧
    hpack wB (.additional (-196608)) = ⟨0, 458752, 0, .normal, -65536, 65536⟩ := by decide
-- `no_glue_unset`, third disjunct; `no_glue_items_unset`.
example : excess wC (.exact 0) < 0 ∧ (∀ i ∈ wC, ∀ g, i ≠ .glue g) ∧
    hpack wC (.exact 0) = ⟨327680, 0, 262144, .normal, 0, 65536⟩ := by
  refine ⟨by decide, ?_, by decide⟩
  intro i hi g; simp [wC] at hi; subst hi; simp
-- `height_depth_max`: a shifted box: height 8pt − 3pt, depth 1pt + 3pt, width 4pt.
example : hpack wC (.additional 0) = ⟨327680, 262144, 262144, .normal, 0, 1⟩ := by decide

-- `set_widths_fill`, shrinking at order fil: 0pt + 0pt with `−2pt/1pt` of `minus 1fil` = −2pt.
example : sum (wD.map (Item.setWidthTimesDen (hpack wD (.exact (-131072))) false))
    = (hpack wD (.exact (-131072))).width * (hpack wD (.exact (-131072))).den ∧
    fillsExactly wD (.exact (-131072)) (hpack wD (.exact (-131072))) = true := by decide
-- `small_inRange`: the hypothesis is met by ordinary lists, and it is not vacuous that it can fail.
example : Small wA (.exact 655360) = true ∧ Small wB (.additional (-196608)) = true ∧
    Small [.kern 1073741823, .kern 1] (.additional 0) = false ∧
    inRange [.kern 2147483647, .kern 1] (.additional 0) = false := by decide
-- `hpackLe_eq_tex`: at the boundary `shrink = −excess` the two models store different pairs.
example : hpack wB (.additional (-131072)) = ⟨0, 524288, 0, .normal, -131072, 131072⟩ ∧
    hpackLe wB (.additional (-131072)) = ⟨0, 524288, 0, .normal, -65536, 65536⟩ := by decide

-- `hpack_tfm_dims`: the same code `97` in two fonts with different tables, an invalid width
-- index, a height index outside the table, a code above 255, and an unregistered font.
def wFont0 : TfmFont := ⟨[(97, ⟨1, 1, 0⟩), (98, ⟨0, 1, 1⟩)], [0, 500], [0, 430], [0, 10]⟩
def wFont1 : TfmFont := ⟨[(97, ⟨2, 5, 1⟩)], [0, 7, 800], [0, 600], [0, 25]⟩
example : hpackTfm [(0, wFont0), (1, wFont1)]
      [.glyph 97 0, .glyph 97 1, .glyph 98 0, .glyph 300 0, .other (.kern 3)] (.additional 0)
    = some ⟨430, 1303, 25, .normal, 0, 1⟩ ∧
    hpackTfm [(0, wFont0), (1, wFont1)] [.glyph 97 0, .glyph 97 2] (.additional 0) = none := by decide

/-! ## The unpatched code (`hpackOld`) violates the property — one witness per defect -/

/-- C15-a (stretching): the zero-amount `fil` glue takes the order over, its total is zero,
and the box is left unset; TeX sets it with ratio 2.0 at order normal. `ratio_fills` and
`hpack_eq_tex` are false for `hpackOld`. -/
example : hpackOld wA (.exact 655360) = ⟨0, 655360, 0, .normal, 0, 1⟩ ∧
    texHpack wA (.exact 655360) = ⟨0, 655360, 0, .stretching, .normal, 655360, 327680⟩ ∧
    ¬ (hpackOld wA (.exact 655360)).agrees (texHpack wA (.exact 655360)) := by decide

/-- C15-a (shrinking): the order `fil` is reported although the total shrink at `fil` is
zero: `order_highest_nonzero` is false for `hpackOld`. -/
example : (hpackOld wA' (.additional (-65536))).order = .fil ∧ totalShrink wA' .fil = 0 ∧
    (hpack wA' (.additional (-65536))).order = .normal := by decide

/-- C15-b: the overfull box gets ratio `+1` (stretching by the code's own sign convention)
instead of `−1`: `overfull_unit` and `hpack_eq_tex` are false for `hpackOld`. -/
example : hpackOld wB (.additional (-196608)) = ⟨0, 458752, 0, .normal, 65536, 65536⟩ ∧
    ¬ (hpackOld wB (.additional (-196608))).agrees (texHpack wB (.additional (-196608))) := by decide

/-- C15-c: a nested box contributes its (shifted) height to the width and its width to the
height: `natural_width_sum`, `height_depth_max` and `hpack_eq_tex` are false for `hpackOld`. -/
example : hpackOld wC (.additional 0) = ⟨262144, 327680, 262144, .normal, 0, 1⟩ ∧
    ¬ (hpackOld wC (.additional 0)).agrees (texHpack wC (.additional 0)) := by decide

end C15
