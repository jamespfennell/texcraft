import TexcraftModel.Lemmas.C01Items

/-!
# C01 — group scoping: property theorems

`M` = `C01.run Variant.fixed` on `C01.VMState` (`Model/C01.lean`: the save stack of variables, the
two scoped command maps, the font stack and the pending-`\global` flag, transcribed from the Rust
code as it is after the repairs `fixes/C01-{a,b,c}.patch`);
`S` = `C01.Spec.run` (TeX's semantics: a stack of full environments; a global assignment writes
every level; the scope of an assignment is a function of its own prefix and the current
`\globaldefs` only). Helper lemmas: `Lemmas/C01.lean` (the simulation), `Lemmas/C01Cor.lean` (the
corollaries), `Lemmas/C01Items.lean` (surface items, the two equivalent code variants).
-/
namespace C01.Thm
open C01 C20

/-- **Refinement.** For every program, the reads (and the fatal error, if any) of the VM model are
those of the stack-of-environments semantics `Spec.run` — TeX's semantics with the single recorded
deviation C01-d built in (`\let` from an undefined name does nothing); see `vm_refines_run_partial`
for TeX's own semantics. -/
theorem vm_refines_run (hist : List Op) :
    (run .fixed VMState.init hist).2 = (Spec.init.run hist).2 :=
  (refines_run_from R_init hist).1

/-- The property's refinement in full: against TeX's own semantics (`Spec.runTeX`, where a `\let`
from an undefined name makes the target undefined). It is **false** (known finding C01-d). -/
def vm_refines_run_full_statement : Prop :=
  ∀ hist : List Op, (run .fixed VMState.init hist).2 = (Spec.init.runTeX hist).2

/-- What holds of it: every program that never executes a `\let` from an undefined name
(`Spec.noUndefLet`, decidable, computed along the run) produces TeX's outputs. Together with
`vm_refines_run` this isolates the defect: the code differs from TeX in that one assignment's
*value* (it keeps the old meaning), never in how assignments are scoped. -/
theorem vm_refines_run_partial (hist : List Op) (h : Spec.noUndefLet Spec.init hist = true) :
    (run .fixed VMState.init hist).2 = (Spec.init.runTeX hist).2 := by
  rw [Spec.runTeX_eq _ _ h]; exact vm_refines_run hist

/-- C01-d at its witness `\def\ta{m1}\let\ta=\tb \ta` (`\tb` undefined): the code still expands `\ta`
to `m1`, in TeX `\ta` is undefined. -/
theorem vm_refines_run_full_statement_false : ¬ vm_refines_run_full_statement := by
  intro h
  exact absurd (h [.define 0 (.cs 0) (.mac 1), .define 0 (.cs 0) (.lcs (.cs 1)), .read (.cmd (.cs 0))])
    (by decide)

-- non-vacuity of the hypothesis of `vm_refines_run_partial`: a program with `\let`s from defined names
example : Spec.noUndefLet Spec.init
    [.define 0 (.cs 1) (.mac 1), .beginGroup, .define 1 (.cs 0) (.lcs (.cs 1)), .define 0 (.act 0) (.lcs (.cs 0)),
     .endGroup, .read (.cmd (.cs 0)), .read (.cmd (.act 0))] = true := by decide
-- … and the same with the source undefined violates it
example : Spec.noUndefLet Spec.init [.beginGroup, .define 1 (.cs 0) (.lcs (.cs 1))] = false := by decide

/-- State-level form: after every program the VM state is related to the specification's state by
the simulation relation `R` (the flag is `Local`, C20's invariant holds for the three scoped
containers, and every level of every stack abstracts to the corresponding saved environment). -/
theorem vm_simulation (hist : List Op) : R (run .fixed VMState.init hist).1 (Spec.init.run hist).1 :=
  C01.R_reachable hist

/-- The two `unwrap`s of `VM::end_group` never fail (the three stacks stay in step), and no
prefixed command is rejected. -/
theorem vm_total (hist : List Op) :
    ∀ o ∈ (run .fixed VMState.init hist).2, o ≠ .panic ∧ o ≠ .errPrefix := by
  rw [vm_refines_run]; exact Spec.run_outs_ok _ _

/-- **When a group closes, everything that was not assigned globally inside has exactly the value
it had when the group opened.** `hist` is any program that ran to its end, `blk` any well-bracketed
program (nested groups, local and global assignments, reads), `t` any target — variable, control
sequence, active character, current font — that no operation of `blk` assigned with global scope
(`Spec.globals`: by its own `\global` prefix and the `\globaldefs` in force at that moment, or
`\gdef`). Then `{ blk }` runs to its end and leaves `t` as it was before the `{`. -/
theorem close_restores (hist blk : List Op) (t : Target)
    (hnf : ∀ o ∈ (run .fixed VMState.init hist).2, o.fatal = false)
    (hb : Bal blk)
    (ht : t ∉ Spec.globals ((Spec.init.run hist).1.step .beginGroup).1 blk) :
    (∀ o ∈ (run .fixed VMState.init (hist ++ .beginGroup :: (blk ++ [.endGroup]))).2, o.fatal = false) ∧
    valOf (run .fixed VMState.init (hist ++ .beginGroup :: (blk ++ [.endGroup]))).1 t =
      valOf (run .fixed VMState.init hist).1 t := by
  obtain ⟨c1, c2⟩ := close_restores_from (R_reachable hist) hb ht
  rw [run_append _ _ hist _ hnf]
  exact ⟨fun o ho => (List.mem_append.1 ho).elim (hnf o) (c1 o), c2⟩

/-- The same with purely syntactic hypotheses: if `\globaldefs` is never assigned and `blk` is
well bracketed and written without `\global` and `\gdef`, then **every** target — whatever was
assigned inside, at whatever depth — has after `{ blk }` the value it had before. -/
theorem close_restores_plain (hist blk : List Op) (t : Target)
    (hnf : ∀ o ∈ (run .fixed VMState.init hist).2, o.fatal = false)
    (hh : ∀ op ∈ hist, op.noGlobaldefs = true)
    (hb : Bal blk) (hp : ∀ op ∈ blk, op.plain = true) :
    valOf (run .fixed VMState.init (hist ++ .beginGroup :: (blk ++ [.endGroup]))).1 t =
      valOf (run .fixed VMState.init hist).1 t := by
  have h0 : NoGD ((Spec.init.run hist).1.step .beginGroup).1 :=
    (NoGD_init.run hist hh).step .beginGroup rfl
  exact (close_restores hist blk t hnf hb (by rw [h0.globals blk hp]; exact List.not_mem_nil)).2

/-- **A global assignment survives however many groups were open.** If `op` assigns `t` globally
after `hist` (at any depth), then closing any number `k` of the open groups succeeds and `t` still
has the value it had right after `op`. -/
theorem global_survives (hist : List Op) (op : Op) (t : Target) (k : Nat)
    (hnf : ∀ o ∈ (run .fixed VMState.init hist).2, o.fatal = false)
    (hg : Spec.globalTarget (Spec.init.run hist).1 op = some t)
    (hk : k ≤ (run .fixed VMState.init (hist ++ [op])).1.save.length) :
    (∀ o ∈ (run .fixed VMState.init (hist ++ op :: List.replicate k .endGroup)).2, o.fatal = false) ∧
    valOf (run .fixed VMState.init (hist ++ op :: List.replicate k .endGroup)).1 t =
      valOf (run .fixed VMState.init (hist ++ [op])).1 t := by
  rw [run_append _ _ hist _ hnf] at hk ⊢
  rw [run_append _ _ hist _ hnf]
  obtain ⟨c1, c2⟩ := global_survives_from (R_reachable hist) hg hk
  exact ⟨fun o ho => (List.mem_append.1 ho).elim (hnf o) (c1 o), c2⟩

/-- … and that value is the assigned one (variables). -/
theorem assigned_value (hist : List Op) (pre : Nat) (v : Var) (x : Val)
    (hnf : ∀ o ∈ (run .fixed VMState.init hist).2, o.fatal = false) :
    valOf (run .fixed VMState.init (hist ++ [.assign pre v x])).1 (.var v) = .v (some x) := by
  rw [run_append _ _ hist _ hnf]; exact assigned_value_from (R_reachable hist) pre v x

/-- … (the current font). -/
theorem selected_font (hist : List Op) (pre f : Nat)
    (hnf : ∀ o ∈ (run .fixed VMState.init hist).2, o.fatal = false) :
    valOf (run .fixed VMState.init (hist ++ [.selectFont pre f])).1 .font = .f f := by
  rw [run_append _ _ hist _ hnf]; exact selected_font_from (R_reachable hist) pre f

/-- **`\global` / `\globaldefs` change the scope of exactly the one assignment they prefix.**
After every program the pending flag is `Local` (nothing leaks into a later assignment); and from
any reachable state, `pre` `\global`s followed by the scope hook of the prefixed command yield
TeX's scope for this assignment (`\globaldefs` < 0: local, > 0: global, = 0: global iff prefixed)
and hand back the same state, flag `Local` again. (That the scope of each assignment depends on
nothing else is `vm_refines_run`: the specification has no flag.) -/
theorem global_one_shot (hist : List Op) (pre : Nat) :
    (run .fixed VMState.init hist).1.scopeBit = .loc ∧
    readAndResetGlobal (applyPrefix pre (run .fixed VMState.init hist).1) =
      (Spec.effScope (globalDefs (run .fixed VMState.init hist).1) pre, (run .fixed VMState.init hist).1) :=
  ⟨(C01.R_reachable hist).bit, hook_eq _ pre (C01.R_reachable hist).bit⟩

-- a program with nested groups, local-then-global and global-then-local on one target, an active
-- character, a global font selection: outputs of M (= S by the theorem), evaluated
example :
    (run .fixed VMState.init
      [.assign 0 ⟨.count, 1⟩ 1, .beginGroup, .beginGroup, .assign 0 ⟨.count, 1⟩ 2, .assign 1 ⟨.count, 1⟩ 3,
       .assign 0 ⟨.count, 1⟩ 4, .define 0 (.act 0) (.mac 7), .selectFont 1 2, .read (.var ⟨.count, 1⟩),
       .endGroup, .read (.var ⟨.count, 1⟩), .read (.cmd (.act 0)), .endGroup, .read .font,
       .read (.var ⟨.count, 1⟩), .endGroup]).2
    = [.unit, .unit, .unit, .unit, .unit, .unit, .unit, .unit, .val (some 4), .unit, .val (some 3),
       .cmd none none, .unit, .fnt 2, .val (some 3), .errNoGroup] := by decide

-- hypotheses of `close_restores` on a concrete instance (a nested group with a global assignment
-- to another target inside), and its conclusion evaluated
example : ∀ o ∈ (run .fixed VMState.init [.assign 0 ⟨.count, 1⟩ 1]).2, o.fatal = false := by decide
example : Bal [.assign 0 ⟨.count, 1⟩ 2, .beginGroup, .assign 1 ⟨.count, 2⟩ 3, .endGroup] :=
  .assign _ _ _ (.group (a := [.assign 1 ⟨.count, 2⟩ 3]) (b := []) (.assign _ _ _ .nil) .nil)
example : Target.var ⟨.count, 1⟩ ∉
    Spec.globals ((Spec.init.run [.assign 0 ⟨.count, 1⟩ 1]).1.step .beginGroup).1
      [.assign 0 ⟨.count, 1⟩ 2, .beginGroup, .assign 1 ⟨.count, 2⟩ 3, .endGroup] := by decide
example :
    valOf (run .fixed VMState.init ([.assign 0 ⟨.count, 1⟩ 1] ++ .beginGroup ::
      ([.assign 0 ⟨.count, 1⟩ 2, .beginGroup, .assign 1 ⟨.count, 2⟩ 3, .endGroup] ++ [.endGroup]))).1
      (.var ⟨.count, 1⟩) = .v (some 1) := by decide

-- hypotheses of `close_restores_plain`
example : ∀ op ∈ [Op.assign 0 ⟨.count, 1⟩ 1, .define 1 (.act 0) (.mac 3)], op.noGlobaldefs = true := by decide
example : ∀ op ∈ [Op.assign 0 ⟨.count, 1⟩ 2, .beginGroup, .define 0 (.act 0) (.chr 65), .selectFont 0 2,
    .endGroup, .read .font], op.plain = true := by decide

-- hypotheses of `global_survives` (and `assigned_value`): `\global\count1=3` at depth 2 after a
-- local assignment, k = 2
example : ∀ o ∈ (run .fixed VMState.init [.beginGroup, .beginGroup, .assign 0 ⟨.count, 1⟩ 2]).2,
    o.fatal = false := by decide
example : Spec.globalTarget
    (Spec.init.run [.beginGroup, .beginGroup, .assign 0 ⟨.count, 1⟩ 2]).1 (.assign 1 ⟨.count, 1⟩ 3)
    = some (.var ⟨.count, 1⟩) := by decide
example : 2 ≤ (run .fixed VMState.init
    ([.beginGroup, .beginGroup, .assign 0 ⟨.count, 1⟩ 2] ++ [.assign 1 ⟨.count, 1⟩ 3])).1.save.length := by
  decide
-- `\globaldefs=1` makes an unprefixed assignment global, `\globaldefs=-1` makes a prefixed one local
example : Spec.effScope 1 0 = .glob ∧ Spec.effScope (-1) 1 = .loc ∧ Spec.effScope 0 1 = .glob ∧
    Spec.effScope 0 0 = .loc := by decide

/-- C01-a: `{{\count1=2 \global\count1=3}\the\count1` — the pre-fix `Global` loop only purges the
outermost group: the model prints the initial value, the specification 3. -/
theorem prefix_a_violates :
    (run ⟨false, true, true⟩ VMState.init
      [.beginGroup, .beginGroup, .assign 0 ⟨.count, 1⟩ 2, .assign 1 ⟨.count, 1⟩ 3, .endGroup,
       .read (.var ⟨.count, 1⟩)]).2 ≠
    (Spec.init.run
      [.beginGroup, .beginGroup, .assign 0 ⟨.count, 1⟩ 2, .assign 1 ⟨.count, 1⟩ 3, .endGroup,
       .read (.var ⟨.count, 1⟩)]).2 := by decide

/-- C01-b: `\def~{A}{\def~{B}~}~` — without grouping `active_char` the inner definition leaks. -/
theorem prefix_b_violates :
    (run ⟨true, false, true⟩ VMState.init
      [.define 0 (.act 0) (.mac 1), .beginGroup, .define 0 (.act 0) (.mac 2), .read (.cmd (.act 0)),
       .endGroup, .read (.cmd (.act 0))]).2 ≠
    (Spec.init.run
      [.define 0 (.act 0) (.mac 1), .beginGroup, .define 0 (.act 0) (.mac 2), .read (.cmd (.act 0)),
       .endGroup, .read (.cmd (.act 0))]).2 := by decide

/-- C01-c: `{\global\chardef\x=65 }\x` — rejected ("cannot be prefixed by \global"). -/
theorem prefix_c_violates :
    (run ⟨true, true, false⟩ VMState.init
      [.beginGroup, .define 1 (.cs 0) (.chr 65), .endGroup, .read (.cmd (.cs 0))]).2 ≠
    (Spec.init.run
      [.beginGroup, .define 1 (.cs 0) (.chr 65), .endGroup, .read (.cmd (.cs 0))]).2 := by decide

/-! ## The input side: which tokens open and close groups is itself scoped state

`Item`s (`Model/C01.lean`) are surface programs: besides the ops, a character typed in the source
(`chr c`: begins a group iff its *current* `\catcode` is 1, ends one iff it is 2, is typeset
otherwise), a name used as a command (`exec t`: a `\let`-alias of a character token acts as that
token with the category code stored by the `\let`; an alias of a font selector selects the font)
and `\let t=<character>` (`letChr`). `elabItem` is the modelled dispatch of the main loop / lexer
(vm/mod.rs:163-240, `codes::cat_code`); the harness runs the same items on the real VM. -/

/-- **Refinement for surface programs.** The group structure is not given in advance but decided
item by item from scoped category codes and scoped `\let` meanings; model and specification still
produce the same outputs, for every item list. -/
theorem vm_refines_items (its : List Item) :
    (runItems .fixed VMState.init its).2 = (Spec.init.runItems its).2 :=
  (refines_items_from R_init its).1

/-- … and TeX's own outputs when no item turns out to be a `\let` from an undefined name (C01-d). -/
theorem vm_refines_items_partial (its : List Item) (h : Spec.noUndefLetItems Spec.init its = true) :
    (runItems .fixed VMState.init its).2 = (Spec.init.runItemsTeX its).2 := by
  rw [Spec.runItemsTeX_eq _ _ h]; exact vm_refines_items its

/-- The op programs of the theorems above are the sublanguage of items that are ops. -/
theorem items_extend_ops (cfg : Variant) (m : VMState) (ops : List Op) :
    runItems cfg m (ops.map Item.op) = run cfg m ops := by
  induction ops generalizing m with
  | nil => rfl
  | cons op ops ih => simp only [List.map_cons, runItems, run, ih]; rfl

/-- **What a character or a name does is restored with the group.** After `hist { blk }` (`blk`
well bracketed, no `\global`/`\gdef`, `\globaldefs` never assigned) every item is dispatched exactly
as before the `{`: a character that `blk` turned into a group delimiter by `\catcode` is none any
more, a name that `blk` `\let` to a brace has its old meaning. -/
theorem item_reading_restored (hist blk : List Op) (it : Item)
    (hnf : ∀ o ∈ (run .fixed VMState.init hist).2, o.fatal = false)
    (hh : ∀ op ∈ hist, op.noGlobaldefs = true)
    (hb : Bal blk) (hp : ∀ op ∈ blk, op.plain = true) :
    elabItem (catOf (run .fixed VMState.init (hist ++ .beginGroup :: (blk ++ [.endGroup]))).1)
        (getCmd (run .fixed VMState.init (hist ++ .beginGroup :: (blk ++ [.endGroup]))).1) it =
      elabItem (catOf (run .fixed VMState.init hist).1) (getCmd (run .fixed VMState.init hist).1) it := by
  have hv := fun t => close_restores_plain hist blk t hnf hh hb hp
  rw [catOf_of_valOf hv, getCmd_of_valOf hv]

-- non-vacuity: `\catcode`\[=1` inside a group makes `[` open a group there and not after it;
-- `\let\ta=[` keeps the category code it saw; `]` (category 12) is typeset; a stray `}` is fatal.
-- (91 = `[`, 93 = `]`; outputs of the model, = the specification's by the theorem.)
example :
    (runItems .fixed VMState.init
      [.op (.assign 0 ⟨.count, 1⟩ 1), .chr 123, .op (.assign 0 ⟨.catcode, 91⟩ 1), .chr 91,
       .op (.assign 0 ⟨.count, 1⟩ 2), .letChr 1 (.cs 0) 91, .chr 125, .op (.read (.var ⟨.count, 1⟩)),
       .chr 125, .chr 91, .exec (.cs 0), .op (.assign 0 ⟨.count, 1⟩ 3), .chr 93, .chr 125,
       .op (.read (.var ⟨.count, 1⟩)), .chr 125]).2
    = [.unit, .unit, .unit, .unit, .unit, .unit, .unit, .val (some 1), .unit,
       .cmd (some (.tok (tokCode 91 12))) none, .unit, .unit, .cmd (some (.tok (tokCode 93 12))) none,
       .unit, .val (some 1), .errNoGroup] := by decide
example : Spec.noUndefLetItems Spec.init
    [.chr 123, .letChr 1 (.cs 0) 125, .exec (.cs 0), .op (.define 0 (.cs 1) (.lcs (.cs 0)))] = true := by
  decide
-- (with a *local* `\let\ta=}` the `\ta` that closes the group also undoes its own definition, and
-- the following `\let\tb=\ta` is a `\let` from an undefined name)
example : Spec.noUndefLetItems Spec.init
    [.chr 123, .letChr 0 (.cs 0) 125, .exec (.cs 0), .op (.define 0 (.cs 1) (.lcs (.cs 0)))] = false := by
  decide

/-! ## Why two mutants of the sweep are equivalent (mutants/C01: 15, 29) -/

/-- Mutant 15 — `VM::begin_group` pushes `Some(current_font)` instead of `None`: every program
produces the same outputs (the fonts the open groups will restore are the same list). -/
theorem eager_font_save_equivalent (hist : List Op) :
    (runEager VMState.init hist).2 = (run .fixed VMState.init hist).2 :=
  (refines_runEager_from R_init hist).trans (vm_refines_run hist).symm

/-- Mutant 29 — a definition primitive reads the pending flag after its arguments instead of
before: the same state results, from every state (nothing it resolves depends on the flag and the
hook changes nothing but the flag). -/
theorem late_scope_hook_equivalent (cfg : Variant) (m : VMState) (pre : Nat) (t : CTarget) (d : Def) :
    defineLate cfg m pre t d = define cfg m pre t d := by
  simp only [defineLate, define, resolveDef_hook]

end C01.Thm
