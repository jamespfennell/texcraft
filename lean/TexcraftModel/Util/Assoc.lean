/-
Association lists. The models write their own `lookup` (`if key = k then … else …` down the list); each of
them is core's `List.lookup` (`lookup_unique`), and this file has what core does not say about it: membership,
keys, `filter`, `map`, `filterMap`, and that a list with increasing keys is determined by what it looks up
(an instance of `pairwise_ext`, which is about any list sorted by an asymmetric relation and stands here for that).
Core Lean only, no imports: lemma files import it, model files and drivers do not need it.
-/
namespace Assoc
open List
variable {κ ν : Type} [BEq κ] [LawfulBEq κ]

theorem lookup_unique [DecidableEq κ] (f : List (κ × ν) → κ → Option ν) (h0 : ∀ k, f [] k = none)
    (h1 : ∀ a b t k, f ((a, b) :: t) k = if a = k then some b else f t k) :
    ∀ l k, f l k = l.lookup k
  | [], k => h0 k
  | (a, b) :: t, k => by
    rw [h1, lookup_cons, lookup_unique f h0 h1 t k]
    by_cases h : a = k
    · subst h; simp
    · simp [h, beq_false_of_ne (Ne.symm h)]

theorem mem_of_lookup_eq_some {l : List (κ × ν)} {k : κ} {v : ν} (h : l.lookup k = some v) :
    (k, v) ∈ l := by
  obtain ⟨l₁, l₂, rfl, -⟩ := lookup_eq_some_iff.1 h
  simp

theorem lookup_eq_none_iff_not_mem_keys {l : List (κ × ν)} {k : κ} :
    l.lookup k = none ↔ k ∉ l.map (·.1) := by
  rw [lookup_eq_none_iff, mem_map]
  constructor
  · rintro h ⟨p, hp, rfl⟩
    exact bne_iff_ne.1 (h p hp) rfl
  · intro h p hp
    exact bne_iff_ne.2 fun e => h ⟨p, hp, e.symm⟩

theorem lookup_filter_key (q : κ → Bool) (l : List (κ × ν)) (k : κ) :
    (l.filter fun e => q e.1).lookup k = if q k then l.lookup k else none := by
  induction l with
  | nil => simp
  | cons e t ih =>
    obtain ⟨a, b⟩ := e
    -- `k == a` and not `k = a`: with `BEq κ` alone the equation is decided by `Classical.choice`
    cases hb : k == a with
    | true =>
      cases eq_of_beq hb
      cases hq : q k <;> simp [hq, ih]
    | false => cases hq : q a <;> simp [hq, ih, hb, lookup_cons]

theorem lookup_eq_some_iff_mem {l : List (κ × ν)} (hnd : (l.map (·.1)).Nodup) {k : κ} {v : ν} :
    l.lookup k = some v ↔ (k, v) ∈ l := by
  refine ⟨mem_of_lookup_eq_some, fun h => ?_⟩
  induction l with
  | nil => cases h
  | cons e t ih =>
    obtain ⟨a, b⟩ := e
    rw [map_cons, nodup_cons] at hnd
    rw [lookup_cons]
    rcases mem_cons.1 h with h | h
    · cases h; simp
    · have : (k == a) = false :=
        beq_false_of_ne fun hk => hnd.1 (hk ▸ mem_map.2 ⟨(k, v), h, rfl⟩)
      rw [this]; exact ih hnd.2 h

theorem lookup_map_graph {α : Type} (key : α → κ) (val : α → ν)
    (hk : ∀ x y, key x = key y → x = y) {l : List α} {a : α} (h : a ∈ l) :
    (l.map fun x => (key x, val x)).lookup (key a) = some (val a) := by
  induction l with
  | nil => cases h
  | cons b t ih =>
    rw [map_cons, lookup_cons]
    cases hb : key a == key b with
    | true => rw [hk a b (eq_of_beq hb)]
    | false => exact ih ((mem_cons.1 h).resolve_left fun e => ne_of_beq_false hb (e ▸ rfl))

theorem find?_fst_map_snd [DecidableEq κ] (l : List (κ × ν)) (k : κ) :
    (l.find? fun x => decide (x.1 = k)).map (·.2) = l.lookup k := by
  induction l with
  | nil => rfl
  | cons e t ih =>
    obtain ⟨a, b⟩ := e
    rw [find?_cons, lookup_cons]
    by_cases h : a = k
    · subst h; simp
    · simp [h, beq_false_of_ne (Ne.symm h), ih]

/-- `hnd` is needed: a dropped entry must not uncover a later one with the same key. -/
theorem lookup_filterMap_snd {μ : Type} (g : ν → Option μ) {l : List (κ × ν)}
    (hnd : (l.map (·.1)).Nodup) (k : κ) :
    (l.filterMap fun e => (g e.2).map fun u => (e.1, u)).lookup k = (l.lookup k).bind g := by
  induction l with
  | nil => rfl
  | cons e t ih =>
    obtain ⟨a, b⟩ := e
    rw [map_cons, nodup_cons] at hnd
    rw [filterMap_cons, lookup_cons]
    cases hb : k == a with
    | true =>
      cases eq_of_beq hb
      have hn : t.lookup k = none := lookup_eq_none_iff_not_mem_keys.2 hnd.1
      cases hg : g b with
      | none => simp [ih hnd.2, hn, hg]
      | some u => simp [hg]
    | false => cases hg : g b <;> simp [ih hnd.2, hb, lookup_cons]

theorem pairwise_ext {α : Type} {r : α → α → Prop} (hr : ∀ a b, r a b → r b a → False)
    {l l' : List α} (hl : l.Pairwise r) (hl' : l'.Pairwise r) (h : ∀ x, x ∈ l ↔ x ∈ l') : l = l' := by
  have nd : ∀ {l : List α}, l.Pairwise r → l.Nodup := fun hl =>
    hl.imp fun {a b} hab (e : a = b) => by subst e; exact hr a a hab hab
  exact ((perm_ext_iff_of_nodup (nd hl) (nd hl')).2 h).eq_of_pairwise
    (fun a b _ _ hab hba => (hr a b hab hba).elim) hl hl'

theorem eq_of_lookup_eq {l l' : List (Nat × ν)} (hl : (l.map (·.1)).Pairwise (· < ·))
    (hl' : (l'.map (·.1)).Pairwise (· < ·)) (h : ∀ k, l.lookup k = l'.lookup k) : l = l' := by
  have nd : ∀ {l : List (Nat × ν)}, (l.map (·.1)).Pairwise (· < ·) → (l.map (·.1)).Nodup :=
    fun hl => hl.imp Nat.ne_of_lt
  refine pairwise_ext (r := fun a b => a.1 < b.1) (fun a b h h' => Nat.lt_asymm h h')
    (pairwise_map.1 hl) (pairwise_map.1 hl') fun ⟨k, v⟩ => ?_
  rw [← lookup_eq_some_iff_mem (nd hl), ← lookup_eq_some_iff_mem (nd hl'), h]

end Assoc
