/-
C11 ↔ C05: a C11 program (with its unpacked entry points and kerns array) as a `C05.Program`,
so that "lig/kern behaviour identical on every character pair and boundary" can be stated
with C05's `rule` (entry point → SKIP/STOP chain walk, first match wins), on which C05's
compiled/interpreted semantics are built. Read-only import of `Model/C05.lean`.
-/
import TexcraftModel.Model.C05
import TexcraftModel.Model.C11

namespace C11

def postLigOf : Nat → C05.PostLig
  | 0 => .bothNowhere
  | 1 => .bothInserted
  | 2 => .bothRight
  | 3 => .rightInserted
  | 4 => .rightRight
  | 5 => .leftNowhere
  | 6 => .leftInserted
  | _ => .neither

def toC05Op : Op → C05.RawOp
  | .kern k => .kern k
  | .kernAt i => .kernAt i
  | .lig c p => .lig c (postLigOf p)
  | .redirect u _ => .redirect u

def toC05Instr (i : Instr) : C05.Instr := ⟨i.next, i.right, toC05Op i.op⟩

/-- The program TeX (or `CompiledProgram::compile`) sees: instructions, boundary data, the
*unpacked* entry points (`char ↦ u16`) and the kerns array. Kern values are the raw
fix_words (C05 scales them by the design size first; both files have the same design size). -/
def toC05 (p : Prog) (entries : List (Nat × Nat)) (kerns : List Int) : C05.Program :=
  { instrs := p.instrs.map toC05Instr, lbEntry := p.lb, rb := p.rb, entries := entries, kerns := kerns }

/-- `CompiledProgram::compile_from_tfm_file` (ligkern/mod.rs:132–151) and `impl From<File> for
pl::File` (pl/mod.rs:551–560): the byte entry points unpacked; invalid ones are dropped. -/
def unpackAll (instrs : List Instr) (pe : List (Nat × Nat)) : List (Nat × Nat) :=
  pe.filterMap fun cu => (unpackEntry instrs cu.2).map (fun e => (cu.1, e))

/-- Left characters that can have a rule in `p`, right characters that can be matched. -/
def lefts (p : C05.Program) : List (Option Nat) := none :: p.entries.map (fun e => some e.1)
def rights (p : C05.Program) : List Nat := p.instrs.map (·.right)

/-- Remove duplicates (keeps the last occurrence). -/
def dedup {α : Type} [DecidableEq α] : List α → List α
  | [] => []
  | x :: xs => if x ∈ dedup xs then dedup xs else x :: dedup xs

/-- First pair on which the two programs' rules differ (searched over the left characters
with an entry point in either program plus the left boundary, and the right characters that
occur in either instruction list; every other pair has no rule in both:
`C11.Thm.sem_check_sound` in `Props/C11.lean`). -/
def firstRuleDiff (p q : C05.Program) : Option (Option Nat × Nat) :=
  let ls := dedup (lefts p ++ lefts q)
  let rs := dedup (rights p ++ rights q)
  ls.findSome? fun l => (rs.find? fun r => C05.rule p l r != C05.rule q l r).map (fun r => (l, r))

end C11
