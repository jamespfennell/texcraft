/-
C06 — the part of the model and of the specification that the facts about one fraction value
(`Lemmas/C06Frac.lean`) depend on: `from_decimal_digits` (TeX §102), the digit loop of
`display_no_units`, and Knuth's `print_scaled` loop (§103). Kept apart from `Model/C06.lean`:
nothing here depends on the scanning or arithmetic model. Core Lean only.
-/
namespace C06

/-- The loop of `Scaled::from_decimal_digits` (last digit first). -/
def rdAcc : List Nat → Int
  | [] => 0
  | d :: ds => (rdAcc ds + (d : Int) * 131072) / 10

/-- `Scaled::from_decimal_digits` (TeX §102). -/
def fromDecimalDigits (ds : List Nat) : Int := (rdAcc ds + 1) / 2

/-- The digit loop of `display_no_units`. `none` = a panic (`char::from_digit(..).unwrap()`,
`try_into().unwrap()`) or fuel exhausted (proved unreachable for fractions `< 2^16`). -/
def printFracLoop : Nat → Int → Int → Option (List Nat)
  | 0, _, _ => none
  | fuel + 1, f, delta =>
    let f1 := if delta > 65536 then f + (32768 - 50000) else f
    let d := Int.tdiv f1 65536
    if d < 0 ∨ d ≥ 10 then none
    else
      let f2 := Int.tmod f1 65536 * 10
      let delta2 := delta * 10
      if f2 ≤ delta2 then some [d.toNat]
      else (printFracLoop fuel f2 delta2).map (d.toNat :: ·)

/-- Fraction digits of a fractional part `0 ≤ fr < 2^16`. -/
def printFrac (fr : Int) : Option (List Nat) := printFracLoop 8 (fr * 10 + 5) 10

/-- Zero-fill to 17 digits (`let mut f = [0_u8; 17]`). -/
def pad17 (ds : List Nat) : List Nat := ds ++ List.replicate (17 - ds.length) 0

namespace Spec

/-- §103, the `repeat … until s<=delta` loop. `s`, `delta` as in the Pascal text. At most
`k` more digits (the loop provably stops after five). -/
def printLoop : Nat → Nat → Nat → List Nat
  | 0, _, _ => []
  | k + 1, s, delta =>
    let s := if delta > 65536 then s + 32768 - 50000 else s
    let digit := s / 65536
    let s := 10 * (s % 65536)
    let delta := delta * 10
    if s ≤ delta then [digit] else digit :: printLoop k s delta

end Spec

end C06
