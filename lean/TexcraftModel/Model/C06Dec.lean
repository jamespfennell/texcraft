/-
C06 — decimal digits of a small natural number (`print_int` for the integer part of a printed
dimension, at most 16383). Kept in its own file: nothing here depends on the rest of the model.
-/
namespace C06

/-- Decimal digits of `n < 100000`, most significant first, no leading zeros. -/
def dec5 (n : Nat) : List Nat :=
  if n < 10 then [n]
  else if n < 100 then [n / 10, n % 10]
  else if n < 1000 then [n / 100, n / 10 % 10, n % 10]
  else if n < 10000 then [n / 1000, n / 100 % 10, n / 10 % 10, n % 10]
  else [n / 10000, n / 1000 % 10, n / 100 % 10, n / 10 % 10, n % 10]

/-- `dec5 n` are the digits of Lean's `toString n` (which `Printed.render` uses). -/
def decOK (n : Nat) : Bool := (Nat.toDigits 10 n).map Char.toNat == (dec5 n).map (48 + ·)

end C06
