/-
C17 — font-metric arithmetic. Model of

* `impl Display for FixWord`            crates/tfm/src/lib.rs   (TFtoPL §40–43)   → `printFix`
* `impl Parse for FixWord`              crates/tfm/src/pl/ast.rs (PLtoTF §62–66)  → `parseFix`
* `FixWord::to_scaled`                  crates/tfm/src/lib.rs   (TeX §568, §571–572) → `toScaled`
* `compress`                            crates/tfm/src/lib.rs   (PLtoTF §75–80)   → `compress`
* `NextLargerProgram::new` / `get`      crates/tfm/src/lib.rs   (TFtoPL §84)      → `nlEdges`, `cutNxt`, `nlGet`

and the independent specifications `storeScaled` (TeX's Pascal), `CompressSpec`
(cover by intervals) and, for next-larger, the functional graph with the largest node of every
cycle cut (`cutNxt`, `nlGet`; here the model *is* the specification, see notes/C17.md).

A fix_word is an `Int` (the `i32` it holds, value·2^20); the 32-bit width is explicit: every
Rust operation that can overflow in the checked build is a `chk` in the model and yields
`panic`. Rust `/` and `%` on `i32` truncate: `Int.tdiv`/`Int.tmod`. Text is `List Char`.
Core Lean only.
-/
namespace C17

def ONE : Int := 1048576          -- 2^20 = 0o4_000_000
def I32_MIN : Int := -2147483648
def I32_MAX : Int := 2147483647

def inI32 (x : Int) : Bool := decide (I32_MIN ≤ x) && decide (x ≤ I32_MAX)

/-! ## Display (TFtoPL §40–43) -/

/-- The digit loop of `Display`: `fp`, `delta` are the loop variables on entry to an iteration.
`fuel` bounds the number of iterations (`print_fuel_suffices`: 7 are always enough). The
digits are the successive values of `fp / 0o4_000_000`. -/
def fracDigits : Nat → Int → Int → List Int
  | 0, _, _ => []
  | n + 1, fp, delta =>
    let fp1 := if delta > 1048576 then fp + 524288 - Int.tdiv delta 2 else fp
    let d := Int.tdiv fp1 1048576
    let fp2 := 10 * Int.tmod fp1 1048576
    let delta2 := delta * 10
    if fp2 ≤ delta2 then [d] else d :: fracDigits n fp2 delta2

/-- `write!(f, "{}", i)` for an `i32`. -/
def showInt (i : Int) : List Char :=
  if i < 0 then '-' :: Nat.toDigits 10 i.natAbs else Nat.toDigits 10 i.toNat

def FRAC_FUEL : Nat := 12

/-- `format!("{}", FixWord(v))`. -/
def printFix (v : Int) : List Char :=
  (if v < 0 then ['-'] else []) ++
  showInt ((Int.tdiv v 1048576).natAbs : Int) ++ ['.'] ++
  ((fracDigits FRAC_FUEL (10 * ((Int.tmod v 1048576).natAbs : Int) + 5) 10).map showInt).flatten

/-! ## The PL decimal reader (PLtoTF §62–66) -/

/-- Warning pushed by the reader (everything else about a warning — spans, offsets — is not
modelled). -/
inductive Warn | none | invalidPrefix | tooBig
  deriving DecidableEq, Repr

structure Parsed where
  value : Int
  warn : Warn
  deriving DecidableEq, Repr

def isDig (c : Char) : Bool := decide ('0'.toNat ≤ c.toNat) && decide (c.toNat ≤ '9'.toNat)
def digVal (c : Char) : Int := ((c.toNat - 48 : Nat) : Int)

/-- `Input::consume_spaces`. -/
def skipSpaces : List Char → List Char
  | c :: t => if c = ' ' ∨ c = '\n' then skipSpaces t else c :: t
  | [] => []

/-- PLtoTF §63: signs. -/
def readSigns : List Char → Bool → Bool × List Char
  | c :: t, neg =>
    if c = '+' ∨ c = ' ' then readSigns t neg
    else if c = '-' then readSigns t (!neg)
    else (neg, c :: t)
  | [], neg => (neg, [])

/-- PLtoTF §64: the integer part, saturating at 2048. -/
def readInt : List Char → Int → Int × List Char
  | c :: t, acc =>
    if isDig c then
      let acc1 := acc * 10 + digVal c
      readInt t (if acc1 ≥ 2048 then 2048 else acc1)
    else (acc, c :: t)
  | [], acc => (acc, [])

/-- PLtoTF §66: up to `n` fraction digits. -/
def readFracDigits : Nat → List Char → List Int × List Char
  | 0, s => ([], s)
  | n + 1, c :: t =>
    if isDig c then
      let (ds, r) := readFracDigits n t
      (digVal c :: ds, r)
    else ([], c :: t)
  | _ + 1, [] => ([], [])

/-- `for j in (0..7).rev() { acc = fractional_digits[j] + acc / 10 }` with
`fractional_digits[j] = 2^21 · digit`. -/
def fracAcc : List Int → Int
  | [] => 0
  | d :: t => 2097152 * d + Int.tdiv (fracAcc t) 10

def fracValue (ds : List Int) : Int :=
  Int.tdiv (fracAcc (ds ++ List.replicate (7 - ds.length) 0) + 10) 20

/-- `<FixWord as Parse>::parse` on the property value text (beginning with the `R`/`D`). -/
def parseFix (s : List Char) : Parsed :=
  match skipSpaces s with
  | [] => ⟨0, .invalidPrefix⟩
  | c :: t =>
    if c = 'D' ∨ c = 'd' ∨ c = 'R' ∨ c = 'r' then
      let (neg, s2) := readSigns (skipSpaces t) false
      let (ip, s3) := readInt s2 0
      let fp : Int :=
        match s3 with
        | '.' :: s4 => fracValue (readFracDigits 7 s4).1
        | _ => 0
      if ip ≥ 2048 ∨ (fp ≥ 1048576 ∧ ip = 2047) then
        ⟨if ip = 2047 then 1048576 else 0, .tooBig⟩
      else
        let m := ip * 1048576 + fp
        ⟨if neg then -m else m, .none⟩
    else ⟨0, .invalidPrefix⟩

/-- What `to_string` writes for a fix_word property value: `R <decimal>`. -/
def plText (v : Int) : List Char := 'R' :: ' ' :: printFix v

/-! ## `to_scaled` (TeX §568, §571–572) -/

inductive Out (α : Type) | ok (a : α) | panic
  deriving DecidableEq, Repr

def chk (x : Int) : Option Int := if inI32 x then some x else none

/-- `while z >= 0o40000000 { z /= 2; alpha *= 2 }`. -/
def halve : Nat → Int → Int → Int × Int
  | 0, z, a => (z, a)
  | n + 1, z, a => if z ≥ 8388608 then halve n (Int.tdiv z 2) (a * 2) else (z, a)

/-- The four big-endian bytes of an `i32`. -/
def beBytes (v : Int) : Int × Int × Int × Int :=
  let u := v % 4294967296
  (u / 16777216, u / 65536 % 256, u / 256 % 256, u % 256)

/-- The body of `to_scaled` after the `while` loop (`z`, `alpha0` = the loop's results). -/
def scaledWith (z alpha0 v : Int) : Option Int := do
  let beta := Int.tdiv 256 alpha0
  let alpha ← chk (z * alpha0)
  let (a, b, c, d) := beBytes v
  if ¬ (a = 0 ∨ a = 255) then none else
  let t1 ← chk (z * d)
  let t2 ← chk (z * c)
  let t3 ← chk (Int.tdiv t1 256 + t2)
  let t4 ← chk (z * b)
  let t5 ← chk (Int.tdiv t3 256 + t4)
  let sw := Int.tdiv t5 beta
  if a = 255 then chk (sw - alpha) else some sw

/-- `FixWord(v).to_scaled(FixWord(ds))`; `none` = the Rust code panics (overflow check or the
`assert!(a == 0 || a == 255)`). -/
def toScaled (v ds : Int) : Option Int :=
  let r := halve 32 (Int.tdiv ds 16) 16
  scaledWith r.1 r.2 v

/-- TeX §572 "replace z by z′ and compute α, β" on Pascal integers. -/
def texHalve : Nat → Int → Int → Int × Int
  | 0, z, a => (z, a)
  | n + 1, z, a => if z ≥ 8388608 then texHalve n (z / 2) (a + a) else (z, a)

/-- TeX §571 `store_scaled` given `z` and `α₀` from §572; `none` = `abort`. -/
def texWith (z alpha0 v : Int) : Option Int :=
  let beta := 256 / alpha0
  let alpha := alpha0 * z
  let (a, b, c, d) := beBytes v
  let sw := (((d * z) / 256 + c * z) / 256 + b * z) / beta
  if a = 0 then some sw else if a = 255 then some (sw - alpha) else none

/-- TeX §571–572 for a font loaded at its design size `ds` (a fix_word, §568: `z = ds div 16`
sp). All operands are non-negative, so Pascal's `div` is `/`. -/
def storeScaled (v ds : Int) : Option Int :=
  let r := texHalve 32 (ds / 16) 16
  texWith r.1 r.2 v

/-! ## `compress` (PLtoTF §75–80) -/

/-- Insert into a strictly increasing list, dropping duplicates (`HashSet` + `sort`). -/
def insertD (x : Int) : List Int → List Int
  | [] => [x]
  | y :: t => if x < y then x :: y :: t else if x = y then y :: t else y :: insertD x t

def dedupSort (l : List Int) : List Int := l.foldr insertD []

/-- Result of one candidate pass: a solution (the intervals, `delta_lower`) or not a solution
(`delta_upper`). The Rust code keeps the interval *end indices* in `buffer`/`solution` and
slices `dedup_values[previous..i]` at the end; the model keeps the intervals themselves
(`done` = closed intervals, `cur` = the open one), so `buffer.len() = done.length`. -/
inductive PassRes
  | sol (classes : List (List Int)) (dlo : Int)
  | fail (dhi : Int)
  deriving Repr

/-- `for (i, &v) in dedup_values.iter().enumerate() { … }` followed by
`buffer.push(dedup_values.len())` and the test `buffer.len() <= max_size`. -/
def passLoop (delta : Int) (maxSize : Nat) :
    List Int → Int → Int → Int → List Int → List (List Int) → PassRes
  | [], _, dlo, dhi, cur, done =>
    if done.length + 1 ≤ maxSize then .sol (done ++ [cur]) dlo else .fail dhi
  | v :: t, start, dlo, dhi, cur, done =>
    let gap := v - start
    if gap > delta then
      let dhi' := if gap < dhi then gap else dhi
      let done' := done ++ [cur]
      if done'.length ≥ maxSize then .fail dhi'    -- `break`; the final push makes it too long
      else passLoop delta maxSize t v dlo dhi' [v] done'
    else passLoop delta maxSize t start (if gap > dlo then gap else dlo) dhi (cur ++ [v]) done

/-- The binary search `while lower < upper { … }`; `fuel` bounds the iterations
(`search_fuel`: 64 suffice for 32-bit values). -/
def searchLoop (vals : List Int) (first maxDelta : Int) (maxSize : Nat) :
    Nat → Int → Int → List (List Int) → List (List Int)
  | 0, _, _, sol => sol
  | n + 1, lower, upper, sol =>
    if lower < upper then
      let delta := lower + Int.tdiv (upper - lower) 2
      match passLoop delta maxSize vals first 0 maxDelta [] [] with
      | .sol cls dlo => searchLoop vals first maxDelta maxSize n lower dlo cls
      | .fail dhi => searchLoop vals first maxDelta maxSize n dhi upper sol
    else sol

/-- The final loop: representative `(last + first) / 2` of every interval, computed in `i64`
(no overflow) and converted back with `try_into().expect(…)`; every member mapped to the
1-based class index. `none` = the midpoint is not an `i32` (impossible for `i32` inputs), or an
empty interval (`interval.last().unwrap()`). -/
def emit : List (List Int) → Nat → Option (List Int × List (Int × Nat))
  | [], _ => some ([], [])
  | cls :: rest, idx =>
    match cls.head?, cls.getLast? with
    | some f, some l =>
      match chk (Int.tdiv (l + f) 2), emit rest (idx + 1) with
      | some r, some (reps, m) => some (r :: reps, cls.map (fun v => (v, idx)) ++ m)
      | _, _ => none
    | _, _ => none

/-- The early exit: value `i` (0-based) gets index `i + 1`. -/
def idxFrom : Nat → List Int → List (Int × Nat)
  | _, [] => []
  | k, v :: t => (v, k) :: idxFrom (k + 1) t

/-- `compress(values, max_size)`: the table (first entry `0`) and the value → index map as an
association list sorted by value. -/
def compress (values : List Int) (maxSize : Nat) : Out (List Int × List (Int × Nat)) :=
  let vals := dedupSort values
  if vals.length ≤ maxSize then
    .ok (0 :: vals, idxFrom 1 vals)
  else
    match vals.head?, vals.getLast? with
    | some first, some last =>
      -- since /repo 3d2d8d9 the search runs on `i64` copies: `last - first` cannot overflow
      let maxDelta := last - first
      let sol := searchLoop vals first maxDelta maxSize 64 0 maxDelta [vals]
      match emit sol 1 with
      | some (reps, m) => .ok (0 :: reps, m)
      | none => .panic
    | _, _ => .panic

/-! ### Specification of `compress`: covers by intervals -/

/-- `C` (interval starts) covers `vals` with intervals of length `δ`. -/
def Covers (δ : Int) (C : List Int) (vals : List Int) : Prop :=
  ∀ v ∈ vals, ∃ c ∈ C, c ≤ v ∧ v ≤ c + δ

/-- The starts of the greedy cover of the elements beyond the current reach `r`. -/
def greedyStarts (δ : Int) : Int → List Int → List Int
  | _, [] => []
  | r, v :: t => if v > r then v :: greedyStarts δ (v + δ) t else greedyStarts δ r t

/-- Number of classes the greedy pass needs for tolerance `δ` (sorted input). -/
def greedyCount (δ : Int) (vals : List Int) : Nat :=
  match vals with
  | [] => 0
  | v :: t => 1 + (greedyStarts δ (v + δ) t).length

def lookupIdx (m : List (Int × Nat)) (v : Int) : Option Nat :=
  match m with
  | [] => none
  | (w, i) :: t => if w = v then some i else lookupIdx t v

def absI (x : Int) : Int := if x < 0 then -x else x

/-- The members of class `i`. -/
def members (vals : List Int) (m : List (Int × Nat)) (i : Nat) : List Int :=
  vals.filter (fun v => lookupIdx m v == some i)

def listMax : List Int → Int
  | [] => 0
  | [x] => x
  | x :: t => let y := listMax t; if x < y then y else x
def listMin : List Int → Int
  | [] => 0
  | [x] => x
  | x :: t => let y := listMin t; if y < x then y else x

/-- The tolerance a result actually uses: the largest class diameter. -/
def usedTol (vals : List Int) (m : List (Int × Nat)) (classes : Nat) : Int :=
  listMax (0 :: (List.range (classes + 1)).map (fun i =>
    let ms := members vals m i; listMax ms - listMin ms))

/-- Executable checker of the three clauses on a claimed result (`table`, `m`) for the input
`values` and class limit `maxSize` (used on the *real* output of the Rust code):
`le` at most `maxSize` classes (+ the leading zero); `near` every input value is mapped to a
class `1..classes` whose representative is within half the used tolerance `δ` (rounded up to
the fix_word grid: `2·|v − rep| ≤ δ + δ mod 2`, i.e. exactly half when `δ` is even); `minimal` no smaller tolerance admits `maxSize`
classes (greedy count at `δ − 1`, which is optimal: `greedy_optimal`). -/
def checkCompress (values : List Int) (maxSize : Nat) (table : List Int) (m : List (Int × Nat)) :
    Bool × Bool × Bool :=
  let vals := dedupSort values
  let classes := table.length - 1
  let δ := usedTol vals m classes
  let le := table.head? == some 0 && decide (classes ≤ maxSize)
  let near := vals.all (fun v =>
    match lookupIdx m v with
    | some i => decide (1 ≤ i) && decide (i ≤ classes) &&
        (match table[i]? with
         | some rep => decide (2 * absI (v - rep) ≤ δ + δ % 2)
         | none => false)
    | none => false)
  let minimal := decide (δ = 0) || decide (greedyCount (δ - 1) vals > maxSize)
  (le, near, minimal)

/-- **Specification of `compress`** in the property's words: there is a tolerance `δ ≥ 0` with
(1) the table starts with `0` and has at most `maxSize` further entries (classes);
(2) every input value is mapped to a class `i ≥ 1` whose representative `table[i]` is within
half the tolerance: `2·|v − rep| ≤ δ` when `δ` is even, and `2·|v − rep| ≤ δ + 1` when `δ` is odd
(`δ + δ mod 2`: no integer representative of two values an odd `δ` apart can be within `δ/2` of
both, `no_integer_representative_better`);
(3) `δ` is the smallest possible: no tolerance `0 ≤ δ' < δ` lets *any* `maxSize` intervals of
length `δ'` cover the values. -/
def CompressSpecAt (values : List Int) (maxSize : Nat) (table : List Int) (m : List (Int × Nat))
    (δ : Int) : Prop :=
    (table.head? = some 0 ∧ table.length - 1 ≤ maxSize) ∧
    (∀ v ∈ values, ∃ i rep, lookupIdx m v = some i ∧ 1 ≤ i ∧ table[i]? = some rep ∧
      2 * absI (v - rep) ≤ δ + δ % 2) ∧
    (∀ δ' C, 0 ≤ δ' → δ' < δ → C.length ≤ maxSize → ¬ Covers δ' C values)

def CompressSpec (values : List Int) (maxSize : Nat) (table : List Int) (m : List (Int × Nat)) : Prop :=
  ∃ δ : Int, 0 ≤ δ ∧ CompressSpecAt values maxSize table m δ

/-- The tolerance is attained: two input values exactly `δ` apart share a class (so, when `δ` is
odd, `2|v − rep| ≤ δ` is impossible for that class: `no_integer_representative_better`). -/
def Attained (values : List Int) (m : List (Int × Nat)) (δ : Int) : Prop :=
  δ = 0 ∨ ∃ v ∈ values, ∃ w ∈ values, w - v = δ ∧ lookupIdx m v = lookupIdx m w

/-! ### The allowed numbers of classes

A `char_info_word` of a TFM file (TFtoPL §11, TeX §543–544) has 8 bits for the width index,
4 bits each for the height and depth indices and 6 bits for the italic-correction index, and
entry 0 of every table is reserved for the value zero (`width[0] = height[0] = depth[0] =
italic[0] = 0`). PLtoTF therefore shortens the lists to at most 255 / 15 / 15 / 63 non-zero
classes (PLtoTF "Doing it": `shorten(width, 255)`, `shorten(height, 15)`, `shorten(depth, 15)`,
`shorten(italic, 63)`). These are constants of the specification, not read from the code. -/

/-- `kind`: 0 width, 1 height, 2 depth, 3 italic correction. -/
def tfmLimit : Nat → Nat
  | 0 => 255     -- 2^8 − 1
  | 1 => 15      -- 2^4 − 1
  | 2 => 15      -- 2^4 − 1
  | _ => 63      -- 2^6 − 1

/-- Checker for one dimension table of a TFM file produced from a property list: `charVals` are
the values the characters have in the property list, `table` the table read back from the
serialised file, `idx` the `(value, index read back)` pairs of the characters. Heights, depths
and italic corrections equal to zero are not compressed (index 0); widths always are.
Result: the three clauses of `checkCompress` for the **true** limit `tfmLimit kind`, and
`zeros`: every zero height/depth/italic has index 0. An index that wrapped on serialisation
shows as `near = false` (index 0 or a far representative). -/
def checkTfmTable (kind : Nat) (charVals : List Int) (table : List Int) (idx : List (Int × Nat)) :
    Bool × Bool × Bool × Bool :=
  let vals := if kind = 0 then charVals else charVals.filter (· != 0)
  let r := checkCompress vals (tfmLimit kind) table idx
  let zeros := kind == 0 || charVals.all (fun v => v != 0 || lookupIdx idx v == some 0)
  (r.1, r.2.1, r.2.2, zeros)

/-! ### The index remapping of `impl From<pl::File> for tfm::File` (one dimension) -/

/-- Per-character lookups: widths `*width_to_index.get(&width).expect(…)` (`none` = panic),
heights/depths/italics `….get(&v).copied().map(NonZeroU8::get).unwrap_or(0)`. -/
def lookAll (kind : Nat) (m : List (Int × Nat)) : List Int → Option (List Nat)
  | [] => some []
  | v :: t =>
    match (if kind = 0 then lookupIdx m v else some ((lookupIdx m v).getD 0)), lookAll kind m t with
    | some i, some r => some (i :: r)
    | _, _ => none

/-- One dimension of `tfm::File::from(pl_file)`: `charVals` are the values of the characters (in
character order; `unwrap_or_default()` already applied for widths), the result is the table
written to the TFM file and the index every character gets. Widths are all compressed; zero
heights/depths/italics are left out (`None | Some(FixWord::ZERO) => {}`) and get index 0. The
class limit is the literal at the call site, which must be `tfmLimit kind`. -/
def remapDim (kind : Nat) (charVals : List Int) : Out (List Int × List Nat) :=
  let vals := if kind = 0 then charVals else charVals.filter (· != 0)
  match compress vals (tfmLimit kind) with
  | .panic => .panic
  | .ok (table, m) =>
    match lookAll kind m charVals with
    | some idx => .ok (table, idx)
    | none => .panic

/-! ## Next-larger chains (TFtoPL §84, PLtoTF §110–113) -/

/-- A functional graph: association list `smaller ↦ larger`, first match wins (`nlEdges`
puts later edges first, like `HashMap::insert`). -/
def nxt (g : List (Nat × Nat)) (c : Nat) : Option Nat :=
  match g with
  | [] => none
  | (a, b) :: t => if a = c then some b else nxt t c

/-- The first loop of `new`: `(graph, NonExistentCharacter warnings)`. -/
def nlEdges (exist : Nat → Bool) (dropNE : Bool) :
    List (Nat × Nat) → List (Nat × Nat) → List (Nat × Nat) → List (Nat × Nat) × List (Nat × Nat)
  | [], g, w => (g, w.reverse)
  | (s, l) :: t, g, w =>
    if !exist l then
      if dropNE then nlEdges exist dropNE t g ((s, l) :: w)
      else nlEdges exist dropNE t ((s, l) :: g) ((s, l) :: w)
    else nlEdges exist dropNE t ((s, l) :: g) w

/-- The successors of `c`: up to `fuel` steps along `g`. -/
def orbit (g : List (Nat × Nat)) : Nat → Nat → List Nat
  | 0, _ => []
  | n + 1, c => match nxt g c with
    | none => []
    | some d => d :: orbit g n d

/-- `c` lies on a cycle of `g` and is the largest character of that cycle. -/
def isCut (g : List (Nat × Nat)) (c : Nat) : Bool :=
  let o := orbit g g.length c
  o.contains c && (o.takeWhile (· != c)).all (· ≤ c)

/-- The graph after every cycle has been broken at its largest character. -/
def cutNxt (g : List (Nat × Nat)) (c : Nat) : Option Nat :=
  if isCut g c then none else nxt g c

/-- `get(c)`: follow the cut graph. -/
def chain (g : List (Nat × Nat)) : Nat → Nat → List Nat
  | 0, _ => []
  | n + 1, c => match cutNxt g c with
    | none => []
    | some d => d :: chain g n d

def nlGet (g : List (Nat × Nat)) (c : Nat) : List Nat := chain g (g.length + 1) c

/-- `k` steps along a partial step function (specification vocabulary). -/
def it (s : Nat → Option Nat) : Nat → Nat → Option Nat
  | 0, c => some c
  | k + 1, c => (it s k c).bind s

/-- Every consecutive pair of the list is a link of the step function `s`. -/
def Linked (s : Nat → Option Nat) : List Nat → Prop
  | a :: b :: t => s a = some b ∧ Linked s (b :: t)
  | _ => True


/-- The cut graph as a list, computed once (`nxt_cutList`: `nxt (cutList g) = cutNxt g`). -/
def cutList (g : List (Nat × Nat)) : List (Nat × Nat) := g.filter (fun e => !isCut g e.1)

/-- Follow a list-represented graph. -/
def chainL (cl : List (Nat × Nat)) : Nat → Nat → List Nat
  | 0, _ => []
  | n + 1, c => match nxt cl c with
    | none => []
    | some d => d :: chainL cl n d

/-- `nlGet` with the cut graph precomputed (`nlGetFast_eq`); what the driver evaluates. -/
def nlGetFast (g cl : List (Nat × Nat)) (c : Nat) : List Nat := chainL cl (g.length + 1) c

/-- `InfiniteLoop` warnings: `(original, next_larger)` for every cut, ascending. -/
def nlLoops (g : List (Nat × Nat)) (maxChar : Nat) : List (Nat × Nat) :=
  (List.range (maxChar + 1)).filterMap (fun c =>
    if isCut g c then (nxt g c).map (fun d => (c, d)) else none)

end C17
