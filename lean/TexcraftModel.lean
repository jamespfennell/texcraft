-- Root of the library: importing this builds every model, lemma file and property file.
import TexcraftModel.Props.C01
import TexcraftModel.Props.C02
import TexcraftModel.Props.C03
import TexcraftModel.Props.C04
import TexcraftModel.Props.C05
import TexcraftModel.Props.C06
import TexcraftModel.Props.C07
import TexcraftModel.Props.C08
import TexcraftModel.Props.C09
import TexcraftModel.Props.C10
import TexcraftModel.Props.C11
import TexcraftModel.Props.C12
import TexcraftModel.Props.C13
import TexcraftModel.Props.C14
import TexcraftModel.Props.C15
import TexcraftModel.Props.C16
import TexcraftModel.Props.C17
import TexcraftModel.Props.C18
import TexcraftModel.Props.C19
import TexcraftModel.Props.C20
import TexcraftModel.Util.Assoc
import TexcraftModel.Util.Proto
